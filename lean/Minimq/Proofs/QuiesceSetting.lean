import Minimq.Proofs.RequestWire
import Minimq.Proofs.QuiesceFinal
/-
Bounded quiescence (C16, liveness half) — the setting of the closed loop with the hypotheses that
follow from reachability taken out.

* `clean`, `ctlCap`, `small` hold of every world a program produced, `maxq` of those whose handle is live
  (`Proofs/QuiesceInv.lean`).
* `quotaEq` holds on a live handle with `deficit` clear (`Produced.bal`, `Proofs/QuiesceInv.lean`): `Setting''`.
* `kinds` holds of the worlds produced by programs that publish with QoS 0, 1, 2 only (`ProducedQ.kinds`); for
  other programs it can fail, and it stays a hypothesis of `Setting'`.

`KnownKinds` (every retained packet is a QoS 1 / QoS 2 PUBLISH, a SUBSCRIBE or an UNSUBSCRIBE) is NOT an
invariant of every world a program produces: `PubReq.qos` is a natural number, and `publish` with `qos = 3`
retains a packet with first byte `0x36`, which no acknowledgement matches (see `Theorems/C16Setting.lean`).
It is an invariant of the programs whose `publish` directives ask for QoS 0, 1 or 2 — the values of the
Rust `QoS` enum, and the only ones the directive parser lets through: the three encoders that retain
produce the headers `0x32 … 0x35`, `0x82`, `0xA2`; `compact` and `encode` keep the bytes of retained
packets; `arm_replay` only sets the DUP bit, which the acknowledgement matching ignores.
-/
namespace Minimq
open Gen World Fuel Outbound
namespace Quiesce

/-- First byte of a QoS 1 / QoS 2 PUBLISH, a SUBSCRIBE or an UNSUBSCRIBE. -/
def known (h : Nat) : Bool :=
  AckKind.pubAck.acknowledges h || AckKind.pubRec.acknowledges h || AckKind.subAck.acknowledges h ||
    AckKind.unsubAck.acknowledges h

theorem ansHeader_isSome (h id : Nat) : (ansHeader h id).isSome = known h := by
  unfold ansHeader known
  cases AckKind.pubAck.acknowledges h <;> cases AckKind.pubRec.acknowledges h <;>
    cases AckKind.subAck.acknowledges h <;> cases AckKind.unsubAck.acknowledges h <;> rfl

def QK (bs : Bytes) : Prop := known (hd bs) = true

theorem knownKinds_iff (o : Outbound) : KnownKinds o ↔ (qv o).Kinds fun bs _ => QK bs := by
  simp only [KnownKinds, QV.Kinds, qv, QK, ansHeader_isSome]

/-- The DUP bit is bit 3 of the first byte; the kinds are told apart by bits 7–4 and 2–1. Checked on the 256
byte values. -/
theorem known_dup (x : UInt8) : known (dupByte x).toNat = known x.toNat := by
  have : ∀ n : Fin 256, known (dupByte ⟨⟨n⟩⟩).toNat = known n := by decide +kernel
  exact this x.toBitVec.toFin

theorem QK_setDup (bs : Bytes) (h : QK bs) : QK (setDup bs) := by
  cases bs with
  | nil => exact h
  | cons x r =>
    show known (dupByte x).toNat = true
    rw [known_dup]; exact h

theorem QK_of_hdr {pkt : Bytes} {n : Nat} (h : ∃ rest, pkt = b n :: rest) (hk : known (n % 256) = true) : QK pkt := by
  obtain ⟨rest, rfl⟩ := h
  show known (b n).toNat = true
  rw [b_toNat]; exact hk

theorem EncAll_encodeWithOffset (cs : List (Except SerErr Bytes)) (typ flags : Nat) (hk : known ((typ * 16 + flags % 16) % 256) = true) :
    EncAll QK (fun cap (_ : Nat → Nat → Bytes) => encodeWithOffset cap cs typ flags) :=
  fun _ _ _ _ _ h => (encodeWithOffset_ok h).elim fun _ e => QK_of_hdr ⟨_, e.2.1.pkt_eq⟩ hk

theorem EncAll_publish (hd : PublishHeader) (payload : Payload) (hq : hd.qos = 1 ∨ hd.qos = 2) (hdup : hd.dup = false) :
    EncAll QK (fun cap fill => encodePublishWithOffset cap hd payload fill) := by
  intro cap view off pkt _ h
  obtain ⟨_, _, _, _, e, _⟩ := encodePublish_ok h
  refine QK_of_hdr ⟨_, e.pkt_eq⟩ ?_
  unfold PublishHeader.flags
  rw [hdup]
  rcases hq with hq | hq <;> rw [hq] <;> cases hd.retain <;> decide

/-- The request asks for a QoS of the protocol (the Rust `QoS` enum has no other values). -/
def QosOK : AfterFlush → Prop
  | .publishPre r => r.qos ≤ 2
  | _ => True

def QosProgram (ds : List Directive) : Prop := ∀ r, Directive.publish r ∈ ds → r.qos ≤ 2

theorem dirGood_of_qosProgram {ds : List Directive} (h : QosProgram ds) : ∀ d ∈ ds, DirGood QosOK d := by
  intro d hd
  cases d with
  | publish r => exact h r hd
  | _ => exact True.intro

/-- `Setting` without the four hypotheses that hold of every world a program produced (`clean`, `ctlCap`, `small`;
`maxq` given `live`). -/
structure Setting' (w : World) : Prop where
  live : w.live = true
  slot : w.slot = none
  calm : KaCalm w.sess.rt w.now
  noPing : ∀ e ∈ w.sess.data.outbound.control, e.action.typ ≠ MT_PingReq
  fits : Fits w.sess
  deficit : w.sess.rt.deficit = false
  quotaEq : w.sess.rt.sendQuota + w.sess.data.outbound.inflightPublishes = w.sess.rt.maxSendQuota
  kinds : KnownKinds w.sess.data.outbound
  cap : 6 ≤ w.sess.reader.cap
  rdData : w.sess.reader.data = []
  rdLen : w.sess.reader.packetLength = none
  sync : ∃ as, w.curNet.rx = enc as ∧ as.Perm (expected w.sess.data.outbound)

theorem setting_of (w : World) (hp : Produced w) (h : Setting' w) : Setting w :=
  ⟨h.live, h.slot, h.calm, hp.ctl.clean, h.noPing, hp.ctl.cap, h.fits, hp.small, h.deficit,
    (hp.bal h.live).1, h.quotaEq, h.kinds, h.cap, h.rdData, h.rdLen, h.sync⟩

theorem Setting.reduce {w : World} (h : Setting w) : Setting' w :=
  ⟨h.live, h.slot, h.calm, h.noPing, h.fits, h.deficit, h.quotaEq, h.kinds, h.cap, h.rdData, h.rdLen, h.sync⟩

def ProducedQ (W : World) : Prop :=
  ∃ cfg ds, QosProgram ds ∧ W = List.foldl World.execDirective { sess := Session.new cfg } ds

theorem ProducedQ.produced {W : World} (h : ProducedQ W) : Produced W := by
  obtain ⟨cfg, ds, _, rfl⟩ := h
  exact ⟨cfg, ds, rfl⟩

theorem ProducedQ.run {W : World} (h : ProducedQ W) (ds : List Directive) (hq : QosProgram ds) :
    ProducedQ (ds.foldl World.execDirective W) := by
  obtain ⟨cfg, ds0, h0, rfl⟩ := h
  refine ⟨cfg, ds0 ++ ds, ?_, by rw [List.foldl_append]⟩
  intro r hr
  rcases List.mem_append.mp hr with hr | hr
  · exact h0 r hr
  · exact hq r hr

/-- `connect`, a delivery and decisions are not publishes. -/
theorem ProducedQ.reconnect {W : World} (h : ProducedQ W) (bytes : Bytes) (ks : List Nat) :
    ProducedQ (runDs ks ((W.execDirective .connect).execDirective (.rx bytes))) := by
  have h1 : ProducedQ ((W.execDirective .connect).execDirective (.rx bytes)) := by
    simpa only [List.foldl_cons, List.foldl_nil] using h.run [.connect, .rx bytes] (by intro r hr; simp at hr)
  exact h1.run (ks.map Directive.d) (by intro r hr; simp at hr)

theorem ProducedQ.kinds {W : World} (h : ProducedQ W) : KnownKinds W.sess.data.outbound := by
  obtain ⟨cfg, ds, hq, rfl⟩ := h
  exact (knownKinds_iff _).2 <| run_view (A := QosOK) (K := QK)
    (fun _ _ _ => EncAll_encodeWithOffset _ _ _ (by decide)) (fun _ _ _ => EncAll_encodeWithOffset _ _ _ (by decide))
    (fun r _ qos m d hA hq hpos => EncAll_publish _ _
      (by have := effectiveQos_le m d r.qos; have : r.qos ≤ 2 := hA; show qos = 1 ∨ qos = 2; omega) rfl)
    (fun _ _ => trivial) (fun _ _ _ st => st.kinds (fun _ _ h => h) fun bs _ => QK_setDup bs) ds
    (dirGood_of_qosProgram hq) cfg fun _ h => nomatch h

/-- `Setting'` without `kinds`: the setting for a world produced by a program that publishes with QoS 0, 1,
2 only. -/
structure SettingQ (w : World) : Prop where
  live : w.live = true
  slot : w.slot = none
  calm : KaCalm w.sess.rt w.now
  noPing : ∀ e ∈ w.sess.data.outbound.control, e.action.typ ≠ MT_PingReq
  fits : Fits w.sess
  deficit : w.sess.rt.deficit = false
  quotaEq : w.sess.rt.sendQuota + w.sess.data.outbound.inflightPublishes = w.sess.rt.maxSendQuota
  cap : 6 ≤ w.sess.reader.cap
  rdData : w.sess.reader.data = []
  rdLen : w.sess.reader.packetLength = none
  sync : ∃ as, w.curNet.rx = enc as ∧ as.Perm (expected w.sess.data.outbound)

theorem Setting'.dropKinds {w : World} (h : Setting' w) : SettingQ w :=
  ⟨h.live, h.slot, h.calm, h.noPing, h.fits, h.deficit, h.quotaEq, h.cap, h.rdData, h.rdLen, h.sync⟩

theorem setting_of_qos (w : World) (hp : ProducedQ w) (h : SettingQ w) : Setting w :=
  setting_of w hp.produced
    ⟨h.live, h.slot, h.calm, h.noPing, h.fits, h.deficit, h.quotaEq, hp.kinds, h.cap, h.rdData, h.rdLen, h.sync⟩

/-- `Setting'` without `quotaEq`: it follows from `live` and `deficit` for a world a program produced. -/
structure Setting'' (w : World) : Prop where
  live : w.live = true
  slot : w.slot = none
  calm : KaCalm w.sess.rt w.now
  noPing : ∀ e ∈ w.sess.data.outbound.control, e.action.typ ≠ MT_PingReq
  fits : Fits w.sess
  deficit : w.sess.rt.deficit = false
  kinds : KnownKinds w.sess.data.outbound
  cap : 6 ≤ w.sess.reader.cap
  rdData : w.sess.reader.data = []
  rdLen : w.sess.reader.packetLength = none
  sync : ∃ as, w.curNet.rx = enc as ∧ as.Perm (expected w.sess.data.outbound)

theorem setting'_of (w : World) (hp : Produced w) (h : Setting'' w) : Setting' w :=
  ⟨h.live, h.slot, h.calm, h.noPing, h.fits, h.deficit, (hp.bal h.live).2 h.deficit, h.kinds, h.cap, h.rdData,
    h.rdLen, h.sync⟩

theorem Setting'.dropQuota {w : World} (h : Setting' w) : Setting'' w :=
  ⟨h.live, h.slot, h.calm, h.noPing, h.fits, h.deficit, h.kinds, h.cap, h.rdData, h.rdLen, h.sync⟩

/-- `SettingQ` without `quotaEq`. -/
structure SettingQ' (w : World) : Prop where
  live : w.live = true
  slot : w.slot = none
  calm : KaCalm w.sess.rt w.now
  noPing : ∀ e ∈ w.sess.data.outbound.control, e.action.typ ≠ MT_PingReq
  fits : Fits w.sess
  deficit : w.sess.rt.deficit = false
  cap : 6 ≤ w.sess.reader.cap
  rdData : w.sess.reader.data = []
  rdLen : w.sess.reader.packetLength = none
  sync : ∃ as, w.curNet.rx = enc as ∧ as.Perm (expected w.sess.data.outbound)

theorem settingQ_of (w : World) (hp : Produced w) (h : SettingQ' w) : SettingQ w :=
  ⟨h.live, h.slot, h.calm, h.noPing, h.fits, h.deficit, (hp.bal h.live).2 h.deficit, h.cap, h.rdData, h.rdLen, h.sync⟩

theorem SettingQ.dropQuota {w : World} (h : SettingQ w) : SettingQ' w :=
  ⟨h.live, h.slot, h.calm, h.noPing, h.fits, h.deficit, h.cap, h.rdData, h.rdLen, h.sync⟩

end Quiesce
end Minimq
