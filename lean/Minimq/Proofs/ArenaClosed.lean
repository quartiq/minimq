import Minimq.Proofs.OutOps
/-
The arena invariant and the stability of retained bytes are preserved by every session primitive
(`closed_ArenaP`, `closed_arena`); that they hold after every program is drawn from that in
`Theorems/C17.lean` (`C17_all_programs_from`).
-/
namespace Minimq
open Gen World Outbound

def unDupByte (x : UInt8) : UInt8 := b (x.toNat / 16 * 16 + x.toNat % 8)

/-- A packet with bit 3 of its first byte cleared. -/
def unDup : Bytes → Bytes
  | [] => []
  | x :: r => unDupByte x :: r

theorem unDup_setDup (l : Bytes) : unDup (setDup l) = unDup l := by
  cases l with
  | nil => rfl
  | cons x r =>
    obtain ⟨h1, h2⟩ := dupByte_parts x
    show b (_ / 16 * 16 + _ % 8) :: r = b (_ / 16 * 16 + _ % 8) :: r
    rw [h1, h2]

/-- Serial, identifier and DUP-masked bytes of every retained packet, oldest first. -/
def Outbound.tagged (o : Outbound) : List ((Nat × Nat) × Bytes) :=
  o.retained.map fun e => ((e.ser, e.id), unDup (slice o.buf e.offset e.len))

/-- Serial numbers identify retained packets: they increase along the list and are below the counter. -/
structure Outbound.SerInv (o : Outbound) : Prop where
  inc : (o.retained.map (·.ser)).Pairwise (· < ·)
  lt : ∀ x ∈ o.retained, x.ser < o.nextSer

theorem ser_inj {o : Outbound} (h : o.SerInv) {e1 e2 : RetainedPacket} (h1 : e1 ∈ o.retained) (h2 : e2 ∈ o.retained)
    (he : e1.ser = e2.ser) : e1 = e2 := pairwise_lt_inj _ h.inc h1 h2 he

/-- From `a` to `b` no retained packet was altered: every packet of `b` that already existed at `a`
(its serial is below `a`'s counter) is in `a` with the same serial, the same identifier and the same
bytes up to the DUP bit — and these packets are still in the same order. -/
def Keeps (a b : Outbound) : Prop :=
  a.nextSer ≤ b.nextSer ∧ (b.tagged.filter (fun t => decide (t.1.1 < a.nextSer))).Sublist a.tagged

theorem Keeps.refl (a : Outbound) : Keeps a a := ⟨Nat.le_refl _, List.filter_sublist⟩

theorem Keeps.trans {a b c : Outbound} (h1 : Keeps a b) (h2 : Keeps b c) : Keeps a c := by
  obtain ⟨n1, s1⟩ := h1
  obtain ⟨n2, s2⟩ := h2
  refine ⟨Nat.le_trans n1 n2, ?_⟩
  have hf : c.tagged.filter (fun t => decide (t.1.1 < a.nextSer)) =
      (c.tagged.filter (fun t => decide (t.1.1 < b.nextSer))).filter (fun t => decide (t.1.1 < a.nextSer)) := by
    rw [List.filter_filter]
    apply List.filter_congr
    intro t _
    by_cases h : t.1.1 < a.nextSer
    · have : t.1.1 < b.nextSer := by omega
      simp [h, this]
    · simp [h]
  rw [hf]
  exact (s2.filter _).trans s1

theorem Keeps.of_sublist {a b : Outbound} (hn : a.nextSer ≤ b.nextSer) (h : b.tagged.Sublist a.tagged) : Keeps a b :=
  ⟨hn, List.filter_sublist.trans h⟩

theorem Keeps.of_eq {a b : Outbound} (hn : b.nextSer = a.nextSer) (h : b.tagged = a.tagged) : Keeps a b :=
  Keeps.of_sublist (by omega) (by rw [h]; exact List.Sublist.refl _)

theorem tagged_eq_zip (o : Outbound) :
    o.tagged = (o.retained.map (fun e => (e.ser, e.id))).zip (o.contents.map unDup) := by
  simp only [Outbound.tagged, Outbound.contents, contents, List.map_map, List.zip_map']
  rfl

theorem tagged_congr {o o' : Outbound}
    (hid : o'.retained.map (fun e => (e.ser, e.id)) = o.retained.map (fun e => (e.ser, e.id)))
    (hc : o'.contents.map unDup = o.contents.map unDup) : o'.tagged = o.tagged := by
  rw [tagged_eq_zip, tagged_eq_zip, hid, hc]

theorem tags_meta (o : Outbound) :
    o.retained.map (fun e => (e.ser, e.id)) = o.meta.map (fun (t : Nat × Nat × SendState × Nat) => (t.2.2.2, t.1)) := by
  simp only [Outbound.meta, List.map_map, Function.comp_def]

theorem tags_of_meta {o o' : Outbound} (h : o'.meta = o.meta) :
    o'.retained.map (fun e => (e.ser, e.id)) = o.retained.map (fun e => (e.ser, e.id)) := by
  rw [tags_meta, tags_meta, h]

theorem sers_tagged (o : Outbound) : o.retained.map (·.ser) = o.tagged.map (·.1.1) := by
  simp only [Outbound.tagged, List.map_map, Function.comp_def]

/-- A step of the arena: keeps the layout invariant, the serial numbering and the retained packets. -/
def OStep (a b : Outbound) : Prop :=
  a.ArenaInv ∧ a.SerInv → (b.ArenaInv ∧ b.SerInv) ∧ Keeps a b ∧ b.buf.length = a.buf.length

theorem OStep.refl (a : Outbound) : OStep a a := fun h => ⟨h, Keeps.refl a, rfl⟩

theorem OStep.trans {a b c : Outbound} (h1 : OStep a b) (h2 : OStep b c) : OStep a c := by
  intro h
  obtain ⟨i1, k1, l1⟩ := h1 h
  obtain ⟨i2, k2, l2⟩ := h2 i1
  exact ⟨i2, k1.trans k2, by omega⟩

/-- One of the two shapes of a step: retained packets are removed, the others tagged as before. -/
theorem OStep.of_sublist {a b : Outbound} (h : a.ArenaInv → b.ArenaInv ∧ b.buf.length = a.buf.length ∧
    b.nextSer = a.nextSer ∧ b.tagged.Sublist a.tagged) : OStep a b := by
  intro ⟨ha, hser⟩
  obtain ⟨hi, hl, hn, hs⟩ := h ha
  have hsers : (b.retained.map (·.ser)).Sublist (a.retained.map (·.ser)) := by
    rw [sers_tagged, sers_tagged]; exact hs.map _
  refine ⟨⟨hi, hser.inc.sublist hsers, fun x hx => ?_⟩, Keeps.of_sublist (by omega) hs, hl⟩
  obtain ⟨y, hy, he⟩ := List.mem_map.mp (hsers.subset (List.mem_map.mpr ⟨x, hx, rfl⟩))
  have := hser.lt y hy
  omega

/-- The other shape of a step: one packet is appended, under the next serial. -/
theorem OStep.of_append {a b : Outbound} {id : Nat} {bs : Bytes} (h : a.ArenaInv → b.ArenaInv ∧
    b.buf.length = a.buf.length ∧ b.nextSer = a.nextSer + 1 ∧ b.tagged = a.tagged ++ [((a.nextSer, id), bs)]) :
    OStep a b := by
  intro ⟨ha, hser⟩
  obtain ⟨hi, hl, hn, ht⟩ := h ha
  have hsers : b.retained.map (·.ser) = a.retained.map (·.ser) ++ [a.nextSer] := by
    rw [sers_tagged, sers_tagged, ht, List.map_append]; rfl
  have hlt : ∀ x ∈ a.retained.map (·.ser), x < a.nextSer := fun x hx => by
    obtain ⟨y, hy, rfl⟩ := List.mem_map.mp hx; exact hser.lt y hy
  refine ⟨⟨hi, ?_, fun x hx => ?_⟩, ⟨by omega, ?_⟩, hl⟩
  · rw [hsers, List.pairwise_append]
    exact ⟨hser.inc, by simp, fun x hx y hy => by rw [List.mem_singleton.mp hy]; exact hlt x hx⟩
  · have : x.ser ∈ b.retained.map (·.ser) := List.mem_map.mpr ⟨x, hx, rfl⟩
    rw [hsers, List.mem_append, List.mem_singleton] at this
    rcases this with hm | hm
    · have := hlt _ hm; omega
    · omega
  · rw [ht, List.filter_append, List.filter_cons_of_neg (by simp), List.filter_nil, List.append_nil]
    exact List.filter_sublist

theorem OStep.same {a b : Outbound} (hb : b.buf = a.buf) (hu : b.used = a.used) (hn : b.nextSer = a.nextSer)
    (hl : b.retained.map (fun e => (e.ser, e.id, e.offset, e.len)) = a.retained.map (fun e => (e.ser, e.id, e.offset, e.len))) :
    OStep a b := by
  refine .of_sublist fun h => ⟨ArenaInv_of_layout h ?_ (by rw [hb]) hu, by rw [hb], hn, ?_⟩
  · simpa only [layout, List.map_map, Function.comp_def] using
      congrArg (List.map (fun (t : Nat × Nat × Nat × Nat) => t.2.2)) hl
  · have := congrArg (List.map (fun (t : Nat × Nat × Nat × Nat) => ((t.1, t.2.1), unDup (slice a.buf t.2.2.1 t.2.2.2)))) hl
    simp only [List.map_map, Function.comp_def] at this
    simp only [Outbound.tagged, hb]
    rw [this]; exact .refl _

theorem OStep.ackPacket (o : Outbound) (id : Nat) (k : AckKind) : OStep o (o.ackPacket id k).1 := by
  refine .of_sublist fun h => ?_
  obtain ⟨hi, ht, hf, hn, hlen⟩ := ackPacket_spec o id k h
  refine ⟨hi, hlen, hn, ?_⟩
  cases hfound : (o.ackPacket id k).2 with
  | false => rw [hf hfound]; exact .refl _
  | true =>
    obtain ⟨hc, hm⟩ := ht hfound
    rw [tagged_eq_zip, tags_meta, hc, hm, Minimq.contents, List.map_map, List.map_map, List.zip_map']
    exact (removeFirst_sublist _ _).map _

theorem OStep.encodeAt {ε : Type} (o : Outbound) (enc : Nat → (Nat → Nat → Bytes) → Except ε (Nat × Bytes))
    (he : EncOk enc) : OStep o (o.encodeAt enc).1 := by
  refine .of_sublist fun h => ?_
  obtain ⟨hi, hc, hm, _, hbl, _, _, hn, _⟩ := encodeAt_spec o enc h he
  exact ⟨hi, hbl, hn, by rw [tagged_congr (tags_of_meta hm) (by rw [hc])]; exact .refl _⟩

theorem OStep.armReplay (o : Outbound) : OStep o o.armReplay := by
  refine .of_sublist fun h => ?_
  obtain ⟨hi, hc, hm, _, hbl, hn⟩ := armReplay_spec o h
  refine ⟨hi, hbl, hn, ?_⟩
  rcases hc with hc | ⟨he, _⟩
  · have htags : o.armReplay.retained.map (fun e => (e.ser, e.id)) = o.retained.map (fun e => (e.ser, e.id)) := by
      simpa only [List.map_map, Function.comp_def] using congrArg (List.map (fun (t : Nat × Nat × Nat) => (t.2.2, t.1))) hm
    rw [tagged_congr htags (by rw [hc, List.map_map]; exact List.map_congr_left fun l _ => unDup_setDup l)]
    exact .refl _
  · rw [he]; exact .refl _

theorem OStep.dropPingreq (o : Outbound) : OStep o o.dropPingreq := OStep.same rfl rfl rfl rfl

theorem OStep.rearm (o : Outbound) : OStep o o.rearm := (OStep.dropPingreq o).trans (OStep.armReplay _)

theorem OStep.clear (o : Outbound) : OStep o o.clear :=
  .of_sublist fun _ => ⟨ArenaInv_clear o, rfl, rfl, by simp [Outbound.tagged, Outbound.clear]⟩

theorem OStep.queueControl {o o' : Outbound} {a : ControlAction} (h : o.queueControl a = some o') : OStep o o' := by
  obtain ⟨_, rfl⟩ := queueControl_some h
  exact OStep.same rfl rfl rfl rfl

theorem OStep.queueRelease {o o' : Outbound} {id rc ps : Nat} (h : o.queueRelease id rc ps = some o') : OStep o o' := by
  obtain ⟨_, rfl⟩ := queueRelease_some h
  exact OStep.same rfl rfl rfl rfl

theorem OStep.ackRelease (o : Outbound) (id : Nat) : OStep o (o.ackRelease id).1 := by
  unfold Outbound.ackRelease
  split
  · exact OStep.same rfl rfl rfl rfl
  · exact OStep.refl o

theorem OStep.retain {ε : Type} (o o' : Outbound) (enc : Nat → (Nat → Nat → Bytes) → Except ε (Nat × Bytes))
    (he : EncOk enc) (id off len : Nat) (hres : (o.encodeAt enc).2 = .ok (off, len))
    (hr : (o.encodeAt enc).1.retainPacket id off len = some o') : OStep o o' := by
  refine .of_append (id := id) (bs := unDup (slice (o.encodeAt enc).1.buf off len)) fun h => ?_
  obtain ⟨hi, hc, hm, _, hbl, _, _, hn, hpos⟩ := encodeAt_spec o enc h he
  obtain ⟨p1, p2, p3⟩ := hpos off len hres
  obtain ⟨ri, rc, rm, rb, _, _, rn⟩ := retainPacket_spec _ o' id off len hi p1 (by rw [hbl]; exact p2) p3 hr
  refine ⟨ri, by rw [rb, hbl], by rw [rn, hn], ?_⟩
  rw [tagged_eq_zip, tags_meta, rm, rc, List.map_append, List.map_append, List.zip_append (by simp [Outbound.contents, contents, Outbound.meta]),
    ← tags_meta, ← tagged_eq_zip, tagged_congr (tags_of_meta hm) (by rw [hc]), hn]
  rfl

theorem StatesOnly.OStep {a b : Outbound} (h : StatesOnly a b) : OStep a b :=
  OStep.same h.buf h.used h.nextSer h.retained

theorem OutChange.ostep {a b : Outbound} (h : OutChange a b) : OStep a b := by
  cases h with
  | refl => exact .refl _
  | setWritten _ pkt a c => exact (Outbound.setWritten_states _ pkt a c).OStep
  | completeFlush _ pkt => exact (Outbound.completeFlush_states _ pkt).OStep
  | queueControl h => exact .queueControl h
  | rearm => exact .rearm _
  | encodeAt _ enc he => exact .encodeAt _ enc he
  | retain _ _ enc he id off len hres hr => exact .retain _ _ enc he id off len hres hr

theorem OutOp.ostep {a b : Outbound} (h : OutOp a b) : OStep a b := by
  cases h with
  | quiet h => exact h.ostep
  | ackPacket id k => exact .ackPacket _ id k
  | queueRelease h => exact .queueRelease h
  | ackRelease id => exact .ackRelease _ id
  | clear => exact .clear _

theorem OutOps.ostep {a b : Outbound} (h : OutOps a b) : OStep a b := h.lift OStep.refl OStep.trans OutOp.ostep

/-- The invariant lifted to all executions: the arena is laid out sanely and, relative to a fixed
earlier arena `o0`, retained packets were only removed or appended. -/
def ArenaP (o0 : Outbound) (s : Session) : Prop :=
  (s.data.outbound.ArenaInv ∧ s.data.outbound.SerInv) ∧ Keeps o0 s.data.outbound ∧
  s.data.outbound.buf.length = o0.buf.length

theorem ArenaP.step {o0 : Outbound} {s s' : Session} (h : ArenaP o0 s) (hs : OStep s.data.outbound s'.data.outbound) :
    ArenaP o0 s' := by
  obtain ⟨i, k, l⟩ := hs h.1
  exact ⟨i, h.2.1.trans k, by rw [l]; exact h.2.2⟩

theorem closed_ArenaP (o0 : Outbound) : Closed (ArenaP o0) :=
  (closed_iff_prim _).2 fun _ _ p h => h.step p.out.ostep

theorem SerInv_new (cap : Nat) : (Outbound.new cap).SerInv := ⟨.nil, nofun⟩

theorem arena_init (cfg : Cfg) :
    (Session.new cfg).data.outbound.ArenaInv ∧ (Session.new cfg).data.outbound.SerInv :=
  ⟨ArenaInv_new cfg.tx, SerInv_new cfg.tx⟩

/-- Of what an `OStep` gives from the invariant (the invariant again, `Keeps`, the buffer length) only the first
is kept. -/
theorem closed_arena : Closed (fun s => s.data.outbound.ArenaInv ∧ s.data.outbound.SerInv) :=
  Closed.of_out fun st h => (st.ostep h).1

end Minimq
