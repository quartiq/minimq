import Minimq.Directive
import Minimq.Proofs.Logic
/-
What every "after every program" statement rests on: a program is a left fold of `World.execDirective`
(of `World.exec` for the lines of a program text), so what every directive keeps holds at the end
(`program_ind`; `program_ind₂` for two runs side by side, `lines_ind` for texts), a `Produced` world has
what every new session has and every directive keeps (`Produced.ind`), and the trace of a program text is
one of three things (`runProgram_cases`).
-/
namespace Minimq
open World

theorem program_ind_mem {P : World → Prop} (ds : List Directive) (step : ∀ w, ∀ d ∈ ds, P w → P (w.execDirective d))
    {w : World} (h : P w) : P (ds.foldl World.execDirective w) :=
  List.foldlRecOn ds _ h fun w hw d hd => step w d hd hw

theorem program_ind {P : World → Prop} (step : ∀ w d, P w → P (w.execDirective d)) (ds : List Directive) {w : World}
    (h : P w) : P (ds.foldl World.execDirective w) :=
  program_ind_mem ds (fun w d _ => step w d) h

theorem program_ind₂ {R : World → World → Prop} (step : ∀ a b d, R a b → R (a.execDirective d) (b.execDirective d))
    (ds : List Directive) {a b : World} (h : R a b) :
    R (ds.foldl World.execDirective a) (ds.foldl World.execDirective b) := by
  induction ds generalizing a b with
  | nil => exact h
  | cons d ds ih => exact ih (step a b d h)

/-- Each line is parsed, executed, and followed by the state lines. -/
theorem lines_ind {P : World → Prop} (step : ∀ w d, P w → P (w.execDirective d)) (state : ∀ w, P w → P w.emitState)
    (ls : List String) {w : World} (h : P w) : P (ls.foldl World.exec w) :=
  List.foldlRecOn ls _ h fun w hw l _ => state _ (step w (parseDirective l) hw)

def Quiesce.Produced (W : World) : Prop := ∃ cfg ds, W = List.foldl World.execDirective { sess := Session.new cfg } ds

theorem Quiesce.produced (cfg : Cfg) (ds : List Directive) :
    Produced (ds.foldl World.execDirective { sess := Session.new cfg }) :=
  ⟨cfg, ds, rfl⟩

theorem Quiesce.Produced.ind {P : World → Prop} (init : ∀ cfg, P { sess := Session.new cfg })
    (step : ∀ w d, P w → P (w.execDirective d)) {W : World} (h : Produced W) : P W := by
  obtain ⟨cfg, ds, rfl⟩ := h
  exact program_ind step ds (init cfg)

theorem Quiesce.Produced.run {W : World} (h : Produced W) (ds : List Directive) :
    Produced (ds.foldl World.execDirective W) := by
  obtain ⟨cfg, ds0, rfl⟩ := h
  exact ⟨cfg, ds0 ++ ds, (List.foldl_append ..).symm⟩

theorem Quiesce.Produced.exec {W : World} (h : Produced W) (d : Directive) : Produced (W.execDirective d) :=
  h.run [d]

theorem runProgram_cases (text : String) :
    runProgram text = ["bad-cfg"] ∨ runProgram text = ["cfgerr InvalidConfig"] ∨
    ∃ (cfg : Cfg) (ls : List String), (∀ l ∈ ls, l ∈ text.splitOn "\n") ∧
      runProgram text = (ls.foldl World.exec { sess := Session.new cfg }).out.reverse := by
  unfold runProgram
  simp only []
  split
  · exact .inl rfl
  · rename_i hd rest heq
    have hrest : ∀ l ∈ rest, l ∈ text.splitOn "\n" := fun l hl =>
      (List.mem_filter.mp (heq ▸ List.mem_cons_of_mem _ hl :
        l ∈ (text.splitOn "\n").filter (fun l => !isComment l))).1
    split
    · exact .inl rfl
    · exact ite_ind (P := fun t => t = ["bad-cfg"] ∨ t = ["cfgerr InvalidConfig"] ∨ ∃ (cfg : Cfg) (ls : List String),
          (∀ l ∈ ls, l ∈ text.splitOn "\n") ∧ t = (ls.foldl World.exec { sess := Session.new cfg }).out.reverse)
        (fun _ => .inr (.inl rfl)) (fun _ => .inr (.inr ⟨_, rest, hrest, rfl⟩))

theorem runProgram_lines {Q : String → Prop} (text : String) (hb : Q "bad-cfg") (hc : Q "cfgerr InvalidConfig")
    (h : ∀ (cfg : Cfg) (ls : List String), (∀ l ∈ ls, l ∈ text.splitOn "\n") →
      ∀ l ∈ (ls.foldl World.exec { sess := Session.new cfg }).out, Q l) :
    ∀ l ∈ runProgram text, Q l := by
  rcases runProgram_cases text with e | e | ⟨cfg, ls, hls, e⟩ <;> rw [e]
  · intro l hl; cases List.mem_singleton.mp hl; exact hb
  · intro l hl; cases List.mem_singleton.mp hl; exact hc
  · intro l hl; exact h cfg ls hls l (List.mem_reverse.mp hl)

end Minimq
