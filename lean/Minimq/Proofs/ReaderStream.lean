import Minimq.Reader
import Minimq.Out
import Minimq.Proofs.Varint
/-
C15, reader side: the packets the receive path hands to the decoder do not depend on how the
transport cuts the inbound byte stream into `read()` results. `readLoop sched r stream` is the loop of
`read_packet` on the reader alone (the `Session.window` / `commit` / `takePkt` calls of `doWaitRead` /
`doConnRead` in `Ops.lean`, without the machine around them), the transport's choices given by `sched`;
`frames cap stream` is a schedule-free specification: cut the stream into MQTT packets by their fixed
header, and say where a reader with a `cap`-byte buffer has to give up. The loop computes `frames`,
whatever the schedule (`readLoop_eq_frames`). The reads of the machine itself (`Proofs/ReadMachine.lean`)
rest on `frame1` and the `receiveWindow_*` / `takePacket_*` lemmas here, not on `readLoop`.

The write half of C15 is here as well: `clampWrite`, `stepWrites` (the `write` await of
`perform_outbound_step` iterated over the transport's acceptances) and `localWrites` (the same for an
operation-local buffer), with the statements that, whatever the acceptances, the accepted chunks concatenate
to a prefix of the rest of the packet of the length the send state records, and that enough acceptances
reach `Flush`; `Theorems/C15.lean` draws "exactly the rest" from them.
-/
namespace Minimq

/-- Result of looking for the remaining-length field in the first `n` bytes of a string. -/
inductive LenField where
  /-- terminated after `nbytes` bytes, value `value` -/
  | complete (nbytes value : Nat)
  /-- the string ended before a terminator and before `n` bytes -/
  | incomplete
  /-- `n` bytes with the continuation bit and no terminator -/
  | tooLong
  deriving DecidableEq, Repr

/-- The MQTT variable byte integer in at most `n` bytes, least significant group first
(MQTT 5 §1.5.5), *without* the canonicity requirement: the packet reader does not check it. -/
def lenField : Nat → Bytes → LenField
  | 0, _ => .tooLong
  | _ + 1, [] => .incomplete
  | n + 1, x :: rest =>
    if x.toNat < 128 then .complete 1 x.toNat else
    match lenField n rest with
    | .complete k v => .complete (k + 1) (x.toNat % 128 + 128 * v)
    | .incomplete => .incomplete
    | .tooLong => .tooLong

inductive Header where
  /-- fixed header of `headerLen` bytes announcing a packet of `total` bytes (header included) -/
  | complete (headerLen total : Nat)
  | incomplete
  | tooLong
  deriving DecidableEq, Repr

/-- The fixed header at the front of a stream: one type/flags byte, then the remaining length in
at most four bytes. -/
def fixedHeader : Bytes → Header
  | [] => .incomplete
  | _ :: rest =>
    match lenField 4 rest with
    | .complete k v => .complete (1 + k) (1 + k + v)
    | .incomplete => .incomplete
    | .tooLong => .tooLong

/-- How reading ends. `held` is what lies in the receive buffer at that moment. -/
inductive ReadEnd where
  /-- the stream is exhausted; `held` is the incomplete packet assembled so far -/
  | exhausted (held : Bytes)
  /-- `receive_buffer` returned `MalformedPacket` while holding `held` -/
  | malformed (held : Bytes)
  deriving DecidableEq, Repr

structure Framing where
  packets : List Bytes
  ending : ReadEnd
  deriving DecidableEq, Repr

def Framing.cons (pkt : Bytes) (f : Framing) : Framing := { f with packets := pkt :: f.packets }

inductive Frame1 where
  | packet (pkt rest : Bytes)
  | stop (e : ReadEnd)
  deriving DecidableEq, Repr

/-- The first packet of a stream for a reader with a `cap`-byte buffer.
* Header not complete yet: the reader takes one byte at a time, so it can hold `cap` bytes at most
  and fails when it would need one more; otherwise it waits with the whole rest in the buffer.
* Five bytes without a length terminator: malformed once the fifth byte is in (or when the buffer
  is full before that).
* Header complete: malformed as soon as the length is known if the packet does not fit (or when
  the buffer is full before the header is complete); otherwise the packet is the next `total`
  bytes, if the stream has them. -/
def frame1 (cap : Nat) (s : Bytes) : Frame1 :=
  match fixedHeader s with
  | .incomplete => .stop (if s.length < cap then .exhausted s else .malformed (s.take cap))
  | .tooLong => .stop (.malformed (s.take (min 5 cap)))
  | .complete hl total =>
    if cap < total then .stop (.malformed (s.take (min hl cap)))
    else if s.length < total then .stop (.exhausted s)
    else .packet (s.take total) (s.drop total)

/-- `frames` on fuel (one unit per packet). The `packet` case at fuel 0 is never reached from `frames`: see
`frames_eq`, the fuel-free recursive equation. -/
def framesAux (cap : Nat) : Nat → Bytes → Framing
  | 0, s =>
    match frame1 cap s with
    | .stop e => ⟨[], e⟩
    | .packet _ _ => ⟨[], .exhausted s⟩
  | fuel + 1, s =>
    match frame1 cap s with
    | .stop e => ⟨[], e⟩
    | .packet pkt rest => (framesAux cap fuel rest).cons pkt

/-- The stream cut into packets, and how reading ends. -/
def frames (cap : Nat) (s : Bytes) : Framing := framesAux cap s.length s

theorem lenField_spec : ∀ (n : Nat) (p : Bytes),
    match lenField n p with
    | .complete k v => 1 ≤ k ∧ k ≤ n ∧ k ≤ p.length ∧ ∀ q, lenField n (p ++ q) = .complete k v
    | .incomplete => p.length < n ∧ ∀ q k v, lenField n (p ++ q) = .complete k v → p.length < k
    | .tooLong => n ≤ p.length ∧ ∀ q, lenField n (p ++ q) = .tooLong := by
  intro n
  induction n with
  | zero => exact fun p => ⟨Nat.zero_le _, fun _ => rfl⟩
  | succ n ih =>
    intro p
    cases p with
    | nil =>
      refine ⟨Nat.succ_pos n, fun q k v h => ?_⟩
      -- a complete result counts at least the terminator
      cases q with
      | nil => cases h
      | cons y q =>
        rw [List.nil_append, lenField] at h
        split at h
        · cases h; exact Nat.one_pos
        · split at h <;> cases h
          exact Nat.succ_pos _
    | cons x rest =>
      simp only [lenField, List.cons_append, List.length_cons]
      by_cases hx : x.toNat < 128
      · simp only [if_pos hx]
        exact ⟨Nat.le_refl 1, Nat.succ_pos n, Nat.succ_pos _, fun _ => trivial⟩
      · simp only [if_neg hx]
        have := ih rest
        cases hl : lenField n rest with
        | complete k v =>
          rw [hl] at this
          obtain ⟨_, hkn, hkl, hq⟩ := this
          exact ⟨Nat.succ_pos k, Nat.succ_le_succ hkn, Nat.succ_le_succ hkl, fun q => by rw [hq q]⟩
        | incomplete =>
          rw [hl] at this
          refine ⟨Nat.succ_lt_succ this.1, fun q k v h => ?_⟩
          cases hl2 : lenField n (rest ++ q) with
          | complete k' v' =>
            rw [hl2] at h
            cases h
            exact Nat.succ_lt_succ (this.2 q k' v' hl2)
          | incomplete => rw [hl2] at h; cases h
          | tooLong => rw [hl2] at h; cases h
        | tooLong =>
          rw [hl] at this
          exact ⟨Nat.succ_le_succ this.1, fun q => by rw [this.2 q]⟩

theorem fixedHeader_spec (p : Bytes) :
    match fixedHeader p with
    | .complete hl t =>
      2 ≤ hl ∧ hl ≤ 5 ∧ hl ≤ t ∧ hl ≤ p.length ∧ ∀ q, fixedHeader (p ++ q) = .complete hl t
    | .incomplete =>
      p.length ≤ 4 ∧ ∀ q hl t, fixedHeader (p ++ q) = .complete hl t → p.length < hl
    | .tooLong => 5 ≤ p.length ∧ ∀ q, fixedHeader (p ++ q) = .tooLong := by
  cases p with
  | nil =>
    refine ⟨Nat.zero_le 4, fun q hl t h => ?_⟩
    cases q with
    | nil => cases h
    | cons y q =>
      rw [List.nil_append, fixedHeader] at h
      split at h <;> cases h
      exact Nat.lt_add_right _ Nat.one_pos
  | cons x rest =>
    simp only [fixedHeader, List.cons_append, List.length_cons]
    have := lenField_spec 4 rest
    cases hl : lenField 4 rest with
    | complete k v =>
      rw [hl] at this
      obtain ⟨_, _, _, hq⟩ := this
      exact ⟨by omega, by omega, by omega, by omega, fun q => by rw [hq q]⟩
    | incomplete =>
      rw [hl] at this
      refine ⟨by omega, fun q hl' t h => ?_⟩
      cases hl2 : lenField 4 (rest ++ q) with
      | complete k v =>
        rw [hl2] at h
        cases h
        have := this.2 q k v hl2
        omega
      | incomplete => rw [hl2] at h; cases h
      | tooLong => rw [hl2] at h; cases h
    | tooLong =>
      rw [hl] at this
      exact ⟨by omega, fun q => by rw [this.2 q]⟩

theorem fixedHeader_append_complete {p : Bytes} (q : Bytes) {hl t : Nat}
    (h : fixedHeader p = .complete hl t) : fixedHeader (p ++ q) = .complete hl t := by
  have := fixedHeader_spec p
  rw [h] at this
  exact this.2.2.2.2 q

theorem fixedHeader_append_tooLong {p : Bytes} (q : Bytes)
    (h : fixedHeader p = .tooLong) : fixedHeader (p ++ q) = .tooLong := by
  have := fixedHeader_spec p
  rw [h] at this
  exact this.2 q

theorem fixedHeader_incomplete_length {p : Bytes} (h : fixedHeader p = .incomplete) :
    p.length ≤ 4 := by
  have := fixedHeader_spec p
  rw [h] at this
  exact this.1

theorem fixedHeader_tooLong_length {p : Bytes} (h : fixedHeader p = .tooLong) : 5 ≤ p.length := by
  have := fixedHeader_spec p
  rw [h] at this
  exact this.1

theorem fixedHeader_complete_bounds {p : Bytes} {hl t : Nat} (h : fixedHeader p = .complete hl t) :
    2 ≤ hl ∧ hl ≤ 5 ∧ hl ≤ t ∧ hl ≤ p.length := by
  have := fixedHeader_spec p
  rw [h] at this
  exact ⟨this.1, this.2.1, this.2.2.1, this.2.2.2.1⟩

theorem fixedHeader_incomplete_append {p : Bytes} (q : Bytes) {hl t : Nat}
    (h : fixedHeader p = .incomplete) (h2 : fixedHeader (p ++ q) = .complete hl t) :
    p.length < hl := by
  have := fixedHeader_spec p
  rw [h] at this
  exact this.2 q hl t h2

theorem fixedHeader_short {p : Bytes} (h : p.length ≤ 1) : fixedHeader p = .incomplete := by
  match p, h with
  | [], _ => rfl
  | [_], _ => rfl

theorem frame1_packet {cap : Nat} {s pkt rest : Bytes} (h : frame1 cap s = .packet pkt rest) :
    ∃ hl t, fixedHeader s = .complete hl t ∧ t ≤ cap ∧ t ≤ s.length ∧ pkt = s.take t ∧
      rest = s.drop t := by
  unfold frame1 at h
  split at h
  · simp at h
  · simp at h
  · rename_i hl t hfh
    split at h
    · simp at h
    · split at h
      · simp at h
      · simp only [Frame1.packet.injEq] at h
        exact ⟨hl, t, hfh, by omega, by omega, h.1.symm, h.2.symm⟩

theorem frame1_packet_shorter {cap : Nat} {s pkt rest : Bytes} (h : frame1 cap s = .packet pkt rest) :
    rest.length + 2 ≤ s.length := by
  obtain ⟨hl, t, hfh, _, hts, _, hr⟩ := frame1_packet h
  have := fixedHeader_complete_bounds hfh
  subst hr
  simp; omega

theorem frame_cap {cap : Nat} {ack : Bytes} (h : frame1 cap ack = .packet ack []) :
    ack.length ≤ cap ∧ 2 ≤ ack.length := by
  obtain ⟨_, t, _, htc, _, hpk, _⟩ := frame1_packet h
  have h2 := frame1_packet_shorter h
  have := congrArg List.length hpk
  rw [List.length_take] at this
  rw [List.length_nil] at h2
  omega

theorem frame1_append {cap : Nat} {s : Bytes} (h : frame1 cap s = .packet s []) (rest : Bytes) :
    frame1 cap (s ++ rest) = .packet s rest := by
  obtain ⟨hl, t, hfh, hcap, hts, htake, hdrop⟩ := frame1_packet h
  have ht : t = s.length := by
    have : (s.drop t).length = 0 := by rw [← hdrop]; rfl
    simp at this; omega
  subst ht
  unfold frame1
  rw [fixedHeader_append_complete rest hfh]
  simp only []
  rw [if_neg (by omega), if_neg (by simp)]
  simp

theorem framesAux_fuel (cap : Nat) : ∀ (f1 f2 : Nat) (s : Bytes), s.length ≤ f1 → s.length ≤ f2 →
    framesAux cap f1 s = framesAux cap f2 s := by
  intro f1
  induction f1 with
  | zero =>
    intro f2 s h1 _
    have : s = [] := List.eq_nil_of_length_eq_zero (by omega)
    subst this
    cases f2 <;> simp [framesAux, frame1, fixedHeader]
  | succ f1 ih =>
    intro f2 s h1 h2
    cases f2 with
    | zero =>
      have : s = [] := List.eq_nil_of_length_eq_zero (by omega)
      subst this
      simp [framesAux, frame1, fixedHeader]
    | succ f2 =>
      simp only [framesAux]
      cases hf : frame1 cap s with
      | stop e => rfl
      | packet pkt rest =>
        have := frame1_packet_shorter hf
        simp only []
        rw [ih f2 rest (by omega) (by omega)]

theorem frames_eq (cap : Nat) (s : Bytes) :
    frames cap s = match frame1 cap s with
      | .stop e => ⟨[], e⟩
      | .packet pkt rest => (frames cap rest).cons pkt := by
  unfold frames
  rw [framesAux_fuel cap s.length (s.length + 1) s (Nat.le_refl _) (Nat.le_succ _), framesAux]
  cases hf : frame1 cap s with
  | stop e => rfl
  | packet pkt rest =>
    have := frame1_packet_shorter hf
    simp only []
    rw [framesAux_fuel cap s.length rest.length rest (by omega) (Nat.le_refl _)]

theorem lenField_digits (rest : Bytes) : ∀ (k n : Nat), n < 128 ^ (k + 1) → n ≤ 268435455 →
    lenField (k + 1) (encodeVarint n ++ rest) = .complete (encodeVarint n).length n := by
  intro k
  induction k with
  | zero =>
    intro n h _
    have h : n < 128 := h
    rw [encodeVarint_small n h, List.singleton_append, lenField, b_toNat, Nat.mod_eq_of_lt (by omega),
      if_pos h]
    rfl
  | succ k ih =>
    intro n h hm
    by_cases c : n < 128
    · rw [encodeVarint_small n c, List.singleton_append, lenField, b_toNat, Nat.mod_eq_of_lt (by omega),
        if_pos c]
      rfl
    · rw [encodeVarint_cont n c (by omega), List.cons_append, lenField, b_toNat,
        ih (n / 128) (Nat.div_lt_of_lt_mul (Nat.pow_succ' ▸ h)) (by omega), if_neg (by omega)]
      simp only [List.length_cons]
      congr 1
      omega

theorem frame1_framed (cap : Nat) (hdr : UInt8) (body : Bytes) (hn : body.length ≤ 268435455)
    (hcap : (hdr :: (encodeVarint body.length ++ body)).length ≤ cap) :
    frame1 cap (hdr :: (encodeVarint body.length ++ body)) =
      .packet (hdr :: (encodeVarint body.length ++ body)) [] := by
  have hlen : (hdr :: (encodeVarint body.length ++ body)).length =
      1 + (encodeVarint body.length).length + body.length := by
    rw [List.length_cons, List.length_append]; omega
  rw [frame1, fixedHeader, lenField_digits body 3 _ (by omega) hn]
  dsimp only
  rw [if_neg (by omega), if_neg (by omega), ← hlen, List.take_length, List.drop_length]

/-- The loop of `probe_fixed_header` with `i` length bytes behind it and `n` to go. -/
theorem probeLen_eq_lenField : ∀ (n : Nat) (bs : Bytes) (i acc : Nat), i + n = 4 →
    probeLen bs i acc = match lenField n bs with
      | .complete k v => some (1 + (i + k) + (acc + v * 128 ^ i))
      | _ => none := by
  intro n
  induction n with
  | zero =>
    intro bs i acc hi
    cases bs with
    | nil => rfl
    | cons x rest => rw [probeLen, if_pos (by omega)]; rfl
  | succ n ih =>
    intro bs i acc hi
    cases bs with
    | nil => rfl
    | cons x rest =>
      rw [probeLen, if_neg (by omega), lenField]
      by_cases hx : x.toNat < 128
      · rw [if_pos hx, if_pos hx, Nat.mod_eq_of_lt hx, Nat.add_comm 1 i]
      · rw [if_neg hx, if_neg hx, ih rest (i + 1) _ (by omega)]
        cases lenField n rest with
        | incomplete => rfl
        | tooLong => rfl
        | complete k v =>
          have e : (x.toNat % 128 + 128 * v) * 128 ^ i =
              x.toNat % 128 * 128 ^ i + v * 128 ^ (i + 1) := by
            rw [Nat.add_mul, Nat.pow_succ, Nat.mul_comm 128 v, Nat.mul_assoc, Nat.mul_comm 128]
          show some _ = some _
          rw [e, Nat.add_assoc i 1 k, Nat.add_comm 1 k, Nat.add_assoc acc]

theorem probe_spec (r : Reader) (hpl : r.packetLength = none) :
    r.probe = match fixedHeader r.data with
      | .complete _ t => some { r with packetLength := some t }
      | .incomplete => some r
      | .tooLong => none := by
  obtain ⟨cap, data, pl, last⟩ := r
  simp only at hpl
  subst hpl
  unfold Reader.probe Reader.readBytes
  simp only []
  by_cases h1 : data.length ≤ 1
  · rw [if_pos h1, fixedHeader_short h1]
  · rw [if_neg h1]
    match data, h1 with
    | x :: rest, _ =>
      simp only [List.drop_succ_cons, List.drop_zero, fixedHeader]
      rw [probeLen_eq_lenField 4 rest 0 0 rfl]
      have := lenField_spec 4 rest
      cases hlf : lenField 4 rest with
      | complete k v =>
        simp only [Option.isNone_some, Bool.and_false, Bool.false_eq_true, if_false]
        simp
      | incomplete =>
        rw [hlf] at this
        simp; omega
      | tooLong =>
        rw [hlf] at this
        simp; omega

theorem probe_some {r r1 : Reader} (h : r.probe = some r1) : ∃ pl, r1 = { r with packetLength := pl } := by
  unfold Reader.probe at h
  split at h
  · cases h; exact ⟨_, rfl⟩
  · dsimp only at h
    split at h
    · cases h
    · cases h; exact ⟨_, rfl⟩

theorem probe_fields (r r1 : Reader) (h : r.probe = some r1) : r1.cap = r.cap ∧ r1.data = r.data := by
  obtain ⟨pl, rfl⟩ := probe_some h
  exact ⟨rfl, rfl⟩

theorem receiveWindow_known (r : Reader) (l : Nat) (hp : r.packetLength = some l) :
    r.receiveWindow = if l ≤ r.cap then some (r, l - r.data.length) else none := by
  unfold Reader.receiveWindow
  simp [hp, Reader.readBytes]

theorem receiveWindow_unknown (r : Reader) (hp : r.packetLength = none) :
    r.receiveWindow = match fixedHeader r.data with
      | .complete _ t =>
        if t ≤ r.cap then some ({ r with packetLength := some t }, t - r.data.length) else none
      | .incomplete => if r.data.length + 1 ≤ r.cap then some (r, 1) else none
      | .tooLong => none := by
  unfold Reader.receiveWindow
  simp only [hp, Option.isNone_none, if_true]
  rw [probe_spec r hp]
  cases fixedHeader r.data with
  | complete hl t => simp [Reader.readBytes]
  | incomplete => simp [hp, Reader.readBytes]
  | tooLong => simp

theorem packetAvailable_false_of_none {r : Reader} (hp : r.packetLength = none) :
    r.packetAvailable = false := by
  simp [Reader.packetAvailable, hp]

theorem receiveWindow_cases {r r1 : Reader} {n : Nat} (hw : r.receiveWindow = some (r1, n)) :
    (∃ l, r.packetLength = some l ∧ l ≤ r.cap ∧ r1 = r ∧ n = l - r.data.length) ∨
    (r.packetLength = none ∧ ∃ hl t, fixedHeader r.data = .complete hl t ∧ t ≤ r.cap ∧
      r1 = { r with packetLength := some t } ∧ n = t - r.data.length) ∨
    (r.packetLength = none ∧ fixedHeader r.data = .incomplete ∧ r.data.length + 1 ≤ r.cap ∧ r1 = r ∧ n = 1) := by
  cases hp : r.packetLength with
  | some l =>
    rw [receiveWindow_known r l hp] at hw
    split at hw
    · cases hw; exact .inl ⟨l, rfl, ‹_›, rfl, rfl⟩
    · cases hw
  | none =>
    rw [receiveWindow_unknown r hp] at hw
    split at hw
    · split at hw
      · cases hw; exact .inr (.inl ⟨rfl, _, _, ‹_›, ‹_›, rfl, rfl⟩)
      · cases hw
    · split at hw
      · cases hw; exact .inr (.inr ⟨rfl, ‹_›, ‹_›, rfl, rfl⟩)
      · cases hw
    · cases hw

theorem receiveWindow_reader {r r1 : Reader} {n : Nat} (hw : r.receiveWindow = some (r1, n)) :
    ∃ pl, r1 = { r with packetLength := pl } := by
  rcases receiveWindow_cases hw with ⟨_, _, _, rfl, _⟩ | ⟨_, _, _, _, _, rfl, _⟩ | ⟨_, _, _, rfl, _⟩ <;>
    exact ⟨_, rfl⟩

theorem receiveWindow_probed {r r1 : Reader} {n : Nat} (hw : r.receiveWindow = some (r1, n)) :
    r1.receiveWindow = some (r1, n) := by
  rcases receiveWindow_cases hw with ⟨_, _, _, rfl, _⟩ | ⟨_, _, t, _, hc, rfl, rfl⟩ | ⟨_, _, _, rfl, _⟩
  · exact hw
  · exact (receiveWindow_known _ t rfl).trans (if_pos hc)
  · exact hw

theorem receiveWindow_available {r r1 : Reader} {n : Nat} (hw : r.receiveWindow = some (r1, n)) :
    r1.packetAvailable = decide (n = 0) := by
  rcases receiveWindow_cases hw with ⟨l, hp, _, rfl, rfl⟩ | ⟨_, _, t, _, _, rfl, rfl⟩ | ⟨hp, _, _, rfl, rfl⟩
  · simp only [Reader.packetAvailable, hp, Reader.readBytes, ge_iff_le, decide_eq_decide]; omega
  · simp only [Reader.packetAvailable, Reader.readBytes, ge_iff_le, decide_eq_decide]; omega
  · simp [Reader.packetAvailable, hp]

theorem receiveWindow_spec (r r1 : Reader) (n : Nat) (h : r.receiveWindow = some (r1, n)) :
    r1.cap = r.cap ∧ r1.data = r.data ∧ r1.last = r.last ∧
    (0 < n → r1.data.length + n ≤ r1.cap) ∧ (r.data.length ≤ r.cap → r1.data.length + n ≤ r1.cap) := by
  rcases receiveWindow_cases h with ⟨l, _, _, rfl, rfl⟩ | ⟨_, _, t, _, _, rfl, rfl⟩ | ⟨_, _, _, rfl, rfl⟩ <;>
    refine ⟨rfl, rfl, rfl, fun _ => ?_, fun _ => ?_⟩ <;> (try dsimp only) <;> omega

theorem tooLong_window_none (r : Reader) (hp : r.packetLength = none)
    (hfh : fixedHeader r.data = .tooLong) : r.receiveWindow = none := by
  rw [receiveWindow_unknown r hp, hfh]

theorem takePacket_none {r : Reader} (hp : r.packetLength = none) : r.takePacket = (r, none) := by
  rw [Reader.takePacket, hp]

theorem takePacket_some {r : Reader} {l : Nat} (hp : r.packetLength = some l) :
    r.takePacket = ({ r with data := [], packetLength := none, last := r.data.take l },
      (fromBuffer (r.data.take l)).map fun p => (l, p)) := by
  unfold Reader.takePacket
  rw [hp]
  dsimp only
  cases fromBuffer (r.data.take l) <;> rfl

theorem takePacket_cap (r : Reader) : r.takePacket.1.cap = r.cap := by
  cases hp : r.packetLength with
  | none => rw [takePacket_none hp]
  | some l => rw [takePacket_some hp]

/-- One packet handed off by `take_packet`: the raw bytes left at the front of the buffer (`last`)
and the decode result (`None` = `from_buffer` failed; the machine then drops the connection). -/
structure ReadEvent where
  raw : Bytes
  decoded : Option (Nat × Recv)
  deriving Repr, DecidableEq

/-- What the reader must hand off for the packet `pkt`. -/
def eventOf (pkt : Bytes) : ReadEvent :=
  { raw := pkt, decoded := (fromBuffer pkt).map fun p => (pkt.length, p) }

theorem takePacket_whole {r : Reader} (hp : r.packetLength = some r.data.length) :
    r.takePacket = ({ r with data := [], packetLength := none, last := r.data }, (eventOf r.data).decoded) := by
  rw [takePacket_some hp, List.take_length]; rfl

/-- The transport delivers `k` bytes with `1 ≤ k ≤ min window remaining`; `want` is its wish. -/
def clampRead (want window remaining : Nat) : Nat := max 1 (min want (min window remaining))

/-- The loop of `doWaitRead` / `doConnRead` (`read_packet` / `fill_packet_reader`), reduced to the
reader: if a packet is available it is taken (`take_packet`) and reading goes on; otherwise
`receive_buffer` either fails (`MalformedPacket`: the loop ends with what is held) or offers a
window; an empty window sends the machine back to the `packet_available` test; otherwise the
transport delivers between 1 and `min window remaining` bytes — the head of `sched` says how many
(an exhausted schedule delivers as much as fits) — which are committed. With the stream exhausted
the read stays pending for ever: the loop ends with the partial packet held.
`none` = out of fuel (never happens with the fuel `readLoop` supplies: `readLoop_eq_frames`). -/
def readLoopFuel : Nat → List Nat → Reader → Bytes → Option (List ReadEvent × ReadEnd)
  | 0, _, _, _ => none
  | fuel + 1, sched, r, unread =>
    if r.packetAvailable then
      (readLoopFuel fuel sched r.takePacket.1 unread).map fun res =>
        ({ raw := r.takePacket.1.last, decoded := r.takePacket.2 } :: res.1, res.2)
    else
      match r.receiveWindow with
      | none => some ([], .malformed r.data)
      | some (r1, n) =>
        if n = 0 then readLoopFuel fuel sched r1 unread
        else if unread.isEmpty then some ([], .exhausted r1.data)
        else
          let k := clampRead (sched.headD n) n unread.length
          readLoopFuel fuel sched.tail (r1.commit (unread.take k)) (unread.drop k)

def readLoop (sched : List Nat) (r : Reader) (stream : Bytes) : Option (List ReadEvent × ReadEnd) :=
  readLoopFuel (3 * stream.length + 1) sched r stream

/-! In the two invariants `s` is the stream from the start of the packet being assembled: the bytes
held followed by the bytes not read yet. -/

/-- At the loop head. -/
structure RInv (r : Reader) (s : Bytes) : Prop where
  fits : r.data.length ≤ r.cap
  known : ∀ l, r.packetLength = some l →
    (∃ hl, fixedHeader s = .complete hl l) ∧ l ≤ r.cap ∧ r.data.length ≤ l
  /-- while the length is unknown the window is one byte (`RdWInv.unknown`): the last byte read may have completed
  the fixed header, which `receive_buffer` has not looked at yet, but no byte before it did -/
  unknown : r.packetLength = none →
    r.data = [] ∨ ∃ d y, r.data = d ++ [y] ∧ fixedHeader d = .incomplete

/-- After `receive_buffer` offered a window of `n` bytes. -/
structure RdWInv (r1 : Reader) (s : Bytes) (n : Nat) : Prop where
  fits : r1.data.length ≤ r1.cap
  known : ∀ l, r1.packetLength = some l →
    (∃ hl, fixedHeader s = .complete hl l) ∧ l ≤ r1.cap ∧ r1.data.length ≤ l ∧
      n = l - r1.data.length
  unknown : r1.packetLength = none →
    fixedHeader r1.data = .incomplete ∧ r1.data.length + 1 ≤ r1.cap ∧ n = 1

theorem RInv_fresh (r : Reader) (s : Bytes) (hd : r.data = []) (hp : r.packetLength = none) :
    RInv r s :=
  ⟨by simp [hd], by simp [hp], fun _ => Or.inl hd⟩

theorem RInv.header_at_end {r : Reader} {s : Bytes} (h : RInv r s) (hp : r.packetLength = none) :
    (∀ hl t, fixedHeader r.data = .complete hl t → hl = r.data.length) ∧
    (fixedHeader r.data = .tooLong → r.data.length = 5) := by
  rcases h.unknown hp with hd | ⟨d, y, hd, hinc⟩
  · rw [hd]; simp [fixedHeader]
  · rw [hd]
    have h4 := fixedHeader_incomplete_length hinc
    constructor
    · intro hl t hc
      have := fixedHeader_incomplete_append [y] hinc hc
      have := fixedHeader_complete_bounds hc
      simp at *; omega
    · intro ht
      have := fixedHeader_tooLong_length ht
      simp at *; omega

theorem window_some {r r1 : Reader} {s u : Bytes} {n : Nat} (h : RInv r s) (hs : s = r.data ++ u)
    (hw : r.receiveWindow = some (r1, n)) : RdWInv r1 s n := by
  rcases receiveWindow_cases hw with ⟨l, hp, hc, rfl, rfl⟩ | ⟨hp, hl, t, hfh, hc, rfl, rfl⟩ | ⟨hp, hfh, hc, rfl, rfl⟩
  · obtain ⟨hh, _, hd⟩ := h.known l hp
    refine ⟨h.fits, fun l' hl' => ?_, fun hn => by rw [hp] at hn; cases hn⟩
    cases hp.symm.trans hl'
    exact ⟨hh, hc, hd, rfl⟩
  · have := (h.header_at_end hp).1 hl t hfh
    have := fixedHeader_complete_bounds hfh
    refine ⟨h.fits, fun l' hl' => ?_, nofun⟩
    cases hl'
    exact ⟨⟨hl, hs ▸ fixedHeader_append_complete u hfh⟩, hc, by show r.data.length ≤ t; omega, rfl⟩
  · exact ⟨h.fits, fun l' hl' => (nomatch hp.symm.trans hl'), fun _ => ⟨hfh, hc, rfl⟩⟩

theorem window_none {r : Reader} {s u : Bytes} (h : RInv r s) (hs : s = r.data ++ u)
    (hw : r.receiveWindow = none) : frame1 r.cap s = .stop (.malformed r.data) := by
  have htake : ∀ m, m = r.data.length → s.take m = r.data := fun m hm => by
    rw [hs, hm]
    exact List.take_left' rfl
  cases hp : r.packetLength with
  | some l =>
    rw [receiveWindow_known r l hp, if_pos (h.known l hp).2.1] at hw
    cases hw
  | none =>
    rw [receiveWindow_unknown r hp] at hw
    have hend := h.header_at_end hp
    have hfits := h.fits
    rw [frame1]
    cases hfh : fixedHeader r.data with
    | complete hl t =>
      have := hend.1 hl t hfh
      have hb := fixedHeader_complete_bounds hfh
      rw [hfh] at hw
      have hc : ¬ t ≤ r.cap := fun hc => by simp only [if_pos hc] at hw; cases hw
      rw [hs, fixedHeader_append_complete u hfh, ← hs]
      simp only
      rw [if_pos (by omega), htake _ (by omega)]
    | tooLong =>
      have := hend.2 hfh
      rw [hs, fixedHeader_append_tooLong u hfh, ← hs]
      simp only
      rw [htake _ (by omega)]
    | incomplete =>
      -- the buffer is full with the header still incomplete: whatever the rest of the stream makes of the
      -- header, the specification gives up after `cap` bytes
      rw [hfh] at hw
      have hc : ¬ r.data.length + 1 ≤ r.cap := fun hc => by simp only [if_pos hc] at hw; cases hw
      have h4 := fixedHeader_incomplete_length hfh
      have hcap : r.cap = r.data.length := by omega
      cases hfs : fixedHeader s with
      | incomplete =>
        simp only
        have : ¬ s.length < r.cap := by rw [hs, List.length_append]; omega
        rw [if_neg this, htake _ hcap]
      | tooLong =>
        simp only
        rw [htake _ (by omega)]
      | complete hl t =>
        rw [hs] at hfs
        have := fixedHeader_incomplete_append u hfh hfs
        have := fixedHeader_complete_bounds hfs
        simp only
        rw [if_pos (by omega), htake _ (by omega)]

theorem RdWInv.zero_held {r1 : Reader} {s : Bytes} (h : RdWInv r1 s 0) : r1.data ≠ [] := by
  cases hp : r1.packetLength with
  | none => have := (h.unknown hp).2.2; omega
  | some l =>
    obtain ⟨⟨hl, hfh⟩, _, _, hn⟩ := h.known l hp
    have := fixedHeader_complete_bounds hfh
    intro hd; rw [hd] at hn; simp at hn; omega

theorem fixedHeader_prefix_incomplete {d : Bytes} {y : UInt8} (h : fixedHeader (d ++ [y]) = .incomplete) :
    fixedHeader d = .incomplete := by
  cases hfd : fixedHeader d with
  | incomplete => rfl
  | complete hl t => rw [fixedHeader_append_complete [y] hfd] at h; cases h
  | tooLong => rw [fixedHeader_append_tooLong [y] hfd] at h; cases h

theorem RdWInv.toRInv {r1 : Reader} {s : Bytes} {n : Nat} (h : RdWInv r1 s n) : RInv r1 s := by
  refine ⟨h.fits, ?_, ?_⟩
  · intro l hl
    obtain ⟨a, b, c, _⟩ := h.known l hl
    exact ⟨a, b, c⟩
  · intro hp
    obtain ⟨hinc, _, _⟩ := h.unknown hp
    rcases List.eq_nil_or_concat r1.data with hd | ⟨d, y, hd⟩
    · exact Or.inl hd
    · rw [List.concat_eq_append] at hd
      exact Or.inr ⟨d, y, hd, fixedHeader_prefix_incomplete (hd ▸ hinc)⟩

theorem RdWInv.stream_end {r1 : Reader} {n : Nat} (h : RdWInv r1 r1.data n) (hn : n ≠ 0) :
    frame1 r1.cap r1.data = .stop (.exhausted r1.data) := by
  unfold frame1
  cases hp : r1.packetLength with
  | none =>
    obtain ⟨hfh, hc, _⟩ := h.unknown hp
    rw [hfh]; simp only
    rw [if_pos (by omega)]
  | some l =>
    obtain ⟨⟨hl, hfh⟩, hc, hd, hnl⟩ := h.known l hp
    rw [hfh]; simp only
    rw [if_neg (by omega), if_pos (by omega)]

theorem RdWInv.commit {r1 : Reader} {s u : Bytes} {n k : Nat} (h : RdWInv r1 s n)
    (hs : s = r1.data ++ u) (hk1 : 1 ≤ k) (hkn : k ≤ n) (hku : k ≤ u.length) :
    RInv (r1.commit (u.take k)) s := by
  have hlen : (r1.commit (u.take k)).data.length = r1.data.length + k := by
    rw [Reader.commit, List.length_append, List.length_take, Nat.min_eq_left hku]
  have hpl : (r1.commit (u.take k)).packetLength = r1.packetLength := rfl
  cases hp : r1.packetLength with
  | none =>
    obtain ⟨hfh, hc, hn1⟩ := h.unknown hp
    have hk : k = 1 := by omega
    subst hk
    refine ⟨by rw [hlen]; exact hc, fun l hl => ?_, fun _ => .inr ?_⟩
    · rw [hpl, hp] at hl; cases hl
    · match u, hku with
      | y :: _, _ => exact ⟨r1.data, y, rfl, hfh⟩
  | some l =>
    obtain ⟨hh, hc, hd, hnl⟩ := h.known l hp
    refine ⟨by show _ ≤ r1.cap; rw [hlen]; omega, fun l' hl' => ?_, fun hn => ?_⟩
    · rw [hpl, hp] at hl'; cases hl'
      exact ⟨hh, hc, by rw [hlen]; omega⟩
    · rw [hpl, hp] at hn; cases hn

theorem take_spec {r : Reader} {s u : Bytes} (h : RInv r s) (hs : s = r.data ++ u)
    (ha : r.packetAvailable = true) :
    r.packetLength = some r.data.length ∧ frame1 r.cap s = .packet r.data u ∧ 2 ≤ r.data.length := by
  cases hp : r.packetLength with
  | none => rw [packetAvailable_false_of_none hp] at ha; cases ha
  | some l =>
    obtain ⟨⟨hl, hfh⟩, hc, hd⟩ := h.known l hp
    have hge : l ≤ r.data.length := by
      rw [Reader.packetAvailable, hp] at ha
      exact of_decide_eq_true ha
    have hdl : r.data.length = l := by omega
    have hb := fixedHeader_complete_bounds hfh
    subst hdl
    refine ⟨rfl, ?_, by omega⟩
    rw [frame1, hfh]
    dsimp only
    rw [if_neg (by omega), if_neg (by rw [hs, List.length_append]; omega), hs,
      List.take_left' rfl, List.drop_left' rfl]

/-- Steps the loop may take without consuming a byte: window-0 (2 → 1), take (1 → 0). -/
def phi (r : Reader) : Nat :=
  if r.data.isEmpty then 0 else if r.packetAvailable then 1 else 2

theorem phi_le (r : Reader) : phi r ≤ 2 := by
  unfold phi; split <;> try split
  all_goals omega

theorem phi_fresh {r : Reader} (h : r.data = []) : phi r = 0 := by
  rw [phi, h]; rfl

theorem phi_held {r : Reader} (h : r.data ≠ []) :
    phi r = if r.packetAvailable then 1 else 2 := by
  rw [phi, if_neg (by rwa [List.isEmpty_iff])]

theorem clampRead_bounds (want n len : Nat) (hn : n ≠ 0) (hl : len ≠ 0) :
    1 ≤ clampRead want n len ∧ clampRead want n len ≤ n ∧ clampRead want n len ≤ len :=
  ⟨Nat.le_max_left ..,
    Nat.max_le.2 ⟨Nat.pos_of_ne_zero hn, Nat.le_trans (Nat.min_le_right ..) (Nat.min_le_left ..)⟩,
    Nat.max_le.2 ⟨Nat.pos_of_ne_zero hl, Nat.le_trans (Nat.min_le_right ..) (Nat.min_le_right ..)⟩⟩

theorem readLoopFuel_eq : ∀ (fuel : Nat) (sched : List Nat) (r : Reader) (u : Bytes),
    RInv r (r.data ++ u) → 3 * u.length + phi r < fuel →
    readLoopFuel fuel sched r u =
      some ((frames r.cap (r.data ++ u)).packets.map eventOf,
            (frames r.cap (r.data ++ u)).ending) := by
  intro fuel
  induction fuel with
  | zero => intro _ _ _ _ h; omega
  | succ fuel ih =>
    intro sched r u hinv hfuel
    -- one case per branch of the loop; a step that reads no byte lowers `phi`, a read pays for the next two
    rw [readLoopFuel, frames_eq]
    by_cases ha : r.packetAvailable = true
    · obtain ⟨hpl, hf1, h2⟩ := take_spec hinv rfl ha
      have htk := takePacket_whole hpl
      have hphi := phi_held (r := r) (fun h0 => by rw [h0] at h2; cases h2)
      rw [if_pos ha] at hphi ⊢
      rw [htk, hf1, ih sched _ u (RInv_fresh _ _ rfl rfl) (by rw [phi_fresh rfl]; omega)]
      rfl
    · rw [if_neg ha]
      cases hw : r.receiveWindow with
      | none => rw [window_none hinv rfl hw]; rfl
      | some p =>
        obtain ⟨r1, n⟩ := p
        have hwi := window_some hinv rfl hw
        obtain ⟨pl, rfl⟩ := receiveWindow_reader hw
        dsimp only
        by_cases hn : n = 0
        · subst hn
          have ha1 : ({ r with packetLength := pl } : Reader).packetAvailable = true := receiveWindow_available hw
          have hne : r.data ≠ [] := hwi.zero_held
          have hphi := phi_held (r := r) hne
          have hphi1 := phi_held (r := { r with packetLength := pl }) hne
          rw [if_neg ha] at hphi
          rw [if_pos ha1] at hphi1
          rw [if_pos rfl, ih sched _ u hwi.toRInv (by omega), frames_eq]
        · rw [if_neg hn]
          cases u with
          | nil =>
            rw [List.append_nil] at hwi ⊢
            rw [List.isEmpty_nil, if_pos rfl, show frame1 r.cap r.data = _ from hwi.stream_end hn]
            rfl
          | cons y u =>
            obtain ⟨hk1, hkn, hku⟩ :=
              clampRead_bounds (sched.headD n) n (y :: u).length hn (Nat.succ_ne_zero _)
            generalize clampRead (sched.headD n) n (y :: u).length = k at hk1 hkn hku
            have hinv2 := hwi.commit rfl hk1 hkn hku
            have hdata : (({ r with packetLength := pl } : Reader).commit ((y :: u).take k)).data ++ (y :: u).drop k =
                r.data ++ (y :: u) := by
              rw [Reader.commit, List.append_assoc, List.take_append_drop]
            have hphi2 := phi_le (({ r with packetLength := pl } : Reader).commit ((y :: u).take k))
            have hlen : ((y :: u).drop k).length + 1 ≤ (y :: u).length := by
              rw [List.length_drop]; omega
            rw [← hdata] at hinv2
            rw [List.isEmpty_cons, if_neg Bool.false_ne_true, ih _ _ _ hinv2 (by omega), hdata, frames_eq]
            rfl

theorem readLoop_eq_frames (sched : List Nat) (r : Reader) (stream : Bytes)
    (hd : r.data = []) (hp : r.packetLength = none) :
    readLoop sched r stream =
      some ((frames r.cap stream).packets.map eventOf, (frames r.cap stream).ending) := by
  unfold readLoop
  have := readLoopFuel_eq (3 * stream.length + 1) sched r stream
    (RInv_fresh _ _ hd hp) (by simp [phi, hd])
  rw [this, hd]; rfl

theorem frames_induction {cap : Nat} {P : Bytes → Framing → Prop}
    (stop : ∀ s e, frame1 cap s = .stop e → P s ⟨[], e⟩)
    (packet : ∀ s pkt rest, frame1 cap s = .packet pkt rest → P rest (frames cap rest) →
      P s ((frames cap rest).cons pkt)) :
    ∀ s, P s (frames cap s) := by
  intro s
  induction hn : s.length using Nat.strongRecOn generalizing s with
  | _ n ih =>
    rw [frames_eq]
    cases hf : frame1 cap s with
    | stop e => exact stop s e hf
    | packet pkt rest =>
      have := frame1_packet_shorter hf
      exact packet s pkt rest hf (ih rest.length (by omega) rest rfl)

theorem frame1_stop {cap : Nat} {s : Bytes} {e : ReadEnd} (h : frame1 cap s = .stop e) :
    e = .exhausted s ∨ ∃ m, e = .malformed (s.take m) := by
  unfold frame1 at h
  split at h
  · cases h
    by_cases hc : s.length < cap
    · rw [if_pos hc]; exact .inl rfl
    · rw [if_neg hc]; exact .inr ⟨_, rfl⟩
  · cases h
    exact .inr ⟨_, rfl⟩
  · split at h
    · cases h
      exact .inr ⟨_, rfl⟩
    · split at h <;> cases h
      exact .inl rfl

theorem fixedHeader_take {s : Bytes} {hl t : Nat} (m : Nat) (h : fixedHeader s = .complete hl t)
    (hm : hl ≤ m) : fixedHeader (s.take m) = .complete hl t := by
  have hb := fixedHeader_complete_bounds h
  rw [← List.take_append_drop m s] at h
  cases hh : fixedHeader (s.take m) with
  | complete hl' t' => exact (fixedHeader_append_complete _ hh).symm.trans h
  | incomplete =>
    have := fixedHeader_incomplete_append _ hh h
    rw [List.length_take] at this
    omega
  | tooLong => rw [fixedHeader_append_tooLong _ hh] at h; cases h

/-- Reader states (with the bytes not read yet) reachable from `r0` on `stream`, for every choice
of every read: the transport may deliver any `k` with `1 ≤ k ≤ min window remaining`. -/
inductive RdReach (r0 : Reader) (stream : Bytes) : Reader → Bytes → Prop where
  | init : RdReach r0 stream r0 stream
  | take {r u} : RdReach r0 stream r u → r.packetAvailable = true →
      RdReach r0 stream r.takePacket.1 u
  | window0 {r r1 u} : RdReach r0 stream r u → r.packetAvailable = false →
      r.receiveWindow = some (r1, 0) → RdReach r0 stream r1 u
  | read {r r1 u n k} : RdReach r0 stream r u → r.packetAvailable = false →
      r.receiveWindow = some (r1, n) → 1 ≤ k → k ≤ n → k ≤ u.length →
      RdReach r0 stream (r1.commit (u.take k)) (u.drop k)

theorem reach_inv {r0 : Reader} {stream : Bytes} (hd : r0.data = []) (hp : r0.packetLength = none)
    {r : Reader} {u : Bytes} (h : RdReach r0 stream r u) :
    RInv r (r.data ++ u) ∧ r.cap = r0.cap ∧ ∃ done, done ++ r.data ++ u = stream := by
  induction h with
  | init => exact ⟨RInv_fresh _ _ hd hp, rfl, [], by simp [hd]⟩
  | take _ ha ih =>
    obtain ⟨hinv, hc, done, hdone⟩ := ih
    rw [takePacket_whole (take_spec hinv rfl ha).1]
    exact ⟨RInv_fresh _ _ rfl rfl, hc, done ++ _, by simpa using hdone⟩
  | window0 _ _ hw ih =>
    obtain ⟨hinv, hc, done, hdone⟩ := ih
    have hwi := window_some hinv rfl hw
    obtain ⟨pl, rfl⟩ := receiveWindow_reader hw
    exact ⟨hwi.toRInv, hc, done, hdone⟩
  | @read r r1 u n k _ _ hw hk1 hkn hku ih =>
    obtain ⟨hinv, hc, done, hdone⟩ := ih
    have hwi := window_some hinv rfl hw
    obtain ⟨pl, rfl⟩ := receiveWindow_reader hw
    have hdata : (({ r with packetLength := pl } : Reader).commit (u.take k)).data ++ u.drop k = r.data ++ u := by
      simp [Reader.commit]
    rw [hdata]
    refine ⟨hwi.commit rfl hk1 hkn hku, hc, done, ?_⟩
    rw [List.append_assoc, hdata, ← List.append_assoc]; exact hdone

/-- The transport accepts `k` bytes of the `offered` ones, `1 ≤ k ≤ offered`; `want` is its wish. -/
def clampWrite (want offered : Nat) : Nat := max 1 (min want offered)

theorem clampWrite_bounds (want n : Nat) (hn : n ≠ 0) :
    1 ≤ clampWrite want n ∧ clampWrite want n ≤ n :=
  ⟨Nat.le_max_left .., Nat.max_le.2 ⟨Nat.pos_of_ne_zero hn, Nat.min_le_right ..⟩⟩

/-- The `write` await of `perform_outbound_step` (`doStepWrite`) iterated over the acceptances
`ks`: an entry in state `Write(written)` offers `bytes.drop written`; the transport accepts a
non-empty prefix; `set_written` (`SendState.afterWrite`) records the new total, which either stays
`Write` (the step returns and is re-entered later) or becomes `Flush`. Returns the accepted chunks
and the final state. -/
def stepWrites (bytes : Bytes) (len : Nat) : SendState → List Nat → List Bytes × SendState
  | .write written, k :: ks =>
    let offered := bytes.drop written
    let c := clampWrite k offered.length
    let rest := stepWrites bytes len (SendState.afterWrite (written + c) len) ks
    (offered.take c :: rest.1, rest.2)
  | st, _ => ([], st)

theorem afterWrite_flush_iff (wr len : Nat) : SendState.afterWrite wr len = .flush ↔ len ≤ wr := by
  unfold SendState.afterWrite
  split <;> rename_i h
  · exact iff_of_true rfl h
  · exact iff_of_false (fun e => nomatch e) h

theorem stepWrites_flush (bytes : Bytes) (len : Nat) (ks : List Nat) :
    stepWrites bytes len .flush ks = ([], .flush) := by
  cases ks <;> rfl

theorem stepWrites_cons (bytes : Bytes) (len : Nat) (hlen : bytes.length = len) (k : Nat)
    (ks : List Nat) (written : Nat) (hw : written < len) :
    ∃ c, 1 ≤ c ∧ written + c ≤ len ∧ ((bytes.drop written).take c).length = c ∧
      stepWrites bytes len (.write written) (k :: ks) =
        ((bytes.drop written).take c ::
            (stepWrites bytes len (SendState.afterWrite (written + c) len) ks).1,
          (stepWrites bytes len (SendState.afterWrite (written + c) len) ks).2) := by
  have hoff : (bytes.drop written).length = len - written := by rw [List.length_drop, hlen]
  obtain ⟨h1, h2⟩ := clampWrite_bounds k (bytes.drop written).length (by omega)
  exact ⟨_, h1, by omega, by rw [List.length_take]; omega, rfl⟩

theorem stepWrites_spec (bytes : Bytes) (len : Nat) (hlen : bytes.length = len) :
    ∀ (ks : List Nat) (written : Nat), written < len →
      let res := stepWrites bytes len (.write written) ks
      let total := res.1.flatten.length
      res.1.flatten = (bytes.drop written).take total ∧ written + total ≤ len ∧
      res.2 = SendState.afterWrite (written + total) len ∧
      (∀ c ∈ res.1, c ≠ []) := by
  intro ks
  induction ks with
  | nil =>
    intro written hw
    exact ⟨rfl, Nat.le_of_lt hw, (if_neg (Nat.not_le.2 hw)).symm, fun _ h => nomatch h⟩
  | cons k ks ih =>
    intro written hw
    obtain ⟨c, hc1, hc2, htl, heq⟩ := stepWrites_cons bytes len hlen k ks written hw
    have hne : (bytes.drop written).take c ≠ [] := fun h0 => by
      rw [h0, List.length_nil] at htl; omega
    rw [heq]
    by_cases hdone : len ≤ written + c
    · rw [show SendState.afterWrite (written + c) len = .flush from if_pos hdone, stepWrites_flush]
      simp only [List.flatten_cons, List.flatten_nil, List.append_nil, htl]
      refine ⟨trivial, hc2, (if_pos hdone).symm, fun x hx => ?_⟩
      rw [List.mem_singleton.1 hx]
      exact hne
    · rw [show SendState.afterWrite (written + c) len = .write (written + c) from if_neg hdone]
      obtain ⟨h1, h2, h3, h4⟩ := ih (written + c) (by omega)
      generalize stepWrites bytes len (.write (written + c)) ks = res at h1 h2 h3 h4
      simp only [List.flatten_cons, List.length_append, htl]
      refine ⟨?_, by omega, by rw [h3, Nat.add_assoc], fun x hx => ?_⟩
      · rw [List.take_add, List.drop_drop, ← h1]
      · rcases List.mem_cons.1 hx with rfl | hx
        · exact hne
        · exact h4 x hx

theorem stepWrites_complete (bytes : Bytes) (len : Nat) (hlen : bytes.length = len) :
    ∀ (ks : List Nat) (written : Nat), written < len → len - written ≤ ks.length →
      (stepWrites bytes len (.write written) ks).2 = .flush := by
  intro ks
  induction ks with
  | nil => intro written hw hk; rw [List.length_nil] at hk; omega
  | cons k ks ih =>
    intro written hw hk
    obtain ⟨c, hc1, hc2, _, heq⟩ := stepWrites_cons bytes len hlen k ks written hw
    rw [heq]
    by_cases hdone : len ≤ written + c
    · rw [show SendState.afterWrite (written + c) len = .flush from if_pos hdone, stepWrites_flush]
    · rw [show SendState.afterWrite (written + c) len = .write (written + c) from if_neg hdone]
      rw [List.length_cons] at hk
      exact ih (written + c) (by omega) (by omega)

/-- `write_all` from an operation-local buffer (`doLocalWrite`): while bytes remain, offer them
all, drop what was accepted. Returns the accepted chunks and what is still unsent when the
acceptances run out. -/
def localWrites : Bytes → List Nat → List Bytes × Bytes
  | bytes, k :: ks =>
    if bytes.isEmpty then ([], []) else
    let c := clampWrite k bytes.length
    let rest := localWrites (bytes.drop c) ks
    (bytes.take c :: rest.1, rest.2)
  | bytes, [] => ([], bytes)

end Minimq
