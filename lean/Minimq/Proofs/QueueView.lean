import Minimq.Proofs.Primitives
/-
The outbound queues as the bookkeeping sees them. `qv o : QV` forgets where a retained packet lies in the arena, the
reason code and the ghost serials. On this view every queue operation of `Out.lean` is one of twelve list moves
(`QStep`, indexed by what the move does to the number of exchanges in flight) or leaves the view alone, so a predicate
of the view is an invariant of the queues as soon as every move preserves it, which is list reasoning. The arena is
entered only where an operation reads packet bytes (`qv_ackPacket`, `qv_armReplay`, `qv_encodeAt`, `inflight_qv`).
-/
namespace Minimq
open Gen Outbound

def isPubPkt : Bytes → Bool
  | x :: _ => x.toNat / 16 == MT_Publish
  | [] => false

namespace Quiesce

def hd (bs : Bytes) : Nat :=
  match bs.head? with
  | some x => x.toNat
  | none => 0

/-- A retained packet: bytes, identifier, send state. -/
abbrev RetV := Bytes × Nat × SendState
/-- A PUBREL: identifier, send state. -/
abbrev RelV := Nat × SendState

def retView (o : Outbound) : List RetV := o.retained.map (fun e => (slice o.buf e.offset e.len, e.id, e.state))
def relView (o : Outbound) : List RelV := o.release.map (fun e => (e.id, e.state))

theorem headerAt_eq_hd (o : Outbound) (off len : Nat) (h : 0 < len) : o.headerAt off = hd (slice o.buf off len) := by
  unfold Outbound.headerAt hd
  rw [List.head?_eq_getElem?, getElem?_slice]
  simp only [h, if_true, Nat.add_zero]
  cases o.buf[off]? <;> rfl

theorem retView_ids (o : Outbound) : (retView o).map (·.2.1) = o.retained.map (·.id) := by
  simp [retView, List.map_map, Function.comp_def]

theorem relView_ids (o : Outbound) : (relView o).map (·.1) = o.release.map (·.id) := by
  simp [relView, List.map_map, Function.comp_def]

theorem retView_bytes (o : Outbound) : (retView o).map (·.1) = o.contents := by
  simp [retView, Outbound.contents, Minimq.contents, List.map_map, Function.comp_def]

theorem usedIds_views (o : Outbound) : o.usedIds = (retView o).map (·.2.1) ++ (relView o).map (·.1) := by
  rw [retView_ids, relView_ids]; rfl

theorem retView_length (o : Outbound) : (retView o).length = o.retained.length := List.length_map _

theorem relView_length (o : Outbound) : (relView o).length = o.release.length := List.length_map _

theorem mem_retView {o : Outbound} {e : RetainedPacket} (he : e ∈ o.retained) :
    (slice o.buf e.offset e.len, e.id, e.state) ∈ retView o := List.mem_map_of_mem he

theorem mem_relView {o : Outbound} {e : PendingRelease} (he : e ∈ o.release) : (e.id, e.state) ∈ relView o :=
  List.mem_map_of_mem he

/-- The queues after `set_written` or `complete_flush` on the PUBREL `id` (`relSet`) or the retained packet `id`
(`retSet`): its send state is `st`. -/
def relSet (o : Outbound) (id : Nat) (st : SendState) : Outbound :=
  { o with release := modifyFirst (fun e => e.id == id) (fun e => { e with state := st }) o.release }
def retSet (o : Outbound) (id : Nat) (st : SendState) : Outbound :=
  { o with retained := modifyFirst (fun e => e.id == id) (fun e => { e with state := st }) o.retained }

/-- `ack_release` when the PUBREL is there. -/
def relDrop (o : Outbound) (id : Nat) : Outbound :=
  { o with release := removeFirst (fun e => e.id == id) o.release }

theorem relView_relSet (o : Outbound) (id : Nat) (st : SendState) :
    relView (relSet o id st) = modifyFirst (fun u => u.1 == id) (fun u => (u.1, st)) (relView o) :=
  modifyFirst_map (fun e : PendingRelease => (e.id, e.state)) (fun e => e.id == id) (fun e => { e with state := st }) _ _
    (fun _ => rfl) (fun _ => rfl) o.release

theorem retView_retSet (o : Outbound) (id : Nat) (st : SendState) :
    retView (retSet o id st) = modifyFirst (fun u => u.2.1 == id) (fun u => (u.1, u.2.1, st)) (retView o) :=
  modifyFirst_map (fun e : RetainedPacket => (slice o.buf e.offset e.len, e.id, e.state)) (fun e => e.id == id)
    (fun e => { e with state := st }) _ _ (fun _ => rfl) (fun _ => rfl) o.retained

theorem relView_relDrop (o : Outbound) (id : Nat) :
    relView (relDrop o id) = removeFirst (fun u => u.1 == id) (relView o) :=
  removeFirst_map (fun e : PendingRelease => (e.id, e.state)) _ (fun u : RelV => u.1 == id) _ (fun _ _ => rfl)

theorem relView_any (o : Outbound) (id : Nat) : (relView o).any (fun u => u.1 == id) = o.hasPendingRelease id :=
  List.any_map

theorem relView_queued (o : Outbound) (e : PendingRelease) (n : Nat) :
    relView { o with release := o.release ++ [e], nextRser := n } = relView o ++ [(e.id, e.state)] :=
  List.map_append

theorem relView_ackPacket (o : Outbound) (id : Nat) (k : AckKind) : relView (o.ackPacket id k).1 = relView o :=
  congrArg (List.map _) (ackPacket_frame o id k).2.1

/-- The view from `contents` and `meta`, which `compact` and `ack_packet` are specified by. -/
theorem retView_eq_zip (o : Outbound) :
    retView o = List.zipWith (fun bs (m : Nat × Nat × SendState × Nat) => (bs, m.1, m.2.2.1)) o.contents o.meta := by
  unfold retView Outbound.contents Minimq.contents Outbound.meta
  rw [List.zipWith_map, List.zipWith_self]

end Quiesce
open Quiesce

structure QV where
  ctl : List (ControlAction × SendState)
  ret : List RetV
  rel : List RelV

def qv (o : Outbound) : QV := ⟨o.control.map fun e => (e.action, e.state), retView o, relView o⟩

def QV.ids (v : QV) : List Nat := v.ret.map (·.2.1) ++ v.rel.map (·.1)

/-- Exchanges in flight: retained PUBLISH packets and PUBRELs. -/
def QV.inflight (v : QV) : Nat := (v.ret.filter fun u => isPubPkt u.1).length + v.rel.length

theorem qv_ids (o : Outbound) : (qv o).ids = o.usedIds := (usedIds_views o).symm

theorem isPubPkt_hd (bs : Bytes) : isPubPkt bs = (hd bs / 16 == MT_Publish) := by cases bs <;> rfl

theorem headerAt_isPub (o : Outbound) (h : o.ArenaInv) (e : RetainedPacket) (he : e ∈ o.retained) :
    isPubPkt (slice o.buf e.offset e.len) = (o.headerAt e.offset / 16 == MT_Publish) := by
  rw [isPubPkt_hd, headerAt_eq_hd o e.offset e.len (h.pos e he)]

/-- `inflight_publishes` reads the first byte of a retained packet in the arena; the view holds it. -/
theorem inflight_qv (o : Outbound) (h : o.ArenaInv) : o.inflightPublishes = (qv o).inflight := by
  unfold inflightPublishes QV.inflight qv retView relView
  simp only [List.filter_map, List.length_map]
  congr 2
  apply List.filter_congr
  intro e he
  simp only [Function.comp, headerAt_isPub o h e he, headerAt]
  cases o.buf[e.offset]? with
  | none => simp [MT_Publish]
  | some x => rw [Bool.eq_iff_iff]; simp

def ackP (id : Nat) (k : AckKind) (u : RetV) : Bool := u.2.1 == id && k.acknowledges (hd u.1)

/-- The moves of the bookkeeping, each with its effect on the number of exchanges in flight. `K` is what is known
of a packet and its identifier when it is retained. -/
inductive QStep (K : Bytes → Nat → Prop) : Int → QV → QV → Prop
  | ctlPush (v : QV) (a : ControlAction) (h : v.ctl.length < MAX_PENDING_CONTROL) :
      QStep K 0 v { v with ctl := v.ctl ++ [(a, .write 0)] }
  | ctlSet (v : QV) (a : ControlAction) (st : SendState) (h : st ≠ .sent) :
      QStep K 0 v { v with ctl := modifyFirst (fun e => e.1 == a) (fun e => (e.1, st)) v.ctl }
  | ctlDone (v : QV) (a : ControlAction) :
      QStep K 0 v { v with
        ctl := (modifyFirst (fun e => e.1 == a) (fun e => (e.1, .sent)) v.ctl).filter (fun e => e.2 ≠ .sent) }
  | ctlDropPing (v : QV) : QStep K 0 v { v with ctl := v.ctl.filter fun e => e.1.typ ≠ MT_PingReq }
  | retSet (v : QV) (id : Nat) (st : SendState) :
      QStep K 0 v { v with ret := modifyFirst (fun u => u.2.1 == id) (fun u => (u.1, u.2.1, st)) v.ret }
  | relSet (v : QV) (id : Nat) (st : SendState) :
      QStep K 0 v { v with rel := modifyFirst (fun u => u.1 == id) (fun u => (u.1, st)) v.rel }
  | retPush (v : QV) (bs : Bytes) (id : Nat) (hk : K bs id) :
      QStep K (if isPubPkt bs then 1 else 0) v { v with ret := v.ret ++ [(bs, id, .write 0)] }
  | retAck (v : QV) (id : Nat) (k : AckKind) (hf : v.ret.any (ackP id k) = true) :
      QStep K (if k = .pubAck ∨ k = .pubRec then -1 else 0) v { v with ret := removeFirst (ackP id k) v.ret }
  | retToRel (v : QV) (id : Nat) (hf : v.ret.any (ackP id .pubRec) = true) (h : v.rel.length < MAX_PENDING_RELEASE) :
      QStep K 0 v { v with ret := removeFirst (ackP id .pubRec) v.ret, rel := v.rel ++ [(id, .write 0)] }
  | relAck (v : QV) (id : Nat) (hf : v.rel.any (fun u => u.1 == id) = true) :
      QStep K (-1) v { v with rel := removeFirst (fun u => u.1 == id) v.rel }
  | replay (v : QV) :
      QStep K 0 v ⟨v.ctl.map fun e => (e.1, .write 0), v.ret.map fun u => (setDup u.1, u.2.1, .write 0),
        v.rel.map fun u => (u.1, .write 0)⟩
  | clear (v : QV) : QStep K (-v.inflight) v ⟨[], [], []⟩

inductive QSteps (K : Bytes → Nat → Prop) : Int → QV → QV → Prop
  | refl (v : QV) : QSteps K 0 v v
  | tail {a b c : QV} {δ δ' : Int} (h : QSteps K δ a b) (st : QStep K δ' b c) : QSteps K (δ + δ') a c

section
variable {K : Bytes → Nat → Prop} {δ δ' : Int} {a b c v v' : QV}

theorem QSteps.one (st : QStep K δ a b) : QSteps K δ a b := Int.zero_add δ ▸ .tail (.refl a) st

theorem QSteps.of_eq (h : b = a) : QSteps K 0 a b := by subst h; exact .refl _

theorem QSteps.trans (h1 : QSteps K δ a b) (h2 : QSteps K δ' b c) : QSteps K (δ + δ') a c := by
  induction h2 with
  | refl => rw [Int.add_zero]; exact h1
  | tail _ st ih => rw [← Int.add_assoc]; exact .tail (ih h1) st

theorem QSteps.inv {P : QV → Prop} (hP : ∀ δ a b, QStep K δ a b → P a → P b) (h : QSteps K δ a b) (ha : P a) : P b := by
  induction h with
  | refl => exact ha
  | tail _ st ih => exact hP _ _ _ st (ih ha)

end

section
variable {K : Bytes → Nat → Prop}

theorem QStep.to {δ : Int} {v w w' : QV} (st : QStep K δ v w) (e : w = w') : QStep K δ v w' := e ▸ st

theorem QV.mk_congr {a a' : List (ControlAction × SendState)} {b b' : List RetV} {c c' : List RelV}
    (ha : a = a') (hb : b = b') (hc : c = c') : QV.mk a b c = QV.mk a' b' c' := by rw [ha, hb, hc]

theorem qv_queueControl {o o' : Outbound} {a : ControlAction} (h : o.queueControl a = some o') :
    QStep K 0 (qv o) (qv o') := by
  obtain ⟨hlt, rfl⟩ := queueControl_some h
  exact (QStep.ctlPush _ a (by simpa [qv] using hlt)).to
    (QV.mk_congr (by simp only [qv, List.map_append, List.map_cons, List.map_nil]) rfl rfl)

theorem qv_queueRelease {o o' : Outbound} {id rc ps : Nat} (h : o.queueRelease id rc ps = some o') :
    (qv o).rel.length < MAX_PENDING_RELEASE ∧ qv o' = { qv o with rel := (qv o).rel ++ [(id, .write 0)] } := by
  obtain ⟨hlt, rfl⟩ := queueRelease_some h
  exact ⟨(relView_length o).symm ▸ hlt, QV.mk_congr rfl rfl (relView_queued o _ _)⟩

theorem qv_ackRelease (o : Outbound) (id : Nat) (hf : (o.ackRelease id).2 = true) :
    QStep K (-1) (qv o) (qv (o.ackRelease id).1) := by
  rw [ackRelease_eq] at hf ⊢
  have hh : o.hasPendingRelease id = true := by
    cases h : o.hasPendingRelease id with
    | true => rfl
    | false => rw [h] at hf; cases hf
  rw [if_pos hh]
  exact (QStep.relAck _ id ((relView_any o id).trans hh)).to (QV.mk_congr rfl rfl (relView_relDrop o id).symm)

theorem qv_ackPacket (o : Outbound) (id : Nat) (k : AckKind) (h : o.ArenaInv) :
    (o.ackPacket id k).2 = (qv o).ret.any (ackP id k) ∧
    ((o.ackPacket id k).2 = true → qv (o.ackPacket id k).1 = { qv o with ret := removeFirst (ackP id k) (qv o).ret }) := by
  have hp : ∀ e ∈ o.retained, ackPred o id k e = ackP id k (slice o.buf e.offset e.len, e.id, e.state) := by
    intro e he
    simp only [ackP, ackPred]
    rw [headerAt_eq_hd o e.offset e.len (h.pos e he)]
  have hany : (retView o).any (ackP id k) = o.retained.any (ackPred o id k) := by
    simp only [retView, List.any_map]
    exact (any_congr_mem _ _ o.retained (fun e he => by simp only [Function.comp_def]; exact hp e he)).symm
  refine ⟨by rw [ackPacket_found_iff]; exact hany.symm, fun hf => ?_⟩
  obtain ⟨hc, hm⟩ := (ackPacket_spec o id k h).2.1 hf
  obtain ⟨-, hrel, hctl, -⟩ := ackPacket_frame o id k
  refine QV.mk_congr (congrArg _ hctl) ?_ (relView_ackPacket o id k)
  rw [retView_eq_zip, hc, hm]
  unfold Minimq.contents
  rw [List.zipWith_map, List.zipWith_self]
  exact removeFirst_map (fun e : RetainedPacket => (slice o.buf e.offset e.len, e.id, e.state)) _ (ackP id k) o.retained hp

theorem qv_setWritten (o : Outbound) (pkt : Flushed) (w len : Nat) : QStep K 0 (qv o) (qv (o.setWritten pkt w len)) := by
  cases pkt with
  | control a =>
    exact (QStep.ctlSet _ a (.afterWrite w len) (by unfold SendState.afterWrite; split <;> exact fun h => nomatch h)).to
      (QV.mk_congr (modifyFirst_map (fun e : PendingControl => (e.action, e.state)) _ _ _ _ (fun _ => rfl) (fun _ => rfl) _).symm
        rfl rfl)
  | release id => exact (QStep.relSet _ id (.afterWrite w len)).to (QV.mk_congr rfl rfl (relView_relSet o id _).symm)
  | retained id => exact (QStep.retSet _ id (.afterWrite w len)).to (QV.mk_congr rfl (retView_retSet o id _).symm rfl)

theorem qv_completeFlush (o : Outbound) (pkt : Flushed) : QStep K 0 (qv o) (qv (o.completeFlush pkt)) := by
  cases pkt with
  | control a =>
    refine (QStep.ctlDone _ a).to (QV.mk_congr ?_ rfl rfl)
    show List.filter _ (modifyFirst _ _ (List.map (fun e : PendingControl => (e.action, e.state)) o.control)) = _
    rw [← modifyFirst_map (fun e : PendingControl => (e.action, e.state)) (fun e => e.action == a)
      (fun e => { e with state := .sent }) _ _ (fun _ => rfl) (fun _ => rfl), List.filter_map]
    rfl
  | release id => exact (QStep.relSet _ id .sent).to (QV.mk_congr rfl rfl (relView_relSet o id _).symm)
  | retained id => exact (QStep.retSet _ id .sent).to (QV.mk_congr rfl (retView_retSet o id _).symm rfl)

theorem qv_encodeAt {ε : Type} (o : Outbound) (enc : Nat → (Nat → Nat → Bytes) → Except ε (Nat × Bytes))
    (h : o.ArenaInv) (he : EncOk enc) : qv (o.encodeAt enc).1 = qv o := by
  obtain ⟨_, hc, hm, _, _, hrel, hctl, _⟩ := encodeAt_spec o enc h he
  exact QV.mk_congr (congrArg _ hctl) (by rw [retView_eq_zip, hc, hm, ← retView_eq_zip]) (congrArg (List.map _) hrel)

theorem qv_retainPacket {o o' : Outbound} {id off len : Nat} (h : o.retainPacket id off len = some o') :
    qv o' = { qv o with ret := (qv o).ret ++ [(slice o.buf off len, id, .write 0)] } := by
  obtain ⟨-, rfl⟩ := retainPacket_some h
  exact QV.mk_congr rfl (by simp only [qv, retView, List.map_append, List.map_cons, List.map_nil]) rfl

theorem qv_dropPingreq (o : Outbound) : QStep K 0 (qv o) (qv o.dropPingreq) := by
  refine (QStep.ctlDropPing _).to (QV.mk_congr ?_ rfl rfl)
  show List.filter _ (List.map _ o.control) = _
  rw [List.filter_map]; rfl

theorem qv_armReplay (o : Outbound) (h : o.ArenaInv) : QStep K 0 (qv o) (qv o.armReplay) := by
  refine (QStep.replay _).to ?_
  obtain ⟨hr, hl, hc, -⟩ := armReplay_queues o
  refine QV.mk_congr ?_ ?_ ?_
  · show (o.control.map _).map _ = o.armReplay.control.map _
    rw [hc, List.map_map, List.map_map]; rfl
  · -- the retained packets: `contents` and `meta`, which `arm_replay` is specified by
    show (retView o).map _ = retView o.armReplay
    have hm : o.armReplay.meta = o.meta.map fun m => (m.1, m.2.1, .write 0, m.2.2.2) := by
      unfold Outbound.meta; rw [hr, List.map_map, List.map_map]; rfl
    rcases (armReplay_spec o h).2.1 with hb | ⟨he, hnil⟩
    · rw [retView_eq_zip, retView_eq_zip, hb, hm, List.zipWith_map, List.map_zipWith]
    · rw [he, retView, hnil]; rfl
  · show (o.release.map _).map _ = o.armReplay.release.map _
    rw [hl, List.map_map, List.map_map]; rfl

theorem qv_rearm (o : Outbound) (h : o.ArenaInv) : QSteps K 0 (qv o) (qv o.rearm) :=
  .tail (.one (qv_dropPingreq o)) (qv_armReplay _ (ArenaInv_of_layout h rfl rfl rfl))

def QV.CtlOk (v : QV) : Prop := v.ctl.length ≤ MAX_PENDING_CONTROL ∧ ∀ e ∈ v.ctl, e.2 ≠ .sent
def QV.Small (v : QV) : Prop := ∀ id ∈ v.ids, id < 65536
def QV.Kinds (K : Bytes → Nat → Prop) (v : QV) : Prop := ∀ u ∈ v.ret, K u.1 u.2.1

variable {δ : Int} {v v' : QV}

theorem QStep.ctlOk (st : QStep K δ v v') (h : v.CtlOk) : v'.CtlOk := by
  cases st with
  | ctlPush _ a hlt =>
    refine ⟨by simp only [List.length_append, List.length_cons, List.length_nil]; omega, fun e he => ?_⟩
    rcases List.mem_append.mp he with he | he
    · exact h.2 e he
    · rw [List.mem_singleton.mp he]; exact fun h => nomatch h
  | ctlSet _ a st hs =>
    refine ⟨by show (modifyFirst _ _ _).length ≤ _; rw [modifyFirst_length]; exact h.1, fun e he => ?_⟩
    rcases modifyFirst_mem _ _ _ e he with he | ⟨x, _, rfl⟩
    · exact h.2 e he
    · exact hs
  | ctlDone _ a =>
    refine ⟨Nat.le_trans (List.length_filter_le _ _) (by rw [modifyFirst_length]; exact h.1), fun e he => ?_⟩
    simpa using (List.mem_filter.mp he).2
  | ctlDropPing => exact ⟨Nat.le_trans (List.length_filter_le _ _) h.1, fun e he => h.2 e (List.mem_filter.mp he).1⟩
  | replay =>
    refine ⟨by show (List.map _ _).length ≤ _; rw [List.length_map]; exact h.1, fun e he => ?_⟩
    obtain ⟨x, _, rfl⟩ := List.mem_map.mp he
    exact fun h => nomatch h
  | clear => exact ⟨Nat.zero_le _, fun e he => nomatch he⟩
  | _ => exact h

theorem any_ackP_id {l : List RetV} {id : Nat} {k : AckKind} (h : l.any (ackP id k) = true) : id ∈ l.map (·.2.1) := by
  obtain ⟨u, hu, hp⟩ := List.any_eq_true.mp h
  simp only [ackP, Bool.and_eq_true, beq_iff_eq] at hp
  exact hp.1 ▸ List.mem_map_of_mem hu

/-- The only identifier a move brings into use is that of a packet it retains (of which `K` holds): a PUBREL takes
the identifier of the PUBLISH it replaces. -/
theorem QStep.ids_sub (st : QStep K δ v v') : ∀ id ∈ v'.ids, id ∈ v.ids ∨ ∃ bs, K bs id := by
  have sub {α} {p : α → Bool} {l : List α} (g : α → Nat) : ∀ x ∈ (removeFirst p l).map g, x ∈ l.map g :=
    fun x hx => ((removeFirst_sublist p l).map g).subset hx
  intro id hid
  cases st with
  | retSet _ i s =>
    left; simp only [QV.ids] at hid ⊢
    rwa [modifyFirst_map_id (fun u : RetV => u.2.1 == i) (fun u : RetV => (u.1, u.2.1, s)) (fun u : RetV => u.2.1) (fun _ => rfl)] at hid
  | relSet _ i s =>
    left; simp only [QV.ids] at hid ⊢
    rwa [modifyFirst_map_id (fun u : RelV => u.1 == i) (fun u : RelV => (u.1, s)) (fun u : RelV => u.1) (fun _ => rfl)] at hid
  | retPush _ bs i hk =>
    simp only [QV.ids, List.map_append, List.map_cons, List.map_nil, List.mem_append, List.mem_singleton] at hid ⊢
    rcases hid with (h | rfl) | h
    · exact .inl (.inl h)
    · exact .inr ⟨bs, hk⟩
    · exact .inl (.inr h)
  | retAck _ i k _ =>
    left; simp only [QV.ids, List.mem_append] at hid ⊢; exact hid.imp_left (sub _ id)
  | retToRel _ i hf _ =>
    left; simp only [QV.ids, List.map_append, List.map_cons, List.map_nil, List.mem_append, List.mem_singleton] at hid ⊢
    rcases hid with h | h | rfl
    · exact .inl (sub _ id h)
    · exact .inr h
    · exact .inl (any_ackP_id hf)
  | relAck _ i _ =>
    left; simp only [QV.ids, List.mem_append] at hid ⊢; exact hid.imp_right (sub _ id)
  | replay =>
    left; simpa only [QV.ids, List.map_map, Function.comp_def] using hid
  | clear => exact nomatch hid
  | _ => exact .inl hid

theorem QStep.small (hK : ∀ bs id, K bs id → id < 65536) (st : QStep K δ v v') (h : v.Small) : v'.Small :=
  fun x hx => (st.ids_sub x hx).elim (h x) (fun ⟨bs, hk⟩ => hK bs x hk)

theorem QStep.kinds {Q : Bytes → Nat → Prop} (hK : ∀ bs id, K bs id → Q bs id)
    (hdup : ∀ bs id, Q bs id → Q (setDup bs) id) (st : QStep K δ v v') (h : v.Kinds Q) : v'.Kinds Q := by
  intro u hu
  cases st with
  | retSet _ i s =>
    rcases modifyFirst_mem _ _ _ u hu with hu | ⟨x, hx, rfl⟩
    · exact h u hu
    · exact h x hx
  | retPush _ bs i hk =>
    rcases List.mem_append.mp hu with hu | hu
    · exact h u hu
    · rw [List.mem_singleton.mp hu]; exact hK _ _ hk
  | retAck | retToRel => exact h u ((removeFirst_sublist _ _).subset hu)
  | replay => obtain ⟨x, hx, rfl⟩ := List.mem_map.mp hu; exact hdup _ _ (h x hx)
  | clear => exact nomatch hu
  | _ => exact h u hu

theorem isPubPkt_setDup (l : Bytes) : isPubPkt (setDup l) = isPubPkt l := by
  cases l with
  | nil => rfl
  | cons x r =>
    show ((dupByte x).toNat / 16 == MT_Publish) = (x.toNat / 16 == MT_Publish)
    rw [(dupByte_parts x).1]

theorem acknowledges_pub (k : AckKind) (hdr : Nat) (h : k.acknowledges hdr = true) :
    (hdr / 16 == MT_Publish) = (k == .pubAck || k == .pubRec) := by
  have : MT_Publish = 3 := rfl
  cases k <;> simp only [AckKind.acknowledges, Bool.and_eq_true, beq_iff_eq] at h
  · simp [h, this]
  · simp [h, this]
  · simp [h.1, this]
  · simp [h.1, this]

theorem ackP_pub {id : Nat} {k : AckKind} {u : RetV} (h : ackP id k u = true) :
    isPubPkt u.1 = decide (k = .pubAck ∨ k = .pubRec) := by
  simp only [ackP, Bool.and_eq_true] at h
  rw [isPubPkt_hd, acknowledges_pub k _ h.2]
  cases k <;> rfl

theorem QStep.inflight (st : QStep K δ v v') : (v'.inflight : Int) = v.inflight + δ := by
  have ack {id k} (hf : v.ret.any (ackP id k) = true) :=
    length_filter_removeFirst (ackP id k) (fun u => isPubPkt u.1) _ (fun _ h => ackP_pub h) _ hf
  cases st with
  | ctlPush | ctlSet | ctlDone | ctlDropPing => exact (Int.add_zero _).symm
  | retSet _ id st =>
    have := length_filter_modifyFirst (fun u : RetV => u.2.1 == id) (fun u => isPubPkt u.1) (fun u => (u.1, u.2.1, st))
      (fun _ => rfl) v.ret
    simp only [QV.inflight, this]; exact (Int.add_zero _).symm
  | relSet => simp only [QV.inflight, modifyFirst_length]; exact (Int.add_zero _).symm
  | retPush _ bs id =>
    have : (List.filter (fun u : RetV => isPubPkt u.1) [(bs, id, .write 0)]).length = if isPubPkt bs then 1 else 0 := by
      rw [List.filter_cons, List.filter_nil]; split <;> rfl
    simp only [QV.inflight, List.filter_append, List.length_append, this]; split <;> omega
  | retAck _ id k hf =>
    have := ack hf
    by_cases hk : k = .pubAck ∨ k = .pubRec <;>
      simp only [QV.inflight, hk, decide_true, decide_false, ↓reduceIte, Bool.false_eq_true] at this ⊢ <;> omega
  | retToRel _ id hf =>
    have := ack hf
    simp only [QV.inflight, List.length_append, List.length_cons, List.length_nil, or_true, decide_true, ↓reduceIte] at this ⊢
    omega
  | relAck _ id hf => have := removeFirst_length _ _ hf; simp only [QV.inflight]; omega
  | replay =>
    simp only [QV.inflight, List.filter_map, List.length_map, Function.comp_def, isPubPkt_setDup]
    exact (Int.add_zero _).symm
  | clear => exact (Int.add_right_neg _).symm

theorem QSteps.inflight {a b : QV} (h : QSteps K δ a b) : (b.inflight : Int) = a.inflight + δ := by
  induction h with
  | refl => omega
  | tail _ st ih => have := st.inflight; omega

/-- A retained QoS 2 PUBLISH is in flight beside every PUBREL. -/
theorem QV.room {id : Nat} (hf : v.ret.any (ackP id .pubRec) = true) : v.rel.length + 1 ≤ v.inflight := by
  obtain ⟨u, hu, hp⟩ := List.any_eq_true.mp hf
  have : 0 < (v.ret.filter fun u => isPubPkt u.1).length :=
    List.length_pos_of_mem (List.mem_filter.mpr ⟨hu, by rw [ackP_pub hp]; rfl⟩)
  unfold QV.inflight; omega

theorem pubRec_room (o : Outbound) (id : Nat) (ha : o.ArenaInv) (hf : (o.ackPacket id .pubRec).2 = true) :
    o.release.length + 1 ≤ o.inflightPublishes := by
  have := QV.room ((qv_ackPacket o id .pubRec ha).1 ▸ hf)
  rwa [← inflight_qv o ha, show (qv o).rel.length = o.release.length from List.length_map _] at this

end
end Minimq
