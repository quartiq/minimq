import Minimq.Proofs.ArenaClosed
import Minimq.Proofs.Release
import Minimq.Proofs.WireSess
/-
The transmission log (ghost field `World.log`) against the retained queue: on one connection the
retained packets are handed to the transport in the order of their serial numbers, each at most once,
the ones recorded as sent are exactly the ones in the log (with the bytes that are in the arena now),
and the ones still waiting have serials above everything in the log (`PLog`). The release queue stands in
the same relation to the PUBREL entries of the log (`RLog`); both spell out `QLog` for their queue (`PLog.q`,
`RLog.q`), and `Log` is the two together.
-/
namespace Minimq
open Gen World Outbound

def LogEntry.ser? (f : LogEntry) : Option Nat :=
  match f.tag with
  | .retained s _ => some s
  | _ => none

def sers (l : List LogEntry) : List Nat := l.filterMap LogEntry.ser?

theorem sers_append (l l' : List LogEntry) : Minimq.sers (l ++ l') = Minimq.sers l ++ sers l' := by
  simp [sers, List.filterMap_append]

def SendState.isWrite : SendState → Bool
  | .write _ => true
  | _ => false

/-- Serial, identifier, send state and current bytes of a retained packet: `PLog` sees the retained queue through
these, without offsets, so that encoding into the scratch space, which compacts first, leaves it alone
(`rows_encodeAt`). -/
structure Row where
  ser : Nat
  id : Nat
  state : SendState
  bytes : Bytes

def rowOf (buf : Bytes) (e : RetainedPacket) : Row := ⟨e.ser, e.id, e.state, slice buf e.offset e.len⟩

def Outbound.rows (o : Outbound) : List Row := o.retained.map (rowOf o.buf)

theorem rows_of_meta_contents (buf buf' : Bytes) (l l' : List RetainedPacket)
    (hm : l'.map (fun e => (e.id, e.len, e.state, e.ser)) = l.map (fun e => (e.id, e.len, e.state, e.ser)))
    (hc : contents buf' l' = contents buf l) : l'.map (rowOf buf') = l.map (rowOf buf) := by
  induction l generalizing l' with
  | nil => cases l' with
    | nil => rfl
    | cons x xs => simp at hm
  | cons e es ih =>
    cases l' with
    | nil => simp at hm
    | cons x xs =>
      simp only [List.map_cons, List.cons.injEq, Prod.mk.injEq, contents] at hm hc
      obtain ⟨⟨h1, _, h3, h4⟩, hm'⟩ := hm
      obtain ⟨hc1, hc'⟩ := hc
      simp only [List.map_cons, List.cons.injEq]
      refine ⟨?_, ih xs hm' hc'⟩
      simp only [rowOf, h1, h3, h4, hc1]

theorem rows_congr {o o' : Outbound} (hm : o'.meta = o.meta) (hc : o'.contents = o.contents) : o'.rows = o.rows :=
  rows_of_meta_contents _ _ _ _ hm hc

/-! ### A queue against the log, in general

The retained queue and the release queue stand in the same relation to the log of a transport; it is stated
once, for a queue `q` of entries with a key (the ghost serial), a send state and the log entry a written
entry leaves, and the list `ks` of the keys found in the log. What each field says is written at `Outbound.PLog`
below, its reading for the retained queue. -/

structure QLog {α : Type} (key : α → Nat) (st : α → SendState) (ent : α → LogEntry) (q : List α) (next : Nat)
    (ks : List Nat) (l : List LogEntry) : Prop where
  sorted : ks.Pairwise (· < ·)
  below : ∀ s ∈ ks, s < next
  written : ∀ x ∈ q, (st x = .sent ∨ st x = .flush) → ent x ∈ l
  unwritten : ∀ x ∈ q, (st x).isWrite = true → ∀ s ∈ ks, s < key x
  ord : (q.map st).Pairwise (fun a b => b ≠ .write 0 → a = .sent)

section
variable {α : Type} {key : α → Nat} {st : α → SendState} {ent : α → LogEntry} {q q' pre post : List α} {e e' : α}
  {next next' : Nat} {ks : List Nat} {l l' : List LogEntry}

theorem QLog.sublist (h : QLog key st ent q next ks l) (hq : q'.Sublist q) (hn : next ≤ next') :
    QLog key st ent q' next' ks l :=
  ⟨h.sorted, fun s hs => Nat.lt_of_lt_of_le (h.below s hs) hn, fun x hx => h.written x (hq.subset hx),
   fun x hx => h.unwritten x (hq.subset hx), h.ord.sublist (hq.map _)⟩

theorem QLog.log_mono (h : QLog key st ent q next ks l) (hl : ∀ f ∈ l, f ∈ l') : QLog key st ent q next ks l' :=
  ⟨h.sorted, h.below, fun x hx hs => hl _ (h.written x hx hs), h.unwritten, h.ord⟩

theorem QLog.append_new (h : QLog key st ent q next ks l) (hk : key e = next) (hs : st e = .write 0) :
    QLog key st ent (q ++ [e]) (next + 1) ks l := by
  refine ⟨h.sorted, fun s hs => Nat.lt_succ_of_lt (h.below s hs),
    List.forall_mem_append.mpr ⟨h.written, List.forall_mem_singleton.mpr fun hst => ?_⟩,
    List.forall_mem_append.mpr ⟨h.unwritten, List.forall_mem_singleton.mpr fun _ s hs' => hk ▸ h.below s hs'⟩, ?_⟩
  · rw [hs] at hst; rcases hst with h1 | h1 <;> cases h1
  · rw [List.map_append, List.pairwise_append]
    exact ⟨h.ord, List.pairwise_singleton _ _, fun a _ c hc hne => absurd (List.mem_singleton.mp hc ▸ hs) hne⟩

theorem QLog.post_fresh (h : QLog key st ent (pre ++ e :: post) next ks l) (hne : st e ≠ .sent) :
    ∀ x ∈ post, st x = .write 0 := by
  intro x hx
  have ho := h.ord
  rw [List.map_append, List.map_cons, List.pairwise_append] at ho
  exact Decidable.by_contra fun hx0 =>
    hne ((List.pairwise_cons.mp ho.2.1).1 (st x) (List.mem_map_of_mem hx) hx0)

/-- The current entry `e` (everything in front of it is `Sent`) is replaced by `e'`, and the log and its keys
grow: what has to be shown is what the invariant says of `e'`, and of the entries behind it if keys were
added. -/
theorem QLog.replace (h : QLog key st ent (pre ++ e :: post) next ks l) (hsent : ∀ x ∈ pre, st x = .sent)
    {ks' : List Nat} (hsorted : ks'.Pairwise (· < ·)) (hbelow : ∀ s ∈ ks', s < next') (hl : ∀ f ∈ l, f ∈ l')
    (hw : (st e' = .sent ∨ st e' = .flush) → ent e' ∈ l')
    (hu : (st e').isWrite = true → ∀ s ∈ ks', s < key e')
    (hpost : ∀ x ∈ post, (st x).isWrite = true → ∀ s ∈ ks', s < key x)
    (ho : st e' = .sent ∨ ∀ x ∈ post, st x = .write 0) :
    QLog key st ent (pre ++ e' :: post) next' ks' l' := by
  have hpre : ∀ x ∈ pre, x ∈ pre ++ e :: post := fun x hx => List.mem_append_left _ hx
  have hpst : ∀ x ∈ post, x ∈ pre ++ e :: post := fun x hx => List.mem_append_right _ (List.mem_cons_of_mem _ hx)
  refine ⟨hsorted, hbelow, ?_, ?_, ?_⟩
  · refine List.forall_mem_append.mpr ⟨fun x hx hs => hl _ (h.written x (hpre x hx) hs),
      List.forall_mem_cons.mpr ⟨hw, fun x hx hs => hl _ (h.written x (hpst x hx) hs)⟩⟩
  · refine List.forall_mem_append.mpr ⟨fun x hx hwr => ?_, List.forall_mem_cons.mpr ⟨hu, hpost⟩⟩
    rw [hsent x hx] at hwr; cases hwr
  · have ho' := h.ord
    rw [List.map_append, List.map_cons, List.pairwise_append, List.pairwise_cons] at ho' ⊢
    refine ⟨ho'.1, ⟨fun c hc hne => ?_, ho'.2.1.2⟩, fun a ha _ _ _ => ?_⟩
    · rcases ho with h1 | h1
      · exact h1
      · obtain ⟨x, hx, rfl⟩ := List.mem_map.mp hc
        exact absurd (h1 x hx) hne
    · obtain ⟨x, hx, rfl⟩ := List.mem_map.mp ha
      exact hsent x hx

theorem QLog.setState_write (h : QLog key st ent (pre ++ e :: post) next ks l) (hsent : ∀ x ∈ pre, st x = .sent)
    (hw : (st e).isWrite = true) {n : Nat} (hs : st e' = .write n) (hk : key e' = key e) :
    QLog key st ent (pre ++ e' :: post) next ks l :=
  h.replace hsent h.sorted h.below (fun _ hf => hf) (fun hst => by rw [hs] at hst; rcases hst with h1 | h1 <;> cases h1)
    (fun _ => hk ▸ h.unwritten e (by simp) hw)
    (fun x hx => h.unwritten x (List.mem_append_right _ (List.mem_cons_of_mem _ hx)))
    (.inr (h.post_fresh fun hs' => by rw [hs'] at hw; cases hw))

theorem QLog.setState_flush (h : QLog key st ent (pre ++ e :: post) next ks l) (hsent : ∀ x ∈ pre, st x = .sent)
    (hinc : ((pre ++ e :: post).map key).Pairwise (· < ·)) (hlt : key e < next)
    (hw : (st e).isWrite = true) (hs : st e' = .flush) :
    QLog key st ent (pre ++ e' :: post) next (ks ++ [key e]) (l ++ [ent e']) := by
  have hbelow_e : ∀ s ∈ ks, s < key e := h.unwritten e (by simp) hw
  rw [List.map_append, List.map_cons, List.pairwise_append] at hinc
  refine h.replace hsent ?_ (List.forall_mem_append.mpr ⟨h.below, List.forall_mem_singleton.mpr hlt⟩)
    (fun _ hf => List.mem_append_left _ hf) (fun _ => List.mem_append_right _ (List.mem_singleton_self _))
    (fun hwr => by rw [hs] at hwr; cases hwr) (fun x hx hwr => ?_)
    (.inr (h.post_fresh fun hs' => by rw [hs'] at hw; cases hw))
  · rw [List.pairwise_append]
    exact ⟨h.sorted, List.pairwise_singleton _ _, fun a ha c hc => List.mem_singleton.mp hc ▸ hbelow_e a ha⟩
  · exact List.forall_mem_append.mpr ⟨h.unwritten x (List.mem_append_right _ (List.mem_cons_of_mem _ hx)) hwr,
      List.forall_mem_singleton.mpr ((List.pairwise_cons.mp hinc.2.1).1 _ (List.mem_map_of_mem hx))⟩

theorem QLog.setState_sent (h : QLog key st ent (pre ++ e :: post) next ks l) (hsent : ∀ x ∈ pre, st x = .sent)
    (hf : st e = .flush) (hs : st e' = .sent) (he : ent e' = ent e) :
    QLog key st ent (pre ++ e' :: post) next ks l :=
  h.replace hsent h.sorted h.below (fun _ hf' => hf') (fun _ => he ▸ h.written e (by simp) (.inr hf))
    (fun hwr => by rw [hs] at hwr; cases hwr)
    (fun x hx => h.unwritten x (List.mem_append_right _ (List.mem_cons_of_mem _ hx))) (.inl hs)

theorem QLog.of_allFresh (h : ∀ x ∈ q, st x = .write 0) : QLog key st ent q next [] [] := by
  refine ⟨.nil, nofun, fun x hx hst => ?_, fun _ _ _ => nofun, ?_⟩
  · rw [h x hx] at hst; rcases hst with h1 | h1 <;> cases h1
  · rw [List.pairwise_map]
    exact List.pairwise_of_forall_mem_list fun _ _ c hc hne => absurd (h c hc) hne
end

/-- The log `l` of the transport with ordinal `k` agrees with the retained queue. -/
structure Outbound.PLog (o : Outbound) (k : Nat) (l : List LogEntry) : Prop where
  /-- Retained packets went out in the order of their serials, none twice. -/
  sorted : (Minimq.sers l).Pairwise (· < ·)
  below : ∀ s ∈ Minimq.sers l, s < o.nextSer
  /-- A packet recorded as written (waiting for its flush, or sent) is in the log, with the bytes that are in the arena. -/
  written : ∀ r ∈ o.rows, (r.state = .sent ∨ r.state = .flush) → (⟨k, .retained r.ser r.id, r.bytes⟩ : LogEntry) ∈ l
  /-- A packet not yet completely written is not in the log, and everything in the log is older. -/
  unwritten : ∀ r ∈ o.rows, r.state.isWrite = true → ∀ s ∈ Minimq.sers l, s < r.ser
  /-- Behind a packet that has been started, nothing has been started: everything in front of a
  started packet is sent. -/
  ord : (o.rows.map (·.state)).Pairwise (fun a b => b ≠ .write 0 → a = .sent)

theorem Outbound.PLog.q {o : Outbound} {k : Nat} {l : List LogEntry} (h : o.PLog k l) :
    QLog Row.ser Row.state (fun r => ⟨k, .retained r.ser r.id, r.bytes⟩) o.rows o.nextSer (Minimq.sers l) l :=
  ⟨h.sorted, h.below, h.written, h.unwritten, h.ord⟩

theorem PLog_of_q {o : Outbound} {k : Nat} {l : List LogEntry}
    (h : QLog Row.ser Row.state (fun r => ⟨k, .retained r.ser r.id, r.bytes⟩) o.rows o.nextSer (Minimq.sers l) l) :
    o.PLog k l :=
  ⟨h.sorted, h.below, h.written, h.unwritten, h.ord⟩

theorem Outbound.PLog.congr {o o' : Outbound} {k : Nat} {l : List LogEntry} (h : o.PLog k l) (hr : o'.rows = o.rows)
    (hn : o'.nextSer = o.nextSer) : o'.PLog k l :=
  PLog_of_q (by rw [hr, hn]; exact h.q)

theorem Outbound.PLog.append_other {o : Outbound} {k : Nat} {l : List LogEntry} (h : o.PLog k l) (f : LogEntry)
    (hf : f.ser? = none) : o.PLog k (l ++ [f]) := by
  have hs : Minimq.sers (l ++ [f]) = Minimq.sers l := by simp [Minimq.sers, hf]
  exact PLog_of_q (by rw [hs]; exact h.q.log_mono fun _ hm => List.mem_append_left _ hm)

theorem rows_compact (o : Outbound) (h : o.ArenaInv) : o.compact.rows = o.rows ∧ o.compact.nextSer = o.nextSer := by
  obtain ⟨_, c2, c3, _, _, _, _, c8⟩ := compact_spec o h
  exact ⟨rows_congr c3 c2, c8⟩

theorem rows_encodeAt {ε : Type} (o : Outbound) (enc : Nat → (Nat → Nat → Bytes) → Except ε (Nat × Bytes))
    (h : o.ArenaInv) (he : EncOk enc) : (o.encodeAt enc).1.rows = o.rows ∧ (o.encodeAt enc).1.nextSer = o.nextSer := by
  obtain ⟨_, c2, c3, _, _, _, _, c8, _⟩ := encodeAt_spec o enc h he
  exact ⟨rows_congr c3 c2, c8⟩

theorem rows_ackPacket (o : Outbound) (id : Nat) (k : AckKind) (h : o.ArenaInv) :
    (o.ackPacket id k).1.rows.Sublist o.rows ∧ (o.ackPacket id k).1.nextSer = o.nextSer := by
  obtain ⟨_, ht, hn, hs, _⟩ := ackPacket_spec o id k h
  refine ⟨?_, hs⟩
  cases hfound : (o.ackPacket id k).2 with
  | false => rw [hn hfound]; exact List.Sublist.refl _
  | true =>
    obtain ⟨hc, hm⟩ := ht hfound
    have : (o.ackPacket id k).1.rows =
        (removeFirst (fun (e : RetainedPacket) => e.id == id && k.acknowledges (o.headerAt e.offset)) o.retained).map (rowOf o.buf) :=
      rows_of_meta_contents _ _ _ _ hm hc
    rw [this]
    exact (removeFirst_sublist _ _).map _

theorem rows_retainPacket (o o' : Outbound) (id off len : Nat) (h : o.ArenaInv)
    (hoff : o.used ≤ off) (hend : off + len ≤ o.buf.length) (hpos : 0 < len) (hr : o.retainPacket id off len = some o') :
    o'.rows = o.rows ++ [⟨o.nextSer, id, .write 0, slice o.buf off len⟩] ∧ o'.nextSer = o.nextSer + 1 := by
  obtain ⟨_, _, _, rb, _, _, rn⟩ := retainPacket_spec o o' id off len h hoff hend hpos hr
  have h1 : o'.retained = _ := congrArg Outbound.retained (retainPacket_some hr).2
  refine ⟨?_, rn⟩
  simp only [Outbound.rows, h1, rb, List.map_append, List.map_cons, List.map_nil, rowOf]

/-- A new retained packet gets a serial above everything in the log. -/
theorem Outbound.PLog.retain {o o' : Outbound} {k : Nat} {l : List LogEntry} (h : o.PLog k l) (r : Row)
    (hrows : o'.rows = o.rows ++ [r]) (hser : r.ser = o.nextSer) (hst : r.state = .write 0) (hn : o'.nextSer = o.nextSer + 1) :
    o'.PLog k l :=
  PLog_of_q (by rw [hrows, hn]; exact h.q.append_new hser hst)

/-- `World.doneFrame` as a function of the queues and the transport ordinal. -/
def Outbound.done (o : Outbound) (k : Nat) (pkt : Flushed) : LogEntry :=
  match pkt with
  | .control a => { net := k, tag := .control a, bytes := ((encodeControl a).toOption).getD [] }
  | .release id =>
    (match o.release.find? (fun e => e.id == id) with
     | some e => { net := k, tag := .release e.rser e.pser id e.rc, bytes := ((encodePubrel id e.rc).toOption).getD [] }
     | none => { net := k, tag := .unknown, bytes := [] })
  | .retained id =>
    (match o.retained.find? (fun e => e.id == id) with
     | some e => { net := k, tag := .retained e.ser id, bytes := o.retainedPacket e.offset e.len }
     | none => { net := k, tag := .unknown, bytes := [] })

theorem doneFrame_eq (w : World) (pkt : Flushed) : w.doneFrame pkt = w.sess.data.outbound.done w.nets.length pkt := by
  unfold World.doneFrame Outbound.done
  cases pkt <;> rfl

/-- What `set_written` records for `pkt`: the entry of a control action, of a release entry or of a retained
entry of the queues — `unknown` if `pkt` names no entry. -/
inductive Outbound.DoneIs (o : Outbound) (k : Nat) : Flushed → LogEntry → Prop
  | control (a : ControlAction) : DoneIs o k (.control a) ⟨k, .control a, ((encodeControl a).toOption).getD []⟩
  | release (e : PendingRelease) (he : e ∈ o.release) :
      DoneIs o k (.release e.id) ⟨k, .release e.rser e.pser e.id e.rc, ((encodePubrel e.id e.rc).toOption).getD []⟩
  | retained (e : RetainedPacket) (he : e ∈ o.retained) :
      DoneIs o k (.retained e.id) ⟨k, .retained e.ser e.id, slice o.buf e.offset e.len⟩
  | unknown (pkt : Flushed) : DoneIs o k pkt ⟨k, .unknown, []⟩

theorem Outbound.done_is (o : Outbound) (k : Nat) (pkt : Flushed) : o.DoneIs k pkt (o.done k pkt) := by
  unfold Outbound.done
  cases pkt with
  | control a => exact .control a
  | release id =>
    dsimp only
    split
    · rename_i e hf
      obtain rfl : e.id = id := by simpa using List.find?_some hf
      exact .release e (List.mem_of_find?_eq_some hf)
    · exact .unknown _
  | retained id =>
    dsimp only
    split
    · rename_i e hf
      obtain rfl : e.id = id := by simpa using List.find?_some hf
      exact .retained e (List.mem_of_find?_eq_some hf)
    · exact .unknown _

theorem World.doneFrame_is (w : World) (pkt : Flushed) : w.sess.data.outbound.DoneIs w.nets.length pkt (w.doneFrame pkt) :=
  doneFrame_eq w pkt ▸ Outbound.done_is ..

section
variable {o : Outbound} {k : Nat} {pkt : Flushed} {f : LogEntry} (h : o.DoneIs k pkt f)
include h

theorem Outbound.DoneIs.net : f.net = k := by cases h <;> rfl

theorem Outbound.DoneIs.of_control {a : ControlAction} (ht : f.tag = .control a) : pkt = .control a := by
  cases h <;> cases ht; rfl

theorem Outbound.DoneIs.of_retained {t i : Nat} (ht : f.tag = .retained t i) :
    ∃ e ∈ o.retained, e.ser = t ∧ e.id = i ∧ f.bytes = slice o.buf e.offset e.len := by
  cases h <;> cases ht
  exact ⟨_, ‹_›, rfl, rfl, rfl⟩

theorem Outbound.DoneIs.of_release {r t id rc : Nat} (ht : f.tag = .release r t id rc) :
    ∃ e ∈ o.release, e.rser = r ∧ e.pser = t ∧ e.id = id ∧ e.rc = rc ∧ f.bytes = ((encodePubrel id rc).toOption).getD [] := by
  cases h <;> cases ht
  exact ⟨_, ‹_›, rfl, rfl, rfl, rfl, rfl⟩
end

def Outbound.stepTag (o : Outbound) : Outbound.Step → Tag
  | .control a _ => .control a
  | .release id rc _ => .release (((o.release.find? (fun e => e.id == id)).map (·.rser)).getD 0)
      (((o.release.find? (fun e => e.id == id)).map (·.pser)).getD 0) id rc
  | .retained id _ _ _ => .retained (((o.retained.find? (fun e => e.id == id)).map (·.ser)).getD 0) id

/-- For the current entry the recorded bytes are the bytes `perform_outbound_step` writes. -/
theorem done_of_slot {o : Outbound} {step : Outbound.Step} {bytes : Bytes} (k : Nat) (hs : o.Slot step)
    (hb : o.StepBytes step bytes) : o.done k step.flushed = ⟨k, o.stepTag step, bytes⟩ := by
  cases hs with
  | control a st rest hc hrest hrel hret =>
    simp only [Outbound.StepBytes] at hb
    simp [Outbound.done, Outbound.Step.flushed, Outbound.stepTag, hb, Except.toOption]
  | release pre id rc st rs ps post hr hpre hpost hctl hret hsent =>
    simp only [Outbound.StepBytes] at hb
    have hf : o.release.find? (fun e => e.id == id) = some ⟨id, rc, st, rs, ps⟩ := by
      rw [hr]; exact find?_hit _ pre _ post (fun x hx => by simp [(hpre x hx).1]) (by simp)
    simp [Outbound.done, Outbound.Step.flushed, Outbound.stepTag, hf, hb, Except.toOption]
  | retained pre e post hr hpre hpost hctl hrel hsent =>
    simp only [Outbound.StepBytes] at hb
    have hf : o.retained.find? (fun x => x.id == e.id) = some e := by
      rw [hr]; exact find?_hit _ pre _ post (fun x hx => by simp [(hpre x hx).1]) (by simp)
    simp [Outbound.done, Outbound.Step.flushed, Outbound.stepTag, hf, hb.1, Outbound.retainedPacket]

theorem done_retained {o : Outbound} {pre post : List RetainedPacket} {e : RetainedPacket} (k : Nat)
    (hr : o.retained = pre ++ e :: post) (hpre : ∀ x ∈ pre, x.id ≠ e.id) :
    o.done k (.retained e.id) = ⟨k, .retained e.ser e.id, slice o.buf e.offset e.len⟩ := by
  have hf : o.retained.find? (fun x => x.id == e.id) = some e := by
    rw [hr]; exact find?_hit _ pre _ post (fun x hx => by simp [hpre x hx]) (by simp)
  simp [Outbound.done, hf, Outbound.retainedPacket]

theorem stepTag_retained {o : Outbound} {pre post : List RetainedPacket} {e : RetainedPacket}
    (hr : o.retained = pre ++ e :: post) (hpre : ∀ x ∈ pre, x.id ≠ e.id) :
    o.stepTag (.retained e.id e.offset e.len e.state) = .retained e.ser e.id := by
  have hf : o.retained.find? (fun x => x.id == e.id) = some e := by
    rw [hr]; exact find?_hit _ pre _ post (fun x hx => by simp [hpre x hx]) (by simp)
  simp [Outbound.stepTag, hf]

/-! ## The release queue against the log; the queue operations

The same agreement for PUBREL entries, in terms of the ghost serial `PendingRelease.rser` (`RLog`), and what the
operations of `Out.lean` do to the two relations. -/

def LogEntry.rser? (f : LogEntry) : Option Nat :=
  match f.tag with
  | .release r _ _ _ => some r
  | _ => none

def relSers (l : List LogEntry) : List Nat := l.filterMap LogEntry.rser?

theorem relSers_append (l l' : List LogEntry) : relSers (l ++ l') = relSers l ++ relSers l' := by
  simp [relSers, List.filterMap_append]

def relEntry (k : Nat) (e : PendingRelease) : LogEntry :=
  ⟨k, .release e.rser e.pser e.id e.rc, ((encodePubrel e.id e.rc).toOption).getD []⟩

theorem relEntry_rser (k : Nat) (e : PendingRelease) : (relEntry k e).rser? = some e.rser := rfl
theorem relEntry_ser (k : Nat) (e : PendingRelease) : (relEntry k e).ser? = none := rfl

/-- The log `l` of the transport with ordinal `k` agrees with the release queue (the fields read as in `PLog`). -/
structure Outbound.RLog (o : Outbound) (k : Nat) (l : List LogEntry) : Prop where
  sorted : (relSers l).Pairwise (· < ·)
  below : ∀ s ∈ relSers l, s < o.nextRser
  written : ∀ e ∈ o.release, (e.state = .sent ∨ e.state = .flush) → relEntry k e ∈ l
  unwritten : ∀ e ∈ o.release, e.state.isWrite = true → ∀ s ∈ relSers l, s < e.rser
  ord : (o.release.map (·.state)).Pairwise (fun a b => b ≠ .write 0 → a = .sent)

theorem Outbound.RLog.q {o : Outbound} {k : Nat} {l : List LogEntry} (h : o.RLog k l) :
    QLog PendingRelease.rser PendingRelease.state (relEntry k) o.release o.nextRser (relSers l) l :=
  ⟨h.sorted, h.below, h.written, h.unwritten, h.ord⟩

theorem RLog_of_q {o : Outbound} {k : Nat} {l : List LogEntry}
    (h : QLog PendingRelease.rser PendingRelease.state (relEntry k) o.release o.nextRser (relSers l) l) : o.RLog k l :=
  ⟨h.sorted, h.below, h.written, h.unwritten, h.ord⟩

theorem Outbound.RLog.congr {o o' : Outbound} {k : Nat} {l : List LogEntry} (h : o.RLog k l) (hr : o'.release = o.release)
    (hn : o'.nextRser = o.nextRser) : o'.RLog k l :=
  RLog_of_q (by rw [hr, hn]; exact h.q)

theorem Outbound.RLog.append_other {o : Outbound} {k : Nat} {l : List LogEntry} (h : o.RLog k l) (f : LogEntry)
    (hf : f.rser? = none) : o.RLog k (l ++ [f]) := by
  have hs : relSers (l ++ [f]) = relSers l := by simp [relSers, hf]
  exact RLog_of_q (by rw [hs]; exact h.q.log_mono fun _ hm => List.mem_append_left _ hm)

theorem done_release {o : Outbound} {pre post : List PendingRelease} {e : PendingRelease} (k : Nat)
    (hr : o.release = pre ++ e :: post) (hpre : ∀ x ∈ pre, x.id ≠ e.id) :
    o.done k (.release e.id) = relEntry k e := by
  have hf : o.release.find? (fun x => x.id == e.id) = some e := by
    rw [hr]; exact find?_hit _ pre _ post (fun x hx => by simp [hpre x hx]) (by simp)
  simp [Outbound.done, hf, relEntry]

theorem done_ser_none_of_release (o : Outbound) (k id : Nat) : (o.done k (.release id)).ser? = none := by
  simp only [Outbound.done]
  split <;> rfl

theorem done_rser_none_of_retained (o : Outbound) (k id : Nat) : (o.done k (.retained id)).rser? = none := by
  simp only [Outbound.done]
  split <;> rfl

/-- The rows around the current retained entry, and the log invariant in that form. -/
theorem Outbound.PLog.split {o : Outbound} {k : Nat} {l : List LogEntry} (h : o.PLog k l)
    {pre post : List RetainedPacket} {e : RetainedPacket} (hr : o.retained = pre ++ e :: post)
    (hsent : ∀ x ∈ pre, x.state = .sent) :
    (∀ (o' : Outbound) e', o'.retained = pre ++ e' :: post → o'.buf = o.buf →
      o'.rows = pre.map (rowOf o.buf) ++ rowOf o.buf e' :: post.map (rowOf o.buf)) ∧
    QLog Row.ser Row.state (fun r => ⟨k, .retained r.ser r.id, r.bytes⟩)
      (pre.map (rowOf o.buf) ++ rowOf o.buf e :: post.map (rowOf o.buf)) o.nextSer (Minimq.sers l) l ∧
    ∀ x ∈ pre.map (rowOf o.buf), x.state = .sent := by
  have hrows : ∀ (o' : Outbound) e', o'.retained = pre ++ e' :: post → o'.buf = o.buf →
      o'.rows = pre.map (rowOf o.buf) ++ rowOf o.buf e' :: post.map (rowOf o.buf) := by
    intro o' e' h1 h2
    rw [Outbound.rows, h1, h2, List.map_append, List.map_cons]
  refine ⟨hrows, by rw [← hrows o e hr rfl]; exact h.q, fun x hx => ?_⟩
  obtain ⟨y, hy, rfl⟩ := List.mem_map.mp hx
  exact hsent y hy

theorem Outbound.PLog.queueControl {o o' : Outbound} {k : Nat} {l : List LogEntry} {a : ControlAction} (h : o.PLog k l)
    (hq : o.queueControl a = some o') : o'.PLog k l := by
  obtain ⟨_, rfl⟩ := queueControl_some hq
  exact h.congr rfl rfl

theorem Outbound.PLog.queueRelease {o o' : Outbound} {k : Nat} {l : List LogEntry} {id rc ps : Nat} (h : o.PLog k l)
    (hq : o.queueRelease id rc ps = some o') : o'.PLog k l := by
  obtain ⟨_, rfl⟩ := queueRelease_some hq
  exact h.congr rfl rfl

theorem Outbound.PLog.ackRelease {o : Outbound} {k : Nat} {l : List LogEntry} (id : Nat) (h : o.PLog k l) :
    (o.ackRelease id).1.PLog k l := by
  unfold Outbound.ackRelease
  split
  · exact h.congr rfl rfl
  · exact h

theorem Outbound.PLog.ackPacket {o : Outbound} {k : Nat} {l : List LogEntry} (id : Nat) (kind : AckKind) (ha : o.ArenaInv)
    (h : o.PLog k l) : (o.ackPacket id kind).1.PLog k l := by
  obtain ⟨h1, h2⟩ := rows_ackPacket o id kind ha
  exact PLog_of_q (h.q.sublist h1 (Nat.le_of_eq h2.symm))

theorem Outbound.PLog.written_entry {o : Outbound} {k : Nat} {l : List LogEntry} (h : o.PLog k l) {e : RetainedPacket}
    (he : e ∈ o.retained) (hst : e.state = .sent ∨ e.state = .flush) :
    (⟨k, .retained e.ser e.id, slice o.buf e.offset e.len⟩ : LogEntry) ∈ l :=
  h.written (rowOf o.buf e) (List.mem_map.mpr ⟨e, he, rfl⟩) hst

theorem Outbound.PLog.unwritten_entry {o : Outbound} {k : Nat} {l : List LogEntry} (h : o.PLog k l) {e : RetainedPacket}
    (he : e ∈ o.retained) {n : Nat} (hst : e.state = .write n) : ∀ s ∈ Minimq.sers l, s < e.ser :=
  h.unwritten (rowOf o.buf e) (List.mem_map.mpr ⟨e, he, rfl⟩) (by simp [rowOf, hst, SendState.isWrite])

theorem Outbound.PLog.ord_entry {o : Outbound} {k : Nat} {l : List LogEntry} (h : o.PLog k l) :
    o.retained.Pairwise (fun a c => c.state ≠ .write 0 → a.state = .sent) := by
  have ho := h.ord
  simp only [Outbound.rows, List.map_map] at ho
  rw [List.pairwise_map] at ho
  exact ho


def LogSorted (l : List LogEntry) : Prop := (Minimq.sers l).Pairwise (· < ·) ∧ (relSers l).Pairwise (· < ·)

theorem LogSorted.nil : LogSorted [] := ⟨by simp [Minimq.sers], by simp [relSers]⟩

structure Outbound.Log (o : Outbound) (k : Nat) (l : List LogEntry) : Prop where
  p : o.PLog k l
  r : o.RLog k l

theorem Outbound.Log.sorted {o : Outbound} {k : Nat} {l : List LogEntry} (h : o.Log k l) : LogSorted l := ⟨h.p.sorted, h.r.sorted⟩

theorem Log_of_allFresh (o : Outbound) (k : Nat) (h1 : ∀ e ∈ o.retained, e.state = .write 0)
    (h2 : ∀ e ∈ o.release, e.state = .write 0) : o.Log k [] :=
  ⟨PLog_of_q (QLog.of_allFresh fun r hr => by obtain ⟨e, he, rfl⟩ := List.mem_map.mp hr; exact h1 e he),
    RLog_of_q (QLog.of_allFresh h2)⟩

theorem Outbound.Log.setWritten {o : Outbound} {k : Nat} {l : List LogEntry} {step : Outbound.Step} {j : Nat}
    (h : o.Log k l) (hser : o.SerInv) (hrel : o.RelInv) (hs : o.Slot step) (hst : step.state = .write j) (wr len : Nat) :
    (wr < len → (o.setWritten step.flushed wr len).Log k l) ∧
    (len ≤ wr → (o.setWritten step.flushed wr len).Log k (l ++ [o.done k step.flushed])) := by
  cases hs with
  | control a st rest hc hrest hrel' hret =>
    have hsame : (o.setWritten (Outbound.Step.flushed (.control a st)) wr len).Log k l := ⟨h.p.congr rfl rfl, h.r.congr rfl rfl⟩
    exact ⟨fun _ => hsame, fun _ => ⟨hsame.p.append_other _ rfl, hsame.r.append_other _ rfl⟩⟩
  | release pre id rc st rs ps post hr hpre hpost hctl hret hsent =>
    have hp : (o.setWritten (.release id) wr len).PLog k l := h.p.congr rfl rfl
    have hw : (⟨id, rc, st, rs, ps⟩ : PendingRelease).state.isWrite = true := by
      show st.isWrite = true
      rw [show st = .write j from hst]; rfl
    have hq := h.r.q
    rw [hr] at hq
    have hr' : (o.setWritten (.release id) wr len).release =
        pre ++ ⟨id, rc, SendState.afterWrite wr len, rs, ps⟩ :: post := by
      simp only [Outbound.setWritten, setReleaseWritten, hr]
      rw [modifyFirst_hit _ _ pre _ post (fun x hx => by simp [(hpre x hx).1]) (by simp)]
    simp only [Outbound.Step.flushed]
    refine ⟨fun hlt => ⟨hp, RLog_of_q ?_⟩, fun hge => ⟨hp.append_other _ (done_ser_none_of_release _ _ _), ?_⟩⟩
    · rw [hr']
      exact hq.setState_write hsent hw (by rw [afterWrite_lt hlt]) rfl
    · rw [done_release (e := ⟨id, rc, st, rs, ps⟩) k hr (fun x hx => (hpre x hx).1)]
      refine RLog_of_q ?_
      rw [hr', relSers_append]
      have hinc := hrel.inc
      rw [Outbound.rsers, hr] at hinc
      exact hq.setState_flush (e' := ⟨id, rc, SendState.afterWrite wr len, rs, ps⟩) hsent hinc
        (hrel.lt _ (by rw [hr]; simp)) hw (by rw [afterWrite_ge hge])
  | retained pre e post hr hpre hpost hctl hrel' hsent =>
    have hr0 : (o.setWritten (.retained e.id) wr len).RLog k l := h.r.congr rfl rfl
    have hw : (rowOf o.buf e).state.isWrite = true := by
      show e.state.isWrite = true
      rw [show e.state = .write j from hst]; rfl
    obtain ⟨hrows, hq, hsent'⟩ := h.p.split hr hsent
    have hr' : (o.setWritten (.retained e.id) wr len).retained =
        pre ++ { e with state := SendState.afterWrite wr len } :: post := by
      simp only [Outbound.setWritten, setRetainedWritten, hr]
      rw [modifyFirst_hit _ _ pre _ post (fun x hx => by simp [(hpre x hx).1]) (by simp)]
    simp only [Outbound.Step.flushed]
    refine ⟨fun hlt => ⟨PLog_of_q ?_, hr0⟩, fun hge => ⟨?_, hr0.append_other _ (done_rser_none_of_retained _ _ _)⟩⟩
    · rw [hrows _ _ hr' rfl]
      exact hq.setState_write hsent' hw (by rw [afterWrite_lt hlt]; rfl) rfl
    · rw [done_retained k hr (fun x hx => (hpre x hx).1)]
      refine PLog_of_q ?_
      rw [hrows _ _ hr' rfl, sers_append]
      have hinc : (o.rows.map Row.ser).Pairwise (· < ·) := by rw [Outbound.rows, List.map_map]; exact hser.inc
      rw [hrows o e hr rfl] at hinc
      exact hq.setState_flush (e' := rowOf o.buf { e with state := SendState.afterWrite wr len }) hsent' hinc
        (hser.lt e (by rw [hr]; simp)) hw (by rw [afterWrite_ge hge]; rfl)

theorem Outbound.Log.completeFlush {o : Outbound} {k : Nat} {l : List LogEntry} {step : Outbound.Step}
    (h : o.Log k l) (hs : o.Slot step) (hst : step.state = .flush) : (o.completeFlush step.flushed).Log k l := by
  cases hs with
  | control a st rest hc hrest hrel hret => exact ⟨h.p.congr rfl rfl, h.r.congr rfl rfl⟩
  | release pre id rc st rs ps post hr hpre hpost hctl hret hsent =>
    have hq := h.r.q
    rw [hr] at hq
    have hr' : (o.completeFlush (.release id)).release = pre ++ ⟨id, rc, .sent, rs, ps⟩ :: post := by
      simp only [Outbound.completeFlush, flushRelease, hr]
      rw [modifyFirst_hit _ _ pre _ post (fun x hx => by simp [(hpre x hx).1]) (by simp)]
    simp only [Outbound.Step.flushed]
    refine ⟨h.p.congr rfl rfl, RLog_of_q ?_⟩
    rw [hr']
    exact hq.setState_sent hsent hst rfl rfl
  | retained pre e post hr hpre hpost hctl hrel hsent =>
    obtain ⟨hrows, hq, hsent'⟩ := h.p.split hr hsent
    have hr' : (o.completeFlush (.retained e.id)).retained = pre ++ { e with state := .sent } :: post := by
      simp only [Outbound.completeFlush, flushRetained, hr]
      rw [modifyFirst_hit _ _ pre _ post (fun x hx => by simp [(hpre x hx).1]) (by simp)]
    simp only [Outbound.Step.flushed]
    refine ⟨PLog_of_q ?_, h.r.congr rfl rfl⟩
    rw [hrows _ _ hr' rfl]
    exact hq.setState_sent hsent' hst rfl rfl

theorem Outbound.RLog.queueControl {o o' : Outbound} {k : Nat} {l : List LogEntry} {a : ControlAction} (h : o.RLog k l)
    (hq : o.queueControl a = some o') : o'.RLog k l := by
  obtain ⟨_, rfl⟩ := queueControl_some hq
  exact h.congr rfl rfl

theorem Outbound.RLog.queueRelease {o o' : Outbound} {k : Nat} {l : List LogEntry} {id rc ps : Nat} (h : o.RLog k l)
    (hq : o.queueRelease id rc ps = some o') : o'.RLog k l := by
  obtain ⟨_, rfl⟩ := queueRelease_some hq
  exact RLog_of_q (h.q.append_new rfl rfl)

theorem Outbound.RLog.ackRelease {o : Outbound} {k : Nat} {l : List LogEntry} (id : Nat) (h : o.RLog k l) :
    (o.ackRelease id).1.RLog k l := by
  unfold Outbound.ackRelease
  split
  · exact RLog_of_q (h.q.sublist (removeFirst_sublist _ _) (Nat.le_refl _))
  · exact h

theorem Outbound.RLog.ackPacket {o : Outbound} {k : Nat} {l : List LogEntry} (id : Nat) (kind : AckKind)
    (h : o.RLog k l) : (o.ackPacket id kind).1.RLog k l :=
  h.congr (ackPacket_frame o id kind).2.1 (ackPacket_nextRser o id kind)

theorem Log_handle (s : Session) (p : Recv) (k : Nat) (l : List LogEntry) (ha : s.data.outbound.ArenaInv)
    (h : s.data.outbound.Log k l) : (s.handle p).1.data.outbound.Log k l := by
  rw [Session.handle_fst_data]
  exact handlePacket_ind (P := (·.Log k l)) s.data s.rt p h (fun id kind => ⟨h.p.ackPacket id kind ha, h.r.ackPacket id kind⟩)
    (fun _ _ _ _ _ hq => ⟨(h.p.ackPacket _ _ ha).queueRelease hq, (h.r.ackPacket _ _).queueRelease hq⟩)
    (fun id => ⟨h.p.ackRelease id, h.r.ackRelease id⟩) (fun _ _ hq => ⟨h.p.queueControl hq, h.r.queueControl hq⟩)

theorem Log_encode {ε : Type} (s : Session) (enc : Nat → (Nat → Nat → Bytes) → Except ε (Nat × Bytes)) {k : Nat}
    {l : List LogEntry} (ha : s.data.outbound.ArenaInv) (he : EncOk enc) (h : s.data.outbound.Log k l) :
    (s.encode enc).1.data.outbound.Log k l := by
  rw [Session.encode_fst]
  obtain ⟨h1, h2⟩ := rows_encodeAt s.data.outbound enc ha he
  exact ⟨h.p.congr h1 h2, h.r.congr (encodeAt_frame _ enc).2.1 (encodeAt_nextRser _ enc)⟩

theorem Log_retain {ε : Type} (s s3 : Session) (enc : Nat → (Nat → Nat → Bytes) → Except ε (Nat × Bytes)) {k : Nat}
    {l : List LogEntry} (ha : s.data.outbound.ArenaInv) (he : EncOk enc) (h : s.data.outbound.Log k l)
    (id off len : Nat) (isPub : Bool) (hres : (s.encode enc).2 = .ok (off, len))
    (hr : (s.encode enc).1.retain id off len isPub = some s3) : s3.data.outbound.Log k l := by
  have h2 := Log_encode s enc ha he h
  rw [Session.encode_snd] at hres
  rw [Session.encode_fst] at hr h2
  obtain ⟨hi, _, _, _, hbl, _, _, _, hpos⟩ := encodeAt_spec s.data.outbound enc ha he
  obtain ⟨p1, p2, p3⟩ := hpos off len hres
  obtain ⟨o, ho, rfl⟩ := Session.retain_some hr
  obtain ⟨r1, r2⟩ := rows_retainPacket _ o id off len hi p1 (by rw [hbl]; exact p2) p3 ho
  refine ⟨h2.p.retain _ r1 rfl rfl r2, ?_⟩
  obtain ⟨_, rfl⟩ := retainPacket_some ho
  exact h2.r.congr rfl rfl

end Minimq
