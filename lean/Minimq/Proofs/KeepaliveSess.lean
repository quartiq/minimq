import Minimq.Proofs.Primitives
/-
Keep-alive bookkeeping of the session (C10): the PINGREQ interval, when `maybe_queue_pingreq` queues a PINGREQ
(`queuePing_spec`), and what every primitive does to the clock — the effective keep-alive, the PINGREQ time
and the ping timeout (`Prim.clock`), from which `KaInv` (keep-alive 0 means no PINGREQ time) is closed and a
running timeout is traced to the PINGREQ that started it.
-/
namespace Minimq
open Gen World Outbound

theorem RT_val : ROUND_TRIP_TIMEOUT_MS = 5000 := rfl

theorem keepaliveSendInterval_none_iff (r : Runtime) : r.keepaliveSendInterval = none ↔ r.keepaliveMs = 0 := by
  unfold Runtime.keepaliveSendInterval
  split <;> simp_all

theorem keepaliveSendInterval_some (r : Runtime) (i : Nat) (h : r.keepaliveSendInterval = some i) :
    r.keepaliveMs ≠ 0 ∧ 0 < i ∧ i ≤ r.keepaliveMs ∧ i + min ROUND_TRIP_TIMEOUT_MS (r.keepaliveMs / 2) = r.keepaliveMs ∧
    (2 * ROUND_TRIP_TIMEOUT_MS ≤ r.keepaliveMs → i = r.keepaliveMs - ROUND_TRIP_TIMEOUT_MS) ∧
    (r.keepaliveMs < 2 * ROUND_TRIP_TIMEOUT_MS → i = r.keepaliveMs - r.keepaliveMs / 2) := by
  unfold Runtime.keepaliveSendInterval at h
  split at h
  · cases h
  · rename_i hk
    cases h
    generalize ROUND_TRIP_TIMEOUT_MS = t
    generalize r.keepaliveMs = k at *
    -- what is subtracted is at most half of `k`
    have hm : min t (k / 2) ≤ k / 2 := Nat.min_le_right _ _
    have hlt : k / 2 < k := Nat.div_lt_self (Nat.pos_of_ne_zero hk) (by decide)
    refine ⟨hk, Nat.sub_pos_of_lt (Nat.lt_of_le_of_lt hm hlt), Nat.sub_le _ _,
      Nat.sub_add_cancel (Nat.le_trans hm (Nat.le_of_lt hlt)), fun h2 => ?_, fun h2 => ?_⟩
    · rw [Nat.min_eq_left ((Nat.le_div_iff_mul_le (by decide)).2 (Nat.mul_comm 2 t ▸ h2))]
    · rw [Nat.min_eq_right (Nat.le_of_lt ((Nat.div_lt_iff_lt_mul (by decide)).2 (Nat.mul_comm 2 t ▸ h2)))]

theorem keepaliveSendInterval_of_pos (r : Runtime) (h : r.keepaliveMs ≠ 0) :
    r.keepaliveSendInterval = some (r.keepaliveMs - min ROUND_TRIP_TIMEOUT_MS (r.keepaliveMs / 2)) := by
  unfold Runtime.keepaliveSendInterval
  rw [if_neg h]

theorem encodeControl_pingReq : encodeControl ControlAction.pingReq = .ok [b 0xC0, b 0] := by
  unfold encodeControl
  have hb : catChunks ([] : List (Except SerErr Bytes)) = .ok [] := rfl
  have ht : ControlAction.pingReq.typ = MT_PingReq := rfl
  simp only [ht, if_true]
  rw [encodeWithOffset_complete hb (by decide) (by decide)]
  rfl

theorem queuePing_spec (s : Session) (now : Nat) :
    (¬ s.pingWanted now → s.queuePing now = .ok s) ∧
    (s.pingWanted now →
      (s.rt.packetTooLarge 2 = true → s.queuePing now = .error .packetTooLarge) ∧
      (s.rt.packetTooLarge 2 = false → MAX_PENDING_CONTROL ≤ s.data.outbound.control.length →
        s.queuePing now = .error .inflightExhausted) ∧
      (s.rt.packetTooLarge 2 = false → s.data.outbound.control.length < MAX_PENDING_CONTROL →
        s.queuePing now = .ok (s.setOutbound { s.data.outbound with
          control := s.data.outbound.control ++ [{ action := ControlAction.pingReq, state := .write 0 }] }))) := by
  have hcs : checkSize s.rt (encodeControl ControlAction.pingReq) =
      if s.rt.packetTooLarge 2 then .error .packetTooLarge else .ok () := by
    rw [encodeControl_pingReq]; rfl
  refine ⟨queuePing_not_wanted s now, fun hw => ?_⟩
  rw [queuePing_eq, (pingWantedB_iff s now).2 hw, hcs]
  refine ⟨?_, ?_, ?_⟩
  · intro hb; simp [hb]
  · intro hb hfull
    simp only [hb, Bool.false_eq_true, if_false, if_true, queueControl]
    rw [if_pos (by omega)]
  · intro hb hroom
    simp only [hb, Bool.false_eq_true, if_false, if_true, queueControl]
    rw [if_neg (by omega)]

theorem hasPendingPingreq_false {o : Outbound} (h : ∀ e ∈ o.control, e.action.typ ≠ MT_PingReq) :
    o.hasPendingPingreq = false := by
  unfold Outbound.hasPendingPingreq
  rw [List.any_eq_false]
  intro e he
  simp [h e he]

/-- `arm_replay` keeps the actions of the control queue, from which `dropPingreq` has filtered the PINGREQs (the
repair of F22). -/
theorem rearm_no_pingreq (o : Outbound) : ∀ e ∈ o.rearm.control, e.action.typ ≠ MT_PingReq :=
  forall_of_map_eq (fun a : ControlAction => a.typ ≠ MT_PingReq) (armReplay_ids o.dropPingreq).1 fun x hx => by
    simpa using (List.mem_filter.1 hx).2

/-- Nothing is queued while a ping timeout is running: with a keep-alive below twice the round-trip bound the next
PINGREQ time falls before the timeout, and is then skipped (finding F12). -/
theorem queuePing_while_waiting (s : Session) (now t : Nat) (h : s.rt.pingTimeout = some t) : s.queuePing now = .ok s :=
  queuePing_not_wanted s now fun hw => nomatch hw.1.symm.trans h

theorem queuePing_no_keepalive (s : Session) (now : Nat) (h : s.rt.nextPing = none) : s.queuePing now = .ok s :=
  queuePing_idle s now (by rw [h]; nofun)

theorem queuePing_early (s : Session) (now np : Nat) (h : s.rt.nextPing = some np) (hlt : now < np) : s.queuePing now = .ok s :=
  queuePing_idle s now (by rw [h]; rintro _ ⟨⟩; exact hlt)

theorem completeFlush_rt (s : Session) (pkt : Flushed) (now : Nat) :
    (s.completeFlush pkt now).rt.nextPing = s.rt.keepaliveSendInterval.map (fun i => now + i * 1000) ∧
    (s.completeFlush pkt now).rt.keepaliveMs = s.rt.keepaliveMs ∧
    (s.completeFlush pkt now).rt.pingTimeout =
      (match pkt with
       | .control a => if a.typ = MT_PingReq then some (now + ROUND_TRIP_TIMEOUT_MS * 1000) else s.rt.pingTimeout
       | _ => s.rt.pingTimeout) := by
  unfold Session.completeFlush
  cases pkt with
  | control a =>
    simp only [Runtime.noteOutboundActivity, Runtime.keepaliveSendInterval]
    split <;> exact ⟨rfl, rfl, rfl⟩
  | release id => exact ⟨rfl, rfl, rfl⟩
  | retained id => exact ⟨rfl, rfl, rfl⟩

theorem noteActivity_rt (s : Session) (now : Nat) :
    (s.noteActivity now).rt.nextPing = s.rt.keepaliveSendInterval.map (fun i => now + i * 1000) ∧
    (s.noteActivity now).rt.keepaliveMs = s.rt.keepaliveMs ∧ (s.noteActivity now).rt.pingTimeout = s.rt.pingTimeout :=
  ⟨rfl, rfl, rfl⟩

theorem handlePacket_pingResp (d : SessionData) (r : Runtime) :
    handlePacket d r .pingResp = (d, { r with pingTimeout := none }, .ok false) := rfl

theorem Session.handle_rt_timing (s : Session) (p : Recv) :
    (s.handle p).1.rt.keepaliveMs = s.rt.keepaliveMs ∧ (s.handle p).1.rt.nextPing = s.rt.nextPing ∧
    ((s.handle p).1.rt.pingTimeout = s.rt.pingTimeout ∨ (s.handle p).1.rt.pingTimeout = none) := by
  rw [Session.handle_fst_rt]
  rcases handlePacket_rt s.data s.rt p with h | h | h <;> rw [h]
  · exact ⟨rfl, rfl, .inl rfl⟩
  · exact ⟨rfl, rfl, .inl rfl⟩
  · exact ⟨rfl, rfl, .inr rfl⟩

def KaInv (s : Session) : Prop := s.rt.keepaliveMs = 0 → s.rt.nextPing = none

theorem KaInv_of_rt {s s' : Session} (h : KaInv s) (hk : s'.rt.keepaliveMs = s.rt.keepaliveMs)
    (hn : s'.rt.nextPing = s.rt.nextPing) : KaInv s' := by
  intro h0; rw [hn]; exact h (hk ▸ h0)

theorem KaInv_of_armed {s' : Session} {now : Nat}
    (hn : s'.rt.nextPing = s'.rt.keepaliveSendInterval.map (fun i => now + i * 1000)) : KaInv s' := by
  intro h0
  rw [hn, (keepaliveSendInterval_none_iff _).2 h0]; rfl

/-- **What a primitive does to the keep-alive clock** (`keepaliveMs`, `nextPing`, `pingTimeout`). It leaves
the keep-alive and the PINGREQ time alone, and the timeout alone or cleared; or it completes a packet, which
re-arms the PINGREQ time from its `now` and — a PINGREQ — starts the timeout; or it stops the clock (disconnect,
`connect`, a rejected CONNACK); or it is an accepted CONNACK, which sets the keep-alive and arms the PINGREQ time. -/
theorem Prim.clock {s s' : Session} (h : Prim s s') :
    (s'.rt.keepaliveMs = s.rt.keepaliveMs ∧ s'.rt.nextPing = s.rt.nextPing ∧
      (s'.rt.pingTimeout = s.rt.pingTimeout ∨ s'.rt.pingTimeout = none)) ∨
    (∃ now, s'.rt.keepaliveMs = s.rt.keepaliveMs ∧
      s'.rt.nextPing = s.rt.keepaliveSendInterval.map (fun i => now + i * 1000) ∧
      (s'.rt.pingTimeout = s.rt.pingTimeout ∨
        ∃ a, a.typ = MT_PingReq ∧ s' = s.completeFlush (.control a) now ∧
          s'.rt.pingTimeout = some (now + ROUND_TRIP_TIMEOUT_MS * 1000))) ∨
    (s'.rt.keepaliveMs = s.rt.keepaliveMs ∧ s'.rt.nextPing = none ∧ s'.rt.pingTimeout = none) ∨
    (∃ now, s'.rt.nextPing = s'.rt.keepaliveSendInterval.map (fun i => now + i * 1000) ∧ s'.rt.pingTimeout = none) := by
  cases h with
  | queuePing _ _ _ hq => rcases Session.queuePing_ok hq with rfl | ⟨o, _, rfl⟩ <;> exact .inl ⟨rfl, rfl, .inl rfl⟩
  | completeFlush _ pkt now =>
    obtain ⟨h1, h2, h3⟩ := completeFlush_rt s pkt now
    refine .inr (.inl ⟨now, h2, h1, ?_⟩)
    cases pkt with
    | control a =>
      by_cases ha : a.typ = MT_PingReq
      · exact .inr ⟨a, ha, rfl, h3.trans (if_pos ha)⟩
      · exact .inl (h3.trans (if_neg ha))
    | release id => exact .inl h3
    | retained id => exact .inl h3
  | takePkt => rw [Session.takePkt_fst]; exact .inl ⟨rfl, rfl, .inl rfl⟩
  | handle _ p => exact .inl (Session.handle_rt_timing s p)
  | activate _ sp block now =>
    rcases s.activate_cases sp block now with e | e <;> rw [e]
    · exact .inr (.inr (.inr ⟨now, (activated_keepalive s sp block now).2.2.1, (activated_keepalive s sp block now).2.2.2⟩))
    · exact .inr (.inr (.inl ⟨by cases sp <;> rfl, rfl, rfl⟩))
  | alloc => rw [Session.alloc_fst]; exact .inl ⟨rfl, rfl, .inl rfl⟩
  | encodeConnect | encodeScratch => rw [Session.encode_fst]; exact .inl ⟨rfl, rfl, .inl rfl⟩
  | encodeAfterAlloc => rw [Session.alloc_encode_fst]; exact .inl ⟨rfl, rfl, .inl rfl⟩
  | enqueue _ _ _ _ isPub _ _ _ _ _ _ hres hr =>
    obtain ⟨o, _, _, rfl⟩ := Session.enqueue_some hres hr
    cases isPub <;> exact .inl ⟨rfl, rfl, .inl rfl⟩
  | noteActivity _ now => exact .inr (.inl ⟨now, rfl, rfl, .inl rfl⟩)
  | window _ _ _ hw => obtain ⟨rd, _, rfl⟩ := Session.window_some hw; exact .inl ⟨rfl, rfl, .inl rfl⟩
  | handleDisconnect | clearPing | beginConnect => exact .inr (.inr (.inl ⟨rfl, rfl, rfl⟩))
  | setWritten | commit | setPid => exact .inl ⟨rfl, rfl, .inl rfl⟩

theorem closed_KaInv : Closed KaInv :=
  (closed_iff_prim _).2 fun s s' p h => by
    rcases p.clock with ⟨hk, hn, _⟩ | ⟨now, hk, hn, _⟩ | ⟨_, hn, _⟩ | ⟨now, hn, _⟩
    · exact KaInv_of_rt h hk hn
    · exact KaInv_of_armed (hn.trans (by unfold Runtime.keepaliveSendInterval; rw [hk]))
    · exact fun _ => hn
    · exact KaInv_of_armed hn

end Minimq
