import Minimq.Proofs.WireAck
import Minimq.Proofs.PrimFrame
import Minimq.Proofs.KeepaliveSess
/-
Keep-alive 0 sends no PINGREQ, session level (C10): the predicates that `Proofs/NoPing.lean` lifts to all
executions, and what every session primitive does to them.

`NpCore s L l` (session `s`, ordinal `L` of the current transport, transmission log `l`): whenever the
effective keep-alive is 0 there is no PINGREQ timer, no PINGREQ in the control queue, and no PINGREQ entry of
transport `L` in the log. `NpHs s L l` is what holds between `beginConnect` (the resets of
`Session::connect`) and the CONNACK: the same three facts whatever the (old) keep-alive — `arm_replay` has
dropped every queued PINGREQ, the timer is cleared, and the log of the new transport is empty.

Every primitive other than `activate` preserves `NpCore` (it does not change the keep-alive; a PINGREQ is
queued only when the timer is armed, which it is not under keep-alive 0). `activate` — the only primitive that
sets the keep-alive — yields `NpCore` from `NpHs`; from `NpCore` alone it would not (a PINGREQ queued under
the old keep-alive could survive a CONNACK with session present and Server Keep Alive 0 — that is finding
F22; `arm_replay` drops such a PINGREQ, which is what `NpHs` records).
-/
namespace Minimq
open Gen World Outbound

def Outbound.acts (o : Outbound) : List ControlAction := o.control.map (·.action)

def NoPingQ (o : Outbound) : Prop := ∀ a ∈ o.acts, a.typ ≠ MT_PingReq

def NoPingL (L : Nat) (l : List LogEntry) : Prop :=
  ∀ f ∈ l, f.net = L → ∀ a, f.tag = .control a → a.typ ≠ MT_PingReq

theorem NoPingQ.iff {o : Outbound} : NoPingQ o ↔ ∀ e ∈ o.control, e.action.typ ≠ MT_PingReq :=
  ⟨fun h e he => h e.action (List.mem_map_of_mem he), fun h a ha => by
    obtain ⟨e, he, rfl⟩ := List.mem_map.mp ha
    exact h e he⟩

structure NpCore (s : Session) (L : Nat) (l : List LogEntry) : Prop where
  ka : KaInv s
  q : s.rt.keepaliveMs = 0 → NoPingQ s.data.outbound
  l : s.rt.keepaliveMs = 0 → NoPingL L l

structure NpHs (s : Session) (L : Nat) (l : List LogEntry) : Prop where
  np : s.rt.nextPing = none
  q : NoPingQ s.data.outbound
  l : NoPingL L l

theorem NpHs.core {s : Session} {L : Nat} {l : List LogEntry} (h : NpHs s L l) : NpCore s L l :=
  ⟨fun _ => h.np, fun _ => h.q, fun _ => h.l⟩

theorem NoPingQ.sub {o o' : Outbound} (h : NoPingQ o) (hs : ∀ a ∈ o'.acts, a ∈ o.acts) : NoPingQ o' :=
  fun a ha => h a (hs a ha)

theorem acts_congr {o o' : Outbound} (hs : o'.control = o.control) : ∀ a ∈ o'.acts, a ∈ o.acts :=
  fun a ha => by unfold Outbound.acts at ha ⊢; rw [hs] at ha; exact ha

theorem NoPingQ.congr {o o' : Outbound} (h : NoPingQ o) (hs : o'.control = o.control) : NoPingQ o' :=
  h.sub (acts_congr hs)

theorem NoPingL.nil (L : Nat) : NoPingL L [] := by intro f hf; simp at hf

theorem acts_setWritten (o : Outbound) (pkt : Flushed) (a c : Nat) : (o.setWritten pkt a c).acts = o.acts := by
  cases pkt with
  | control x => exact acts_modifyFirst_state _ _ _
  | release id => rfl
  | retained id => rfl

theorem acts_completeFlush_sub (o : Outbound) (pkt : Flushed) : ∀ a ∈ (o.completeFlush pkt).acts, a ∈ o.acts := by
  cases pkt with
  | release id => intro a ha; exact ha
  | retained id => intro a ha; exact ha
  | control x =>
    intro a ha
    simp only [Outbound.acts, Outbound.completeFlush, Outbound.flushControl, List.mem_map, List.mem_filter] at ha
    obtain ⟨e, ⟨he, _⟩, rfl⟩ := ha
    have : e.action ∈ (modifyFirst (fun e => e.action == x) (fun e => { e with state := .sent }) o.control).map (·.action) :=
      List.mem_map.mpr ⟨e, he, rfl⟩
    rw [acts_modifyFirst_state] at this
    exact this

theorem noPingQ_rearm (o : Outbound) : NoPingQ o.rearm := NoPingQ.iff.2 (rearm_no_pingreq o)

/-- Handling an inbound packet appends the acknowledgement owed for it, if anything — never a PINGREQ. -/
theorem handlePacket_noPingQ {d : SessionData} (r : Runtime) (p : Recv) (h : NoPingQ d.outbound) :
    NoPingQ (handlePacket d r p).1.outbound := by
  intro a ha
  rw [Outbound.acts, handlePacket_control_exact, List.map_append, List.map_map, List.mem_append] at ha
  rcases ha with ha | ha
  · exact h a ha
  · rw [show (PendingControl.action ∘ fun a => ⟨a, .write 0⟩) = id from rfl, List.map_id] at ha
    rcases ackOwed_typ (ackOwed_of_recorded ha) with ht | ht | ht <;> rw [ht] <;> decide

section
variable {L : Nat} {l : List LogEntry}

theorem NpCore.same {s s' : Session} (h : NpCore s L l) (hk : s'.rt.keepaliveMs = s.rt.keepaliveMs)
    (hn : s'.rt.nextPing = s.rt.nextPing) (hc : ∀ a ∈ s'.data.outbound.acts, a ∈ s.data.outbound.acts) : NpCore s' L l :=
  ⟨KaInv_of_rt h.ka hk hn, fun h0 => (h.q (hk ▸ h0)).sub hc, fun h0 => h.l (hk ▸ h0)⟩

theorem NpCore.same_ctl {s s' : Session} (h : NpCore s L l) (hr : s'.rt = s.rt)
    (hc : s'.data.outbound.control = s.data.outbound.control) : NpCore s' L l :=
  h.same (by rw [hr]) (by rw [hr]) (acts_congr hc)

theorem NpHs.same_ctl {s s' : Session} (h : NpHs s L l) (hn : s'.rt.nextPing = s.rt.nextPing)
    (hc : s'.data.outbound.control = s.data.outbound.control) : NpHs s' L l :=
  ⟨by rw [hn]; exact h.np, h.q.congr hc, h.l⟩

theorem NpCore.of_ne {s : Session} (hk : s.rt.keepaliveMs ≠ 0) : NpCore s L l :=
  ⟨fun h => absurd h hk, fun h => absurd h hk, fun h => absurd h hk⟩

theorem NpCore.queuePing {s s' : Session} {now : Nat} (h : NpCore s L l) (hq : s.queuePing now = .ok s') : NpCore s' L l := by
  by_cases hk : s.rt.keepaliveMs = 0
  · have : s.queuePing now = .ok s := queuePing_no_keepalive s now (h.ka hk)
    rw [this] at hq
    cases hq
    exact h
  · exact NpCore.of_ne (by rw [queuePing_rt hq]; exact hk)

theorem NpCore.completeFlush {s : Session} (h : NpCore s L l) (pkt : Flushed) (now : Nat) : NpCore (s.completeFlush pkt now) L l := by
  have hk : (s.completeFlush pkt now).rt.keepaliveMs = s.rt.keepaliveMs := (completeFlush_rt s pkt now).2.1
  refine ⟨closed_KaInv.completeFlush s pkt now h.ka, fun h0 => ?_, fun h0 => h.l (hk ▸ h0)⟩
  refine (h.q (hk ▸ h0)).sub ?_
  rw [Session.completeFlush_outbound]
  exact acts_completeFlush_sub _ _

theorem NpCore.setWritten {s : Session} (h : NpCore s L l) (pkt : Flushed) (a c : Nat) : NpCore (s.setWritten pkt a c) L l := by
  refine h.same rfl rfl ?_
  rw [Session.setWritten_outbound, acts_setWritten]
  exact fun _ ha => ha

theorem NpCore.takePkt {s : Session} (h : NpCore s L l) : NpCore s.takePkt.1 L l :=
  h.same_ctl (Session.takePkt_data s).2 (by rw [(Session.takePkt_data s).1])

theorem NpHs.takePkt {s : Session} (h : NpHs s L l) : NpHs s.takePkt.1 L l :=
  h.same_ctl (by rw [(Session.takePkt_data s).2]) (by rw [(Session.takePkt_data s).1])

theorem NpCore.handle {s : Session} (h : NpCore s L l) (p : Recv) : NpCore (s.handle p).1 L l := by
  obtain ⟨h1, h2, _⟩ := Session.handle_rt_timing s p
  refine ⟨KaInv_of_rt h.ka h1 h2, fun h0 => ?_, fun h0 => h.l (h1 ▸ h0)⟩
  rw [Session.handle_fst_data]
  exact handlePacket_noPingQ s.rt p (h.q (h1 ▸ h0))

theorem NpCore.handleDisconnect {s : Session} (h : NpCore s L l) : NpCore s.handleDisconnect L l :=
  ⟨fun _ => rfl, fun _ => noPingQ_rearm _, fun h0 => h.l h0⟩

theorem NpCore.alloc {s : Session} (h : NpCore s L l) : NpCore s.alloc.1 L l :=
  h.same_ctl (Session.alloc_rt s) (alloc_ctl s).1

theorem NpCore.encode {ε : Type} {s : Session} (h : NpCore s L l) (enc : Nat → (Nat → Nat → Bytes) → Except ε (Nat × Bytes)) :
    NpCore (s.encode enc).1 L l :=
  h.same_ctl (encode_rt s enc) (encode_ctl s enc).1

theorem NpHs.encode {ε : Type} {s : Session} (h : NpHs s L l) (enc : Nat → (Nat → Nat → Bytes) → Except ε (Nat × Bytes)) :
    NpHs (s.encode enc).1 L l :=
  h.same_ctl (by rw [encode_rt]) (encode_ctl s enc).1

theorem retain_timing {s s3 : Session} {id off len : Nat} {isPub : Bool} (hr : s.retain id off len isPub = some s3) :
    s3.rt.keepaliveMs = s.rt.keepaliveMs ∧ s3.rt.nextPing = s.rt.nextPing := by
  obtain ⟨_, _, rfl⟩ := Session.retain_some hr
  exact ⟨rfl, rfl⟩

theorem NpCore.retain {s s3 : Session} {id off len : Nat} {isPub : Bool} (h : NpCore s L l)
    (hr : s.retain id off len isPub = some s3) : NpCore s3 L l :=
  h.same (retain_timing hr).1 (retain_timing hr).2 (acts_congr (retain_ctl hr).1)

theorem NpCore.noteActivity {s : Session} (h : NpCore s L l) (now : Nat) : NpCore (s.noteActivity now) L l :=
  ⟨closed_KaInv.noteActivity s now h.ka, h.q, h.l⟩

theorem NpCore.window {s s' : Session} {n : Nat} (h : NpCore s L l) (hw : s.window = some (s', n)) : NpCore s' L l :=
  by obtain ⟨_, _, rfl⟩ := Session.window_some hw; exact h.same_ctl rfl rfl

theorem NpHs.window {s s' : Session} {n : Nat} (h : NpHs s L l) (hw : s.window = some (s', n)) : NpHs s' L l :=
  by obtain ⟨_, _, rfl⟩ := Session.window_some hw; exact h.same_ctl rfl rfl

theorem NpCore.commit {s : Session} (h : NpCore s L l) (bytes : Bytes) : NpCore (s.commit bytes) L l := h.same_ctl rfl rfl
theorem NpHs.commit {s : Session} (h : NpHs s L l) (bytes : Bytes) : NpHs (s.commit bytes) L l := h.same_ctl rfl rfl
theorem NpCore.setPid {s : Session} (h : NpCore s L l) (n : Nat) : NpCore (s.setPid n) L l := h.same_ctl rfl rfl
theorem NpHs.clearPing {s : Session} (h : NpHs s L l) : NpHs s.clearPing L l := ⟨rfl, h.q, h.l⟩

theorem NpHs.beginConnect (s : Session) (hl : NoPingL L l) : NpHs s.beginConnect L l :=
  ⟨rfl, noPingQ_rearm _, hl⟩

theorem NpCore.log_append {s : Session} (h : NpCore s L l) (f : LogEntry)
    (hf : s.rt.keepaliveMs = 0 → ∀ a, f.tag = .control a → a.typ ≠ MT_PingReq) : NpCore s L (l ++ [f]) :=
  ⟨h.ka, h.q, fun h0 => List.forall_mem_append.mpr ⟨h.l h0, List.forall_mem_singleton.mpr fun _ => hf h0⟩⟩

/-- The only primitive that sets the keep-alive: from the handshake state it yields `NpCore`, whatever the
CONNACK says (accepted: the queue is what it was or empty, the timer is armed iff the new keep-alive is not 0;
rejected: `handle_disconnect`). -/
theorem NpHs.activate {s : Session} (h : NpHs s L l) (sp : Bool) (block : Bytes) (now : Nat) :
    NpCore (s.activate sp block now).1 L l := by
  rcases s.activate_cases sp block now with e | e <;> rw [e]
  · refine ⟨KaInv_of_armed (activated_keepalive s sp block now).2.2.1, fun _ => ?_, fun _ => h.l⟩
    -- the queue is what it was, or empty after the reset for a fresh session
    show NoPingQ (s.preActivate sp).data.outbound
    unfold Session.preActivate
    split
    · exact fun a ha => nomatch ha
    · exact h.q
  · exact ⟨fun _ => rfl, fun _ => noPingQ_rearm _, fun _ => h.l⟩

theorem Prim.keepalive {s s' : Session} (h : Prim s s') :
    s'.rt.keepaliveMs = s.rt.keepaliveMs ∨ ∃ sp block now, s' = (s.activate sp block now).1 := by
  rcases h.frame with ⟨sp, block, now, rfl⟩ | ⟨_, _, _, _, _, _, _, _, _, rfl⟩
  · exact .inr ⟨sp, block, now, rfl⟩
  · exact .inl rfl

end
end Minimq
