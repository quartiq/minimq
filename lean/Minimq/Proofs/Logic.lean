/-
Pure logic: conditionals, `Bool` and `Except`, chains of steps of a relation. Nothing here mentions the model.
-/
namespace Minimq

/-- To show `P` of a conditional without looking at the branches. In the walks over the machine functions
`refine ite_ind (P := …) (fun hc => ?_) (fun hc => ?_)` takes the place of `split` on an `if` at the head of a
function body: `split` rewrites the whole remaining body, this unifies once. -/
theorem ite_ind {α : Sort _} {P : α → Prop} {c : Prop} [Decidable c] {a b : α} (ha : c → P a) (hb : ¬ c → P b) :
    P (if c then a else b) := by
  split
  · exact ha ‹_›
  · exact hb ‹_›

theorem rel_ite {α β : Sort _} {R : α → β → Prop} {c : Prop} [Decidable c] {x x' : α} {y y' : β}
    (h1 : c → R x y) (h2 : ¬ c → R x' y') : R (if c then x else x') (if c then y else y') := by
  by_cases hc : c
  · rw [if_pos hc, if_pos hc]; exact h1 hc
  · rw [if_neg hc, if_neg hc]; exact h2 hc

/-- For the non-vacuity examples: `Except` has no decidable equality, its `toOption` has. -/
theorem Except.eq_ok_of_toOption {ε α : Type} {x : Except ε α} {a : α} (h : x.toOption = some a) : x = .ok a := by
  cases x with
  | error e => cases h
  | ok v => cases h; rfl

theorem not_not_eq_true {b : Bool} (h : ¬ (!b) = true) : b = true := by simpa using h
theorem eq_false_of_not_eq_true {b : Bool} (h : (!b) = true) : b = false := by simpa using h
theorem and_of_not_not {a b : Bool} (h : ¬ (!(a && b)) = true) : a = true ∧ b = true := by
  cases a <;> cases b <;> simp_all

/-- Chains of `r`-steps: the reflexive-transitive closure of `r`, extended at the far end. -/
inductive Steps {α : Type} (r : α → α → Prop) : α → α → Prop
  | refl (a : α) : Steps r a a
  | tail {a b c : α} : Steps r a b → r b c → Steps r a c

namespace Steps
variable {α : Type} {r : α → α → Prop}

theorem one {a b : α} (h : r a b) : Steps r a b := (refl a).tail h

theorem trans {a b c : α} (h1 : Steps r a b) (h2 : Steps r b c) : Steps r a c := by
  induction h2 with
  | refl => exact h1
  | tail _ st ih => exact ih.tail st

theorem lift {R : α → α → Prop} (refl : ∀ a, R a a) (trans : ∀ {a b c}, R a b → R b c → R a c)
    (step : ∀ {a b}, r a b → R a b) {a b : α} (h : Steps r a b) : R a b := by
  induction h with
  | refl => exact refl _
  | tail _ st ih => exact trans ih (step st)

theorem mono {r' : α → α → Prop} (hr : ∀ a b, r a b → r' a b) {a b : α} (h : Steps r a b) : Steps r' a b :=
  h.lift .refl .trans fun st => .one (hr _ _ st)

theorem inv {I : α → Prop} (hI : ∀ a b, r a b → I a → I b) {a b : α} (h : Steps r a b) (ha : I a) : I b :=
  h.lift (R := fun a b => I a → I b) (fun _ => id) (fun f g => g ∘ f) (hI _ _) ha

end Steps

end Minimq
