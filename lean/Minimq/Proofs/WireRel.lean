import Minimq.Proofs.WireQuota
import Minimq.Proofs.ReleaseStep
/-
The PUBREL entries of the transmission log, across all transports (C03 on the wire).

`RHist`: a predicate on session and log, preserved by every primitive and by `World.setWritten`
(`HClosed`, hence an invariant of every program): the ghost data of the release queue and of the PUBREL
log entries is consistent — serials below the counters, the PUBLISH a release entry continues is no
longer retained, identifiers agree, two log entries with the same release serial are the same PUBREL,
and in the log every transmission of that PUBLISH precedes every transmission of the PUBREL.

`RTraced`: on top of it, every release serial was created by one particular step of the execution: the
handling of a successful PUBREC that removed the retained PUBLISH in the same step.
-/
namespace Minimq
open Gen World Outbound

theorem rser_inj {o : Outbound} (h : o.RelInv) {e1 e2 : PendingRelease} (h1 : e1 ∈ o.release) (h2 : e2 ∈ o.release)
    (he : e1.rser = e2.rser) : e1 = e2 := pairwise_lt_inj _ h.inc h1 h2 he

/-- The ghost data of the release queue (fields `q…`) and of the PUBREL entries of the log (fields `l…`, `order`),
on all transports. -/
structure RHist (s : Session) (l : List LogEntry) : Prop where
  hist : Hist s l
  rel : s.data.outbound.RelInv
  qgone : ∀ e ∈ s.data.outbound.release,
    e.pser < s.data.outbound.nextSer ∧ e.pser ∉ s.data.outbound.sers ∧ e.rc = RC_Success
  qid : ∀ e ∈ s.data.outbound.release, ∀ f ∈ l, ∀ i, f.tag = .retained e.pser i → i = e.id ∧ isPubPkt f.bytes = true
  qinj : ∀ e1 ∈ s.data.outbound.release, ∀ e2 ∈ s.data.outbound.release, e1.pser = e2.pser → e1.rser = e2.rser
  lbelow : ∀ g ∈ l, ∀ r t id rc, g.tag = .release r t id rc →
    r < s.data.outbound.nextRser ∧ t < s.data.outbound.nextSer ∧ t ∉ s.data.outbound.sers ∧ rc = RC_Success ∧
    g.bytes = pubrelBytes id rc
  lcur : ∀ g ∈ l, ∀ e ∈ s.data.outbound.release, ∀ r t id rc, g.tag = .release r t id rc → (r = e.rser ∨ t = e.pser) →
    r = e.rser ∧ t = e.pser ∧ id = e.id ∧ rc = e.rc
  lsame : ∀ g ∈ l, ∀ g' ∈ l, ∀ r t id rc r' t' id' rc', g.tag = .release r t id rc → g'.tag = .release r' t' id' rc' →
    (r = r' ∨ t = t') → r = r' ∧ t = t' ∧ id = id' ∧ rc = rc'
  lid : ∀ g ∈ l, ∀ f ∈ l, ∀ r t id rc i, g.tag = .release r t id rc → f.tag = .retained t i → i = id ∧ isPubPkt f.bytes = true
  order : l.Pairwise (fun a c => ∀ r t id rc, a.tag = .release r t id rc → c.ser? ≠ some t)

theorem RHist.prim {s s' : Session} (l : List LogEntry) (hp : Prim s s') (h : RHist s l) : RHist s' l := by
  have hh' := Hist.prim l hp h.hist
  obtain ⟨_, hkeeps, _⟩ := hp.out.ostep h.hist.inv
  have hrel' : s'.data.outbound.RelInv := closed_RelP.prim hp h.rel
  have hnr := hp.step.relStep.1
  have hns : s.data.outbound.nextSer ≤ s'.data.outbound.nextSer := hkeeps.1
  have gone : ∀ t, t < s.data.outbound.nextSer → t ∉ s.data.outbound.sers → t ∉ s'.data.outbound.sers :=
    fun t h1 h2 => hkeeps.gone_stays_gone h1 h2
  -- the PUBLISH removed by a PUBREC that creates a release entry
  have hnew : ∀ id rs, s' = (s.handle (.pubRec id rs)).1 → s.data.pubrecCreates s.rt id rs = true →
      ∃ x ∈ s.data.outbound.retained, x.ser = s.data.outbound.ackedSer id .pubRec ∧ x.id = id ∧
        isPubPkt (slice s.data.outbound.buf x.offset x.len) = true ∧ x.ser ∉ s'.data.outbound.sers := by
    intro id rs hs' hc
    obtain ⟨_, _, _, l1, x, l2, hr, _, hid, hack, hser, hkeys⟩ := pubrecCreates_spec hc
    have hx : x ∈ s.data.outbound.retained := by rw [hr]; simp
    refine ⟨x, hx, hser.symm, hid, ?_, ?_⟩
    · rw [headerAt_isPub _ h.hist.inv.1 x hx, acknowledges_pub _ _ hack]; rfl
    · subst hs'
      rw [sers_eq_keys, Session.handle_fst_data, hkeys, List.map_map]
      exact SerInv.removed_gone h.hist.inv.2 hr
  -- …was retained before the step, so no older release entry continues it
  have hmix : ∀ a ∈ s.data.outbound.release, ∀ id rs, s' = (s.handle (.pubRec id rs)).1 →
      s.data.pubrecCreates s.rt id rs = true → a.pser ≠ s.data.outbound.ackedSer id .pubRec := by
    intro a ha id rs hs' hc heq
    obtain ⟨x, hx, hxs, _⟩ := hnew id rs hs' hc
    exact (h.qgone a ha).2.1 (by rw [heq, ← hxs]; exact List.mem_map_of_mem hx)
  refine ⟨hh', hrel', ?_, ?_, ?_, ?_, ?_, h.lsame, h.lid, h.order⟩
  · refine hp.step.release_ind
      (P := fun _ t _ rc => t < s'.data.outbound.nextSer ∧ t ∉ s'.data.outbound.sers ∧ rc = RC_Success)
      (fun e he => ?_) (fun id rs hs' hc => ?_)
    · obtain ⟨h1, h2, h3⟩ := h.qgone e he
      exact ⟨Nat.lt_of_lt_of_le h1 hns, gone _ h1 h2, h3⟩
    · obtain ⟨x, hx, hxs, _, _, hxg⟩ := hnew id rs hs' hc
      rw [← hxs]
      exact ⟨Nat.lt_of_lt_of_le (h.hist.inv.2.lt x hx) hns, hxg, rfl⟩
  · refine hp.step.release_ind
      (P := fun _ t id _ => ∀ f ∈ l, ∀ i, f.tag = .retained t i → i = id ∧ isPubPkt f.bytes = true)
      h.qid (fun id rs hs' hc f hf i ht => ?_)
    obtain ⟨x, hx, hxs, hxid, hxp, _⟩ := hnew id rs hs' hc
    have hc := h.hist.cur f hf x hx i (by rw [hxs]; exact ht)
    exact ⟨hc.1.trans hxid, by rw [isPubPkt_of_unDup_eq hc.2]; exact hxp⟩
  · -- qinj: two old entries by `h.qinj`; an old one and the new one never continue the same PUBLISH
    exact hp.step.release_ind
      (P := fun r1 t1 _ _ => ∀ e2 ∈ s'.data.outbound.release, t1 = e2.pser → r1 = e2.rser)
      (fun a1 ha1 => hp.step.release_ind (P := fun r2 t2 _ _ => a1.pser = t2 → a1.rser = r2) (h.qinj a1 ha1)
        fun id rs hs' hc heq => absurd heq (hmix a1 ha1 id rs hs' hc))
      (fun id1 rs1 hs1 hc1 => hp.step.release_ind
        (P := fun r2 t2 _ _ => s.data.outbound.ackedSer id1 .pubRec = t2 → s.data.outbound.nextRser = r2)
        (fun a2 ha2 heq => absurd heq.symm (hmix a2 ha2 id1 rs1 hs1 hc1)) fun _ _ _ _ _ => rfl)
  · intro g hg r t id rc ht
    obtain ⟨h1, h2, h3, h4, h5⟩ := h.lbelow g hg r t id rc ht
    exact ⟨Nat.lt_of_lt_of_le h1 hnr, Nat.lt_of_lt_of_le h2 hns, gone _ h2 h3, h4, h5⟩
  · -- lcur: a PUBREL in the log is older than the entry a PUBREC creates, and its PUBLISH is gone
    intro g hg
    refine hp.step.release_ind
      (P := fun r' t' id' rc' => ∀ r t id rc, g.tag = .release r t id rc → (r = r' ∨ t = t') →
        r = r' ∧ t = t' ∧ id = id' ∧ rc = rc')
      (h.lcur g hg) (fun id' rs hs' hc r t id rc ht hor => ?_)
    exfalso
    obtain ⟨h1, _, h3, _⟩ := h.lbelow g hg r t id rc ht
    obtain ⟨x, hx, hxs, _⟩ := hnew id' rs hs' hc
    rcases hor with hr | htt
    · exact Nat.lt_irrefl _ (hr ▸ h1)
    · exact h3 (by rw [htt, ← hxs]; exact List.mem_map_of_mem hx)

theorem doneFrame_release_after (w : World) (pkt : Flushed) (a c r t id rc : Nat)
    (ht : (w.doneFrame pkt).tag = .release r t id rc) :
    ∃ e' ∈ (w.sess.setWritten pkt a c).data.outbound.release, e'.rser = r ∧ e'.pser = t ∧ e'.id = id ∧ e'.rc = rc ∧
      (w.doneFrame pkt).bytes = pubrelBytes id rc := by
  obtain ⟨e, he, rfl, rfl, rfl, rfl, hb⟩ := (w.doneFrame_is pkt).of_release ht
  obtain ⟨e', he', h1, h2, h3, h4⟩ := forall_of_map_eq (fun t => ∃ e' ∈ (w.sess.setWritten pkt a c).data.outbound.release,
      e'.rser = t.1 ∧ e'.pser = t.2.1 ∧ e'.id = t.2.2.1 ∧ e'.rc = t.2.2.2)
    (w.sess.setWritten_states pkt a c).relTags.symm (fun e' he' => ⟨e', he', rfl, rfl, rfl, rfl⟩) e he
  exact ⟨e', he', h1, h2, h3, h4, by rw [hb, encodePubrel_eq]; rfl⟩

theorem RHist.append (w : World) (pkt : Flushed) (a c : Nat) (h : RHist w.sess w.log)
    (h1 : RHist (w.sess.setWritten pkt a c) w.log) : RHist (w.sess.setWritten pkt a c) (w.log ++ [w.doneFrame pkt]) := by
  have hhist' := Hist.append w pkt a c h.hist h1.hist
  have hP := doneFrame_retained_after w pkt a c
  have hR := doneFrame_release_after w pkt a c
  -- each field: the old entries by `h1`, the new one by `hP`/`hR`
  refine ⟨hhist', h1.rel, h1.qgone, ?_, h1.qinj, ?_, ?_, ?_, ?_, ?_⟩
  · exact fun e he => List.forall_mem_append.mpr ⟨h1.qid e he,
      List.forall_mem_singleton.mpr fun i ht => absurd (hP _ _ ht) (h1.qgone e he).2.1⟩
  · refine List.forall_mem_append.mpr ⟨h1.lbelow, List.forall_mem_singleton.mpr fun r t id rc ht => ?_⟩
    obtain ⟨e', he', rfl, rfl, rfl, rfl, hb⟩ := hR r t id rc ht
    obtain ⟨q1, q2, q3⟩ := h1.qgone e' he'
    exact ⟨h1.rel.lt e' he', q1, q2, q3, hb⟩
  · refine List.forall_mem_append.mpr ⟨h1.lcur, List.forall_mem_singleton.mpr fun e he r t id rc ht hor => ?_⟩
    obtain ⟨e', he', rfl, rfl, rfl, rfl, _⟩ := hR r t id rc ht
    have : e' = e := rser_inj h1.rel he' he (hor.elim id (h1.qinj e' he' e he))
    subst this
    exact ⟨rfl, rfl, rfl, rfl⟩
  · refine List.forall_mem_append.mpr ⟨fun g hg => List.forall_mem_append.mpr ⟨h1.lsame g hg,
        List.forall_mem_singleton.mpr fun r t id rc r' t' id' rc' ht ht' hor => ?_⟩,
      List.forall_mem_singleton.mpr (List.forall_mem_append.mpr ⟨fun g' hg' r t id rc r' t' id' rc' ht ht' hor => ?_,
        List.forall_mem_singleton.mpr fun r t id rc r' t' id' rc' ht ht' _ => Tag.release.inj (ht.symm.trans ht')⟩)⟩
    · obtain ⟨e', he', rfl, rfl, rfl, rfl, _⟩ := hR r' t' id' rc' ht'
      exact h1.lcur g hg e' he' r t id rc ht hor
    · obtain ⟨e', he', rfl, rfl, rfl, rfl, _⟩ := hR r t id rc ht
      have := h1.lcur g' hg' e' he' r' t' id' rc' ht' (hor.imp Eq.symm Eq.symm)
      exact ⟨this.1.symm, this.2.1.symm, this.2.2.1.symm, this.2.2.2.symm⟩
  · refine List.forall_mem_append.mpr ⟨fun g hg => List.forall_mem_append.mpr ⟨h1.lid g hg,
        List.forall_mem_singleton.mpr fun r t id rc i ht hft => absurd (hP _ _ hft) (h1.lbelow g hg r t id rc ht).2.2.1⟩,
      List.forall_mem_singleton.mpr (List.forall_mem_append.mpr ⟨fun f hf r t id rc i ht hft => ?_,
        List.forall_mem_singleton.mpr fun r t id rc i ht hft => by rw [ht] at hft; cases hft⟩)⟩
    obtain ⟨e', he', rfl, rfl, rfl, rfl, _⟩ := hR r t id rc ht
    exact h1.qid e' he' f hf i hft
  · rw [List.pairwise_append]
    refine ⟨h1.order, by simp, fun x hx y hy r t id rc ht hs => ?_⟩
    rw [List.mem_singleton.mp hy] at hs
    obtain ⟨i, hti⟩ := LogEntry.ser?_eq_some.mp hs
    exact (h1.lbelow x hx r t id rc ht).2.2.1 (hP _ _ hti)

theorem RHist_init (cfg : Cfg) : RHist (Session.new cfg) [] := by
  refine ⟨Hist_init cfg, RelP_new cfg, ?_, ?_, ?_, ?_, ?_, ?_, ?_, List.Pairwise.nil⟩
  · intro e he; simp [Session.new, Outbound.new] at he
  · intro e he; simp [Session.new, Outbound.new] at he
  · intro e he; simp [Session.new, Outbound.new] at he
  · intro g hg; simp at hg
  · intro g hg; simp at hg
  · intro g hg; simp at hg
  · intro g hg; simp at hg

theorem Quiesce.Produced.rhist {W : World} (h : Quiesce.Produced W) : RHist W.sess W.log := by
  obtain ⟨cfg, ds, rfl⟩ := h
  exact hrun (.of_append RHist.prim RHist.append) ds _ (RHist_init cfg)


/-- The release serial `r` was created in the step from `a` to `b`: the handling of a PUBREC for `id` with a
success code, which removed the retained QoS 2 PUBLISH with serial `t` and appended the release entry. -/
def CreatedAt (a b : Session) (r t id : Nat) : Prop :=
  ∃ rs, b = (a.handle (.pubRec id rs)).1 ∧ reasonSuccess rs.rc = true ∧ a.rt.packetTooLarge 5 = false ∧
    a.data.outbound.nextRser = r ∧ b.data.outbound.nextRser = r + 1 ∧
    b.data.outbound.release = a.data.outbound.release ++ [⟨id, RC_Success, .write 0, r, t⟩] ∧
    ∃ l₁ e l₂, a.data.outbound.retained = l₁ ++ e :: l₂ ∧ (∀ x ∈ l₁, ackPred a.data.outbound id .pubRec x = false) ∧
      e.ser = t ∧ e.id = id ∧ AckKind.pubRec.acknowledges (a.data.outbound.headerAt e.offset) = true ∧
      b.data.outbound.keys = (l₁ ++ l₂).map RetainedPacket.key

theorem createdAt_of_creates {s : Session} {id : Nat} {rs : ReasonIn} (hc : s.data.pubrecCreates s.rt id rs = true) :
    CreatedAt s (s.handle (.pubRec id rs)).1 s.data.outbound.nextRser (s.data.outbound.ackedSer id .pubRec) id := by
  obtain ⟨h1, h2, _, l₁, e, l₂, e1, e2, e3, e4, e5, e6⟩ := pubrecCreates_spec hc
  have hrel := (handlePacket_frame s.data s.rt (.pubRec id rs)).release
  have hnext := (handlePacket_frame s.data s.rt (.pubRec id rs)).nextRser
  simp only [] at hrel hnext
  rw [hc] at hrel hnext
  simp only [if_true] at hrel hnext
  refine ⟨rs, rfl, h1, h2, rfl, ?_, ?_, l₁, e, l₂, e1, e2, e5.symm, e3, e4, ?_⟩
  · rw [Session.handle_fst_data]; exact hnext
  · rw [Session.handle_fst_data]; exact hrel
  · rw [Session.handle_fst_data]; exact e6

/-- The history of the release serials: each, in the queue or in the log, was created by one
particular earlier step. -/
structure RTraced (I : Session → Prop) (s0 s : Session) (l : List LogEntry) : Prop where
  hist : RHist s l
  inv : I s
  reach : Reach I s0 s
  queue : ∀ e ∈ s.data.outbound.release,
    ∃ a b, Reach I s0 a ∧ SessStep a b ∧ Reach I b s ∧ CreatedAt a b e.rser e.pser e.id
  logged : ∀ g ∈ l, ∀ r t id rc, g.tag = .release r t id rc →
    ∃ a b, Reach I s0 a ∧ SessStep a b ∧ Reach I b s ∧ CreatedAt a b r t id

theorem RTraced.prim {I : Session → Prop} (hI : Closed I) {s0 s s' : Session} (l : List LogEntry) (hp : Prim s s')
    (h : RTraced I s0 s l) : RTraced I s0 s' l := by
  have hi' : I s' := hI.prim hp h.inv
  refine ⟨RHist.prim l hp h.hist, hi', h.reach.tail hp.step hi', ?_, ?_⟩
  · exact hp.step.release_ind
      (P := fun r t id _ => ∃ a b, Reach I s0 a ∧ SessStep a b ∧ Reach I b s' ∧ CreatedAt a b r t id)
      (fun e he => Reach.passed_tail (h.queue e he) hp.step hi')
      (fun id rs hs' hc => by subst hs'; exact ⟨s, _, h.reach, hp.step, Reach.refl _, createdAt_of_creates hc⟩)
  · intro g hg r t id rc ht
    exact Reach.passed_tail (h.logged g hg r t id rc ht) hp.step hi'

theorem hclosed_RTraced {I : Session → Prop} (hI : Closed I) (s0 : Session) : HClosed (RTraced I s0) :=
  .of_append (RTraced.prim hI) fun w pkt a c h h1 =>
    ⟨RHist.append w pkt a c h.hist h1.hist, h1.inv, h1.reach, h1.queue, List.forall_mem_append.mpr ⟨h1.logged,
      List.forall_mem_singleton.mpr fun r t id rc ht => by
        obtain ⟨e', he', rfl, rfl, rfl, _⟩ := doneFrame_release_after w pkt a c r t id rc ht
        exact h1.queue e' he'⟩⟩

theorem RTraced_init {I : Session → Prop} (cfg : Cfg) (h : I (Session.new cfg)) :
    RTraced I (Session.new cfg) (Session.new cfg) [] :=
  ⟨RHist_init cfg, h, Reach.refl _, by intro e he; simp [Session.new, Outbound.new] at he, by intro g hg; simp at hg⟩

end Minimq
