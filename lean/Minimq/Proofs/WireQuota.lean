import Minimq.Proofs.PrimFrame
import Minimq.Proofs.Quota
import Minimq.Proofs.WireHist
/-
The send window (C06) against the transmission log.

 * counting: distinct serials that occur in the log on a PUBLISH and are still retained are at most
   `pubCount` many, hence (window invariant) together with the release entries at most `maxSendQuota`;
 * once a CONNACK has been accepted `maxSendQuota` is at most the local limit (`MaxQ`; that only an accepted
   CONNACK writes it, with min(Receive Maximum, local limit), is `C06_max_quota_set_only_by_connack` in
   `Theorems/C06Wire.lean`);
 * every retained packet in the log is still retained or was removed by one particular step, the
   handling of its acknowledgement or the CONNACK of a fresh session (`ResolvedAt`, `Traced`).
-/
namespace Minimq
open Gen World Outbound

/-- Whether a packet is a PUBLISH is decided by the type nibble, which DUP does not touch. -/
theorem isPubPkt_of_unDup_eq {a c : Bytes} (h : unDup a = unDup c) : isPubPkt a = isPubPkt c := by
  obtain ⟨hl, _, hh⟩ := unDup_eq h
  cases a with
  | nil => cases c with
    | nil => rfl
    | cons y ys => cases hl
  | cons x xs => cases c with
    | nil => cases hl
    | cons y ys => exact congrArg (· == MT_Publish) (hh x y rfl rfl).1

def Outbound.pubSers (o : Outbound) : List Nat :=
  (o.retained.filter (fun e => isPubPkt (slice o.buf e.offset e.len))).map (·.ser)

theorem pubSers_length (o : Outbound) : o.pubSers.length = o.pubCount := by
  unfold Outbound.pubSers Outbound.pubCount Outbound.contents contents
  rw [List.length_map, List.filter_map, List.length_map]
  rfl

def LogEntry.isPublish (f : LogEntry) : Bool :=
  match f.tag with
  | .retained _ _ => isPubPkt f.bytes
  | _ => false

theorem LogEntry.ser?_eq_some {f : LogEntry} {t : Nat} : f.ser? = some t ↔ ∃ i, f.tag = .retained t i := by
  unfold LogEntry.ser?
  split
  · rename_i s i heq
    rw [heq, Option.some.injEq]
    exact ⟨fun h => ⟨i, by rw [h]⟩, fun ⟨_, h⟩ => (Tag.retained.inj h).1⟩
  · rename_i hno
    exact ⟨nofun, fun ⟨i, h⟩ => (hno t i h).elim⟩

theorem LogEntry.isPublish_of_tag {f : LogEntry} {t i : Nat} (h : f.tag = .retained t i) : f.isPublish = isPubPkt f.bytes := by
  unfold LogEntry.isPublish; rw [h]

theorem Hist.pubSer {s : Session} {l : List LogEntry} (h : Hist s l) {f : LogEntry} (hf : f ∈ l) {t : Nat}
    (ht : f.ser? = some t) (hp : f.isPublish = true) (hs : t ∈ s.data.outbound.sers) : t ∈ s.data.outbound.pubSers := by
  obtain ⟨e, he, hser⟩ := List.mem_map.mp hs
  obtain ⟨i, htag⟩ := LogEntry.ser?_eq_some.mp ht
  rw [LogEntry.isPublish_of_tag htag] at hp
  have hc := h.cur f hf e he i (by rw [hser]; exact htag)
  refine List.mem_map.mpr ⟨e, List.mem_filter.mpr ⟨he, ?_⟩, hser⟩
  show isPubPkt (slice s.data.outbound.buf e.offset e.len) = true
  rw [← isPubPkt_of_unDup_eq hc.2]; exact hp

theorem Hist.window {s : Session} {l : List LogEntry} (h : Hist s l) (hq : QuotaP s) (hd : s.rt.deficit = false)
    (ts : List Nat) (hn : ts.Nodup)
    (hts : ∀ t ∈ ts, t ∈ s.data.outbound.sers ∧ ∃ f ∈ l, f.ser? = some t ∧ f.isPublish = true) :
    ts.length + s.data.outbound.release.length ≤ s.rt.maxSendQuota := by
  have hc : ts.length ≤ s.data.outbound.pubCount := by
    rw [← pubSers_length]
    refine nodup_subset_length ts _ hn (fun t ht => ?_)
    obtain ⟨hs, f, hf, hser, hp⟩ := hts t ht
    exact h.pubSer hf hser hp hs
  have hi := inflight_eq s.data.outbound hq.1.1
  rcases hq.2 with hdef | hw
  · rw [hd] at hdef; cases hdef
  · omega

theorem sers_length_of_all (l : List LogEntry) (h : ∀ f ∈ l, f.ser? ≠ none) : (sers l).length = l.length := by
  induction l with
  | nil => rfl
  | cons x xs ih =>
    have hx := h x (by simp)
    cases hs : x.ser? with
    | none => exact absurd hs hx
    | some t =>
      simp only [sers, List.filterMap_cons, hs, List.length_cons]
      exact congrArg (· + 1) (ih (fun f hf => h f (by simp [hf])))

/-- The entry is a PUBLISH of a retained packet whose serial is still in the retained queue: the
PUBLISH has been transmitted and neither its PUBACK nor its PUBREC has been handled. -/
def Outbound.awaitsAck (o : Outbound) (f : LogEntry) : Bool :=
  match f.tag with
  | .retained t _ => isPubPkt f.bytes && o.sers.contains t
  | _ => false

theorem awaitsAck_iff (o : Outbound) (f : LogEntry) :
    o.awaitsAck f = true ↔ ∃ t i, f.tag = .retained t i ∧ isPubPkt f.bytes = true ∧ t ∈ o.sers := by
  unfold Outbound.awaitsAck
  cases htag : f.tag with
  | retained t i =>
    simp only [Bool.and_eq_true, List.contains_iff_mem, Tag.retained.injEq]
    constructor
    · intro h; exact ⟨t, i, ⟨rfl, rfl⟩, h.1, h.2⟩
    · rintro ⟨t', i', ⟨rfl, rfl⟩, h1, h2⟩; exact ⟨h1, h2⟩
  | control a => simp
  | release a c => simp
  | unknown => simp

theorem awaitsAck_spec {o : Outbound} {f : LogEntry} (h : o.awaitsAck f = true) :
    ∃ t, f.ser? = some t ∧ f.isPublish = true ∧ t ∈ o.sers := by
  obtain ⟨t, i, htag, hp, hs⟩ := (awaitsAck_iff o f).mp h
  exact ⟨t, LogEntry.ser?_eq_some.mpr ⟨i, htag⟩, by rw [LogEntry.isPublish_of_tag htag]; exact hp, hs⟩

/-- On a log whose serials increase (one untorn transport): the entries awaiting their acknowledgement
plus the release entries are within `maxSendQuota`. -/
theorem Hist.window_log {s : Session} {l l' : List LogEntry} (h : Hist s l) (hq : QuotaP s) (hd : s.rt.deficit = false)
    (hsub : l'.Sublist l) (hsorted : (sers l').Pairwise (· < ·)) :
    (l'.filter s.data.outbound.awaitsAck).length + s.data.outbound.release.length ≤ s.rt.maxSendQuota := by
  have hall : ∀ f ∈ l'.filter s.data.outbound.awaitsAck, f.ser? ≠ none := by
    intro f hf
    obtain ⟨t, ht, _⟩ := awaitsAck_spec (List.mem_filter.mp hf).2
    rw [ht]; simp
  rw [← sers_length_of_all _ hall]
  refine h.window hq hd _ ((hsorted.sublist (List.filter_sublist.filterMap _)).imp Nat.ne_of_lt) ?_
  intro t ht
  obtain ⟨f, hf, hser⟩ := List.mem_filterMap.mp ht
  obtain ⟨hfl, hfa⟩ := List.mem_filter.mp hf
  obtain ⟨t', ht', hp, hs⟩ := awaitsAck_spec hfa
  rw [hser] at ht'
  simp only [Option.some.injEq] at ht'
  subst ht'
  exact ⟨hs, f, hsub.subset hfl, hser, hp⟩

def MaxQ (s : Session) : Prop := s.data.everAccepted = true → s.rt.maxSendQuota ≤ maxInflight

theorem closed_MaxQ : Closed MaxQ :=
  (closed_iff_prim MaxQ).2 fun s s' hp h hacc => by
    rcases hp.kinds with ⟨_, _, _, _, _, _, _, _, _, rfl⟩ | ⟨sp, block, now, _, _, _, rfl⟩ | ⟨sp, _, _, _, _, _, rfl⟩
    · exact h hacc
    · show (connackSettings (s.preActivate sp).rt.configuredKeepaliveMs block).2.1 ≤ _
      rw [(connackSettings_quota _ block).2]; exact negotiatedQuota_le block
    · cases sp <;> exact h hacc

theorem Quiesce.Produced.maxQ {W : World} (h : Quiesce.Produced W) : MaxQ W.sess := by
  obtain ⟨cfg, ds, rfl⟩ := h
  exact run_inv closed_MaxQ ds { sess := Session.new cfg } (fun h => by cases h)

/-- The retained packet with serial `t`, of which `f` records a transmission, left the retained queue
in the step from `a` to `b` (`Removal`); until then the arena held, up to the DUP bit, the bytes that `f` records. -/
def ResolvedAt (a b : Session) (f : LogEntry) (t : Nat) : Prop :=
  Removal a b t ∧ ∃ e ∈ a.data.outbound.retained, e.ser = t ∧
    unDup f.bytes = unDup (slice a.data.outbound.buf e.offset e.len)

/-- The history of the logged packets: each is still retained, or one particular earlier step resolved it. -/
structure Traced (I : Session → Prop) (s0 s : Session) (l : List LogEntry) : Prop where
  hist : Hist s l
  inv : I s
  reach : Reach I s0 s
  each : ∀ f ∈ l, ∀ t i, f.tag = .retained t i → t ∈ s.data.outbound.sers ∨
    ∃ a b, Reach I s0 a ∧ SessStep a b ∧ Reach I b s ∧ ResolvedAt a b f t

theorem Traced.prim {I : Session → Prop} (hI : Closed I) {s0 s s' : Session} (l : List LogEntry) (hp : Prim s s')
    (h : Traced I s0 s l) : Traced I s0 s' l := by
  have hi' : I s' := hI.prim hp h.inv
  refine ⟨Hist.prim l hp h.hist, hi', h.reach.tail hp.step hi', ?_⟩
  intro f hf t i ht
  rcases h.each f hf t i ht with hs | hres
  · by_cases hs' : t ∈ s'.data.outbound.sers
    · exact Or.inl hs'
    · right
      obtain ⟨e, he, hser⟩ := List.mem_map.mp hs
      have hc := h.hist.cur f hf e he i (by rw [hser]; exact ht)
      exact ⟨s, s', h.reach, hp.step, Reach.refl _, hp.step.loss hs hs', e, he, hser, hc.2⟩
  · exact Or.inr (Reach.passed_tail hres hp.step hi')

theorem setWritten_sers (o : Outbound) (pkt : Flushed) (a c : Nat) : (o.setWritten pkt a c).sers = o.sers := by
  have := congrArg (List.map (·.1)) (o.setWritten_states pkt a c).retained
  rw [List.map_map, List.map_map] at this
  exact this

theorem doneFrame_retained_after (w : World) (pkt : Flushed) (a c t i : Nat) (ht : (w.doneFrame pkt).tag = .retained t i) :
    t ∈ (w.sess.setWritten pkt a c).data.outbound.sers := by
  obtain ⟨e, he, hser, _⟩ := (w.doneFrame_is pkt).of_retained ht
  rw [Session.setWritten_outbound, setWritten_sers]
  exact List.mem_map.mpr ⟨e, he, hser⟩

theorem hclosed_Traced {I : Session → Prop} (hI : Closed I) (s0 : Session) : HClosed (Traced I s0) :=
  .of_append (Traced.prim hI) fun w pkt a c h h1 =>
    ⟨Hist.append w pkt a c h.hist h1.hist, h1.inv, h1.reach, List.forall_mem_append.mpr ⟨h1.each,
      List.forall_mem_singleton.mpr fun t i ht => .inl (doneFrame_retained_after w pkt a c t i ht)⟩⟩

theorem Traced_init {I : Session → Prop} (cfg : Cfg) (h : I (Session.new cfg)) :
    Traced I (Session.new cfg) (Session.new cfg) [] :=
  ⟨Hist_init cfg, h, Reach.refl _, by intro f hf; simp at hf⟩

/-- For a PUBLISH the acknowledgement of `Removal` is a PUBACK or a PUBREC. -/
theorem ResolvedAt.publish {a b : Session} {f : LogEntry} {t : Nat} (h : ResolvedAt a b f t)
    (hinv : a.data.outbound.ArenaInv ∧ a.data.outbound.SerInv) (hp : isPubPkt f.bytes = true) :
    (∃ id rs, (b = (a.handle (.pubAck id rs)).1 ∨ b = (a.handle (.pubRec id rs)).1) ∧
        ∃ e ∈ a.data.outbound.retained, e.ser = t ∧ e.id = id) ∨
    (∃ block now, b = (a.activate false block now).1) := by
  obtain ⟨hrem, e0, he0, hser0, hb⟩ := h
  rcases hrem with ⟨p, id, k, l₁, e, l₂, rfl, hack, hret, _, hser, hid, hk, _⟩ | hfresh
  · left
    have he : e ∈ a.data.outbound.retained := by rw [hret]; simp
    have : e0 = e := ser_inj hinv.2 he0 he (hser0.trans hser.symm)
    subst this
    have hpub : isPubPkt (slice a.data.outbound.buf e0.offset e0.len) = true := by
      rw [← isPubPkt_of_unDup_eq hb]; exact hp
    rw [headerAt_isPub _ hinv.1 e0 he, acknowledges_pub k _ hk] at hpub
    cases p with
    | pubAck i rs =>
      simp only [Recv.ackOf, Option.some.injEq, Prod.mk.injEq] at hack
      exact ⟨i, rs, Or.inl rfl, e0, he, hser, hid.trans hack.1.symm⟩
    | pubRec i rs =>
      simp only [Recv.ackOf, Option.some.injEq, Prod.mk.injEq] at hack
      exact ⟨i, rs, Or.inr rfl, e0, he, hser, hid.trans hack.1.symm⟩
    | subAck i x y =>
      simp only [Recv.ackOf, Option.some.injEq, Prod.mk.injEq] at hack
      rw [← hack.2] at hpub; simp at hpub
    | unsubAck i x y =>
      simp only [Recv.ackOf, Option.some.injEq, Prod.mk.injEq] at hack
      rw [← hack.2] at hpub; simp at hpub
    | _ => simp [Recv.ackOf] at hack
  · exact Or.inr hfresh

end Minimq
