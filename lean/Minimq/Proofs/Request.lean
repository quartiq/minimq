import Minimq.Ops
import Minimq.Proofs.Ids
/-
What an operation does with its request once the first `flush_outbound` has returned: `afterFlush` for
`publish`, `subscribe`, `unsubscribe` and `disconnect`, as the code has it, with the part the three
identifier-bearing requests share — encode into the scratch space of the arena, check the size against the
broker's Maximum Packet Size, retain, flush again — stated once (`encodeThen`, `retainThen`). The steps of
the machine (`Fuel.run_AF`), the exact outcomes of `Proofs/RequestWire.lean` and `Theorems/C09Request.lean`
and the refusals of C06, C14 and `C19_publish_*` are read off the equations below; only the two-run walk
`Unread.keeps` of `Proofs/OutFrame.lean`, which compares function bodies, unfolds these four arms of
`afterFlush` once more.
-/
namespace Minimq
open Gen World

/-- The encoders of the identifier-bearing requests. -/
def subEnc (id : Nat) (r : SubReq) : Nat → (Nat → Nat → Bytes) → Except SerErr (Nat × Bytes) :=
  fun cap _ => encodeWithOffset cap (subscribeChunks id (.slice r.props) r.topics) MT_Subscribe FLAGS_Subscribe

def unsubEnc (id : Nat) (r : UnsubReq) : Nat → (Nat → Nat → Bytes) → Except SerErr (Nat × Bytes) :=
  fun cap _ => encodeWithOffset cap (unsubscribeChunks id (.slice r.props) r.topics) MT_Unsubscribe FLAGS_Unsubscribe

def pubEnc (id qos : Nat) (r : PubReq) : Nat → (Nat → Nat → Bytes) → Except PubEncErr (Nat × Bytes) :=
  fun cap fill => encodePublishWithOffset cap
    { topic := r.topic, packetId := some id, props := r.props, retain := r.retain, qos := qos, dup := false } r.payload fill

/-- The encoder used by the QoS 0 publish path. -/
def q0Enc (r : PubReq) : Nat → (Nat → Nat → Bytes) → Except PubEncErr (Nat × Bytes) :=
  fun cap fill => encodePublishWithOffset cap
    { topic := r.topic, packetId := none, props := r.props, retain := r.retain, qos := 0, dup := false } r.payload fill

/-- `encode_packet` / `encode_publish` into the scratch space, then the check against the broker's Maximum
Packet Size. `w` supplies everything but the session, which stands at `s` (`w.sess`, or with an identifier
taken). The operation `name` ends with the encoder's error (`toErr`) or with `PacketTooLarge`, or goes on with
`k`, given the session after encoding and where the packet lies in the arena. -/
def World.encodeThen {ε : Type} (w : World) (s : Session) (name : String) (toErr : ε → Err)
    (enc : Nat → (Nat → Nat → Bytes) → Except ε (Nat × Bytes)) (k : Session → Nat → Nat → World) : World :=
  match (s.encode enc).2 with
  | .error e => ({ w with sess := (s.encode enc).1 } : World).finishErr name (toErr e)
  | .ok (off, len) =>
    if (s.encode enc).1.rt.packetTooLarge len then ({ w with sess := (s.encode enc).1 } : World).finishErr name .packetTooLarge
    else k (s.encode enc).1 off len

/-- `retain_packet` under the identifier `id` in the session `s`, then the second flush, which reports the
handle. (The free slot was checked before: `InflightExhausted` does not happen here.) -/
def World.retainThen (fuel : Nat) (w : World) (name : String) (kind : OpKind) (isPub : Bool) (id : Nat) (s : Session)
    (off len : Nat) : World :=
  match s.retain id off len isPub with
  | none => ({ w with sess := s } : World).finishErr name .inflightExhausted
  | some s3 => flushLoop fuel { w with sess := s3 } (.post name { kind := kind, id := id, generation := s.data.generation })

theorem Session.retain_generation {s s3 : Session} {id off len : Nat} {isPub : Bool}
    (h : s.retain id off len isPub = some s3) : s3.data.generation = s.data.generation := by
  obtain ⟨_, _, rfl⟩ := Session.retain_some h; rfl

theorem retain_reader {s s3 : Session} {id off len : Nat} {isPub : Bool} (hr : s.retain id off len isPub = some s3) :
    s3.reader = s.reader := by
  obtain ⟨_, _, rfl⟩ := Session.retain_some hr; rfl

theorem afterFlush_subPre (fuel : Nat) (w : World) (r : SubReq) :
    afterFlush (fuel + 1) w (.subPre r) =
      if w.sess.data.outbound.retainedFull then w.finishErr "subscribe" .inflightExhausted else
      w.encodeThen w.sess.alloc.1 "subscribe" Err.ofSer (subEnc w.sess.alloc.2 r)
        (w.retainThen fuel "subscribe" .sub false w.sess.alloc.2) := by
  rw [afterFlush]
  refine ite_congr rfl (fun _ => rfl) fun _ => ?_
  dsimp only
  unfold World.encodeThen World.retainThen
  delta subEnc
  generalize (w.sess.alloc.1.encode _).1 = s2
  generalize (w.sess.alloc.1.encode _).2 = res
  cases res <;> rfl

theorem afterFlush_unsubPre (fuel : Nat) (w : World) (r : UnsubReq) :
    afterFlush (fuel + 1) w (.unsubPre r) =
      if w.sess.data.outbound.retainedFull then w.finishErr "unsubscribe" .inflightExhausted else
      w.encodeThen w.sess.alloc.1 "unsubscribe" Err.ofSer (unsubEnc w.sess.alloc.2 r)
        (w.retainThen fuel "unsubscribe" .unsub false w.sess.alloc.2) := by
  rw [afterFlush]
  refine ite_congr rfl (fun _ => rfl) fun _ => ?_
  dsimp only
  unfold World.encodeThen World.retainThen
  delta unsubEnc
  generalize (w.sess.alloc.1.encode _).1 = s2
  generalize (w.sess.alloc.1.encode _).2 = res
  cases res <;> rfl

/-- `publish`: the properties; above QoS 0 an identifier, a free retained slot, readiness (connection live,
send quota, scratch space) and the common tail; at QoS 0 readiness, then the packet goes from the scratch space
to the operation-local `write_all`. The checks behind the allocation are stated on `w.sess`: taking an
identifier moves the counter and nothing else. -/
theorem afterFlush_publishPre (fuel : Nat) (w : World) (r : PubReq) :
    afterFlush (fuel + 1) w (.publishPre r) =
      if !r.props.validFor .Publish then w.finishErr "publish" .invalidRequest else
      let qos := effectiveQos w.sess.rt.maxQos w.sess.downgrade r.qos
      if qos > 0 then
        let w1 : World := { w with sess := w.sess.alloc.1 }
        if w.sess.data.outbound.retainedFull then w1.finishErr "publish" .inflightExhausted else
        if !(w.live && canPublishS w.sess.data w.sess.rt qos) then w1.finishErr "publish" .notReady else
        w.encodeThen w.sess.alloc.1 "publish" pubErr (pubEnc w.sess.alloc.2 qos r)
          (w.retainThen fuel "publish" (if qos = 2 then .pub2 else .pub1) true w.sess.alloc.2)
      else
        if !(w.live && canPublishS w.sess.data w.sess.rt 0) then w.finishErr "publish" .notReady else
        w.encodeThen w.sess "publish" pubErr (q0Enc r) fun s2 off len =>
          doLocalWrite fuel { w with sess := s2 } 1 (s2.data.outbound.retainedPacket off len) := by
  rw [afterFlush]
  -- the same checks with the same refusals, and the two tails
  refine ite_congr rfl (fun _ => rfl) fun _ => ?_
  dsimp only
  refine ite_congr rfl (fun _ => ?_) fun _ => ite_congr rfl (fun _ => rfl) fun _ => ?_
  · refine ite_congr (by rw [Session.alloc_outbound]) (fun _ => rfl) fun _ =>
      ite_congr (by rw [canPublishS_alloc, Session.alloc_rt]; rfl) (fun _ => rfl) fun _ => ?_
    unfold World.encodeThen World.retainThen
    delta pubEnc
    generalize (w.sess.alloc.1.encode _).1 = s2
    generalize (w.sess.alloc.1.encode _).2 = res
    cases res with
    | error e => rfl
    | ok p =>
      refine ite_congr rfl (fun _ => rfl) fun _ => ?_
      -- the handle is built from the session after `retain_packet`, whose generation is that of the session before
      cases hr : s2.retain w.sess.alloc.2 p.1 p.2 true with
      | none => rfl
      | some s3 => dsimp only; rw [Session.retain_generation hr]
  · unfold World.encodeThen
    delta q0Enc
    generalize (w.sess.encode _).1 = s2
    generalize (w.sess.encode _).2 = res
    cases res <;> rfl

/-- `disconnect`: the packet is encoded into a buffer of its own. -/
theorem afterFlush_discPre (fuel : Nat) (w : World) (d : Disconnect) :
    afterFlush (fuel + 1) w (.discPre d) =
      match encodeWithOffset CONTROL_PACKET_LEN d.chunks MT_Disconnect FLAGS_Disconnect with
      | .error e => w.finishErr "disconnect" (Err.ofSer e)
      | .ok (_, pkt) =>
        if w.sess.rt.packetTooLarge pkt.length then w.finishErr "disconnect" .packetTooLarge
        else doLocalWrite fuel w 2 pkt := by
  rw [afterFlush]
  rfl

theorem World.encodeThen_tooLarge {ε : Type} {w : World} {s : Session} {name : String} {toErr : ε → Err}
    {enc : Nat → (Nat → Nat → Bytes) → Except ε (Nat × Bytes)} {k : Session → Nat → Nat → World} {off len : Nat}
    (hres : (s.encode enc).2 = .ok (off, len)) (hbig : (s.encode enc).1.rt.packetTooLarge len = true) :
    w.encodeThen s name toErr enc k = ({ w with sess := (s.encode enc).1 } : World).finishErr name .packetTooLarge := by
  simp only [World.encodeThen, hres, hbig, if_true]

theorem World.encodeThen_ind {ε : Type} {P : World → Prop} (w : World) (s : Session) (name : String) (toErr : ε → Err)
    (enc : Nat → (Nat → Nat → Bytes) → Except ε (Nat × Bytes)) (k : Session → Nat → Nat → World)
    (refused : ∀ e, P (({ w with sess := (s.encode enc).1 } : World).finishErr name e))
    (ok : ∀ off len, (s.encode enc).2 = .ok (off, len) → (s.encode enc).1.rt.packetTooLarge len = false →
      P (k (s.encode enc).1 off len)) :
    P (w.encodeThen s name toErr enc k) := by
  unfold World.encodeThen
  split
  · exact refused _
  · rename_i off len hres
    split
    · exact refused _
    · rename_i hsz; exact ok off len hres (Bool.eq_false_iff.2 hsz)

end Minimq
