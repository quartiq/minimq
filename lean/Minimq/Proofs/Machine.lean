import Minimq.Proofs.Fuel
import Minimq.Proofs.Arena
import Minimq.Proofs.Request
/-
The machine as a transition system.

`Step c n` lists what a call `c` of one of the thirteen machine functions of `Minimq/Ops.lean` does with
one unit of fuel: every leaf of the function bodies is one constructor, which names the call that
follows (`Next.call`) or the world the operation ends in (`Next.done`) and carries what the code has
checked on the way there — the branch conditions and the results of the I/O calls, of the scheduler and of
the session primitives. `run_succ` says that `c.run (m + 1)` is one of them, the same for every `m`.

This is where the bodies of the machine functions are taken apart for invariants (`Proofs/Ev.lean` states
them once more, as fuel-free equations, for the proofs that follow one path; the four arms of `afterFlush`
that carry a request are read off their equations in `Proofs/Request.lean`). An invariant of the
machine is a precondition `Pre` on calls and a postcondition `Post` on worlds such that every step from a
call satisfying `Pre` leads to a call satisfying `Pre` or ends in a world satisfying `Post`
(`Next.Holds`); `run_ind` then gives `Post` of every run, by induction on the fuel. Showing that is a
`cases` on `Step`, one line per leaf.
-/
namespace Minimq
open Gen World

/-- How a failed `write_all` or flush of an operation-local buffer ends (`which` = 0 CONNECT, 1 QoS 0
PUBLISH, 2 DISCONNECT): `connect` has no connection handle to finish yet. -/
def World.localErr (w : World) (which : Nat) (e : Err) : World :=
  if which = 0 then w.finishErr "connect" e
  else if which = 1 then (w.handleDisconnect).finishErr "publish" e
  else (w.handleDisconnect).finishErr "disconnect" e

/-- The await points inside the `write_all` of operation-local buffer `which` and inside the flush that follows it. -/
def localWritePc (which : Nat) (bytes : Bytes) : Pc :=
  if which = 0 then .connWrite bytes else if which = 1 then .q0Write bytes else .discWrite bytes

def localFlushPc (which : Nat) : Pc :=
  if which = 0 then .connFlush else if which = 1 then .q0Flush else .discFlush

/-- The session an unsuccessful request leaves behind: untouched, or with a packet identifier taken,
or with the packet encoded (after taking an identifier, or without one) into the scratch space behind the
retained packets. -/
inductive ReqSess (s : Session) : Session → Prop
  | same : ReqSess s s
  | alloc : ReqSess s s.alloc.1
  | encodeAfterAlloc {ε : Type} (enc : Nat → (Nat → Nat → Bytes) → Except ε (Nat × Bytes)) (he : EncOk enc) :
      ReqSess s (s.alloc.1.encode enc).1
  | encodeScratch {ε : Type} (enc : Nat → (Nat → Nat → Bytes) → Except ε (Nat × Bytes)) (he : EncOk enc) :
      ReqSess s (s.encode enc).1

/-- Why a request is refused before any I/O: invalid properties, a full retained queue, a connection that is
not ready, a packet that exceeds the broker's limit, a payload or an encoder that fails. -/
inductive Refusal : AfterFlush → Err → Prop
  | invalid {r} : Refusal (.publishPre r) .invalidRequest
  | full {k} (hk : ∀ d, k ≠ .discPre d) : Refusal k .inflightExhausted
  | notReady {r} : Refusal (.publishPre r) .notReady
  | tooLarge {k} : Refusal k .packetTooLarge
  | payload {r x} : Refusal (.publishPre r) (pubErr x)
  | encode {k x} : Refusal k (Err.ofSer x)

/-- The timer of `wait_for_progress` wakes its own task once. -/
def World.selfWake (w : World) : World := { w with wakes := w.wakes + 1 }

namespace Fuel

/-- Where a call stands after one unit of fuel. -/
inductive Next where
  | call (c : Call)
  | done (r : World)

def Next.run : Next → Nat → World
  | .call c, m => c.run m
  | .done r, _ => r

def Next.Holds (Pre : Call → Prop) (Post : World → Prop) : Next → Prop
  | .call c => Pre c
  | .done r => Post r

/-- `process_received_packet` at the head of `drive_packet`'s two loop functions, on a buffer that holds a
packet: the packet does not decode; `handle_packet` accepts it, for the application or not; it answers with an
error on which the connection is closed, or with one that is passed on with the handle as it is. -/
inductive Received (w : World) (o : Outer) : Next → Prop
  | undecodable (ht : w.sess.takePkt.2 = none) :
      Received w o (.done ((World.handleDisconnect { w with sess := w.sess.takePkt.1 }).finishErr (outerName o) .peerInvalid))
  | deliver {len pkt} (ht : w.sess.takePkt.2 = some (len, pkt)) (hh : (w.sess.takePkt.1.handle pkt).2 = .ok true) :
      Received w o (.done (({ w with sess := (w.sess.takePkt.1.handle pkt).1 } : World).deliver (outerName o) len))
  | handled {len pkt} (ht : w.sess.takePkt.2 = some (len, pkt)) (hh : (w.sess.takePkt.1.handle pkt).2 = .ok false) :
      Received w o (.call (.DL { w with sess := (w.sess.takePkt.1.handle pkt).1 } o true))
  | closed {len pkt e} (ht : w.sess.takePkt.2 = some (len, pkt)) (hh : (w.sess.takePkt.1.handle pkt).2 = .error e)
      (hc : e.closes = true) :
      Received w o (.done ((World.handleDisconnect { w with sess := (w.sess.takePkt.1.handle pkt).1 }).finishErr
        (outerName o) e))
  | passed {len pkt e} (ht : w.sess.takePkt.2 = some (len, pkt)) (hh : (w.sess.takePkt.1.handle pkt).2 = .error e)
      (hc : e.closes = false) :
      Received w o (.done (({ w with sess := (w.sess.takePkt.1.handle pkt).1 } : World).finishErr (outerName o) e))

/-- `receive_buffer` has offered a window that is not empty and the transport has been read: `w1` is the world
after the read, `r` what it returned. -/
inductive Reads (w w1 : World) (r : ReadRes) : Prop
  | mk {s1 : Session} {n : Nat} (ha : w.sess.reader.packetAvailable = false) (hw : w.sess.window = some (s1, n))
      (hn : n ≠ 0) (hio : ({ w with sess := s1 } : World).ioRead n = (w1, r))

inductive Step : Call → Next → Prop
  | FL_pingErr {w k e} (hq : w.sess.queuePing w.now = .error e) :
      Step (.FL w k) (.done ((w.discFail (.flush k)).finishErr (afterFlushName k) e))
  | FL_idle {w k s} (hq : w.sess.queuePing w.now = .ok s) (hn : s.data.outbound.nextStep = none) :
      Step (.FL w k) (.call (.AF { w with sess := s } k))
  | FL_step {w k s step} (hq : w.sess.queuePing w.now = .ok s) (hn : s.data.outbound.nextStep = some step) :
      Step (.FL w k) (.call (.PS { w with sess := s } (.flush k) step w.now))
  | PS_fail {w ctx step now e} (hp : prepareStep w step = .fail e) :
      Step (.PS w ctx step now) (.done ((w.failStep ctx step).finishErr (ctxName ctx) e))
  | PS_done {w ctx step now} (hp : prepareStep w step = .done) : Step (.PS w ctx step now) (.call (.SR w ctx false))
  | PS_flushDead {w ctx step now pkt} (hp : prepareStep w step = .flush pkt) (hl : w.live = false) :
      Step (.PS w ctx step now) (.done ((w.discFail ctx).finishErr (ctxName ctx) .disconnected))
  | PS_flush {w ctx step now pkt} (hp : prepareStep w step = .flush pkt) (hl : w.live = true) :
      Step (.PS w ctx step now) (.call (.DSF w ctx pkt now))
  | PS_writeDead {w ctx step now pkt bytes written len} (hp : prepareStep w step = .write pkt bytes written len)
      (hl : w.live = false) :
      Step (.PS w ctx step now) (.done ((w.discFail ctx).finishErr (ctxName ctx) .disconnected))
  | PS_write {w ctx step now pkt bytes written len} (hp : prepareStep w step = .write pkt bytes written len)
      (hl : w.live = true) :
      Step (.PS w ctx step now) (.call (.DSW w ctx pkt bytes written len now))
  | DSW_pending {w ctx pkt bytes written len now w1} (hio : w.ioWrite (bytes.drop written) = (w1, .pending)) :
      Step (.DSW w ctx pkt bytes written len now) (.done (w1.suspend (.stepWrite ctx pkt bytes written len now)))
  | DSW_zero {w ctx pkt bytes written len now w1} (hio : w.ioWrite (bytes.drop written) = (w1, .zero)) :
      Step (.DSW w ctx pkt bytes written len now) (.done ((w1.discFail ctx).finishErr (ctxName ctx) .writeZero))
  | DSW_err {w ctx pkt bytes written len now w1 k} (hio : w.ioWrite (bytes.drop written) = (w1, .err k)) :
      Step (.DSW w ctx pkt bytes written len now)
        (.done ((w1.handleDisconnect).finishErr (ctxName ctx) (.transport k)))
  | DSW_part {w ctx pkt bytes written len now w1 count} (hio : w.ioWrite (bytes.drop written) = (w1, .ok count))
      (hlt : written + count < len) :
      Step (.DSW w ctx pkt bytes written len now) (.call (.SR (w1.setWritten pkt (written + count) len) ctx true))
  | DSW_whole {w ctx pkt bytes written len now w1 count} (hio : w.ioWrite (bytes.drop written) = (w1, .ok count))
      (hge : ¬ written + count < len) :
      Step (.DSW w ctx pkt bytes written len now)
        (.call (.DSF (w1.setWritten pkt (written + count) len) ctx pkt now))
  | DSF_pending {w ctx pkt now w1} (hio : w.ioFlush = (w1, .pending)) :
      Step (.DSF w ctx pkt now) (.done (w1.suspend (.stepFlush ctx pkt now)))
  | DSF_err {w ctx pkt now w1 k} (hio : w.ioFlush = (w1, .err k)) :
      Step (.DSF w ctx pkt now) (.done ((w1.handleDisconnect).finishErr (ctxName ctx) (.transport k)))
  | DSF_ok {w ctx pkt now w1} (hio : w.ioFlush = (w1, .ok)) :
      Step (.DSF w ctx pkt now) (.call (.SR (w1.completeFlush pkt now) ctx true))
  | SR_flush {w k adv} : Step (.SR w (.flush k) adv) (.call (.FL w k))
  | SR_drive {w advanced outer adv} : Step (.SR w (.drive advanced outer) adv) (.call (.DAS w outer (advanced || adv)))
  | AF_post {w name op} : Step (.AF w (.post name op)) (.done (w.finishOp name op))
  | AF_refused {w k s' e} (hk : ∀ n op, k ≠ .post n op) (hs : ReqSess w.sess s') (he : Refusal k e) :
      Step (.AF w k) (.done (({ w with sess := s' } : World).finishErr (afterFlushName k) e))
  | AF_sub {w r off len s3}
      (hres : (w.sess.alloc.1.encode (subEnc w.sess.alloc.2 r)).2 = .ok (off, len))
      (hsz : (w.sess.alloc.1.encode (subEnc w.sess.alloc.2 r)).1.rt.packetTooLarge len = false)
      (hr : (w.sess.alloc.1.encode (subEnc w.sess.alloc.2 r)).1.retain w.sess.alloc.2 off len false = some s3) :
      Step (.AF w (.subPre r)) (.call (.FL { w with sess := s3 } (.post "subscribe"
        { kind := .sub, id := w.sess.alloc.2,
          generation := (w.sess.alloc.1.encode (subEnc w.sess.alloc.2 r)).1.data.generation })))
  | AF_unsub {w r off len s3}
      (hres : (w.sess.alloc.1.encode (unsubEnc w.sess.alloc.2 r)).2 = .ok (off, len))
      (hsz : (w.sess.alloc.1.encode (unsubEnc w.sess.alloc.2 r)).1.rt.packetTooLarge len = false)
      (hr : (w.sess.alloc.1.encode (unsubEnc w.sess.alloc.2 r)).1.retain w.sess.alloc.2 off len false = some s3) :
      Step (.AF w (.unsubPre r)) (.call (.FL { w with sess := s3 } (.post "unsubscribe"
        { kind := .unsub, id := w.sess.alloc.2,
          generation := (w.sess.alloc.1.encode (unsubEnc w.sess.alloc.2 r)).1.data.generation })))
  -- as the leaves of `afterFlush` have it: `publish` takes the generation for its handle from the session after
  -- `retain`, `subscribe` and `unsubscribe` from the one before; the same number (`Session.retain_generation`)
  | AF_pub {w r qos off len s3}
      (hv : r.props.validFor .Publish = true)
      (hq : qos = effectiveQos w.sess.rt.maxQos w.sess.downgrade r.qos) (hpos : 0 < qos)
      (hfull : w.sess.alloc.1.data.outbound.retainedFull = false) (hlive : w.live = true)
      (hcan : canPublishS w.sess.alloc.1.data w.sess.rt qos = true)
      (hres : (w.sess.alloc.1.encode (pubEnc w.sess.alloc.2 qos r)).2 = .ok (off, len))
      (hsz : (w.sess.alloc.1.encode (pubEnc w.sess.alloc.2 qos r)).1.rt.packetTooLarge len = false)
      (hr : (w.sess.alloc.1.encode (pubEnc w.sess.alloc.2 qos r)).1.retain w.sess.alloc.2 off len true = some s3) :
      Step (.AF w (.publishPre r)) (.call (.FL { w with sess := s3 } (.post "publish"
        { kind := if qos = 2 then .pub2 else .pub1, id := w.sess.alloc.2, generation := s3.data.generation })))
  | AF_pub0 {w r off len}
      (hv : r.props.validFor .Publish = true)
      (hq : effectiveQos w.sess.rt.maxQos w.sess.downgrade r.qos = 0) (hlive : w.live = true)
      (hcan : canPublishS w.sess.data w.sess.rt 0 = true)
      (hres : (w.sess.encode (q0Enc r)).2 = .ok (off, len))
      (hsz : (w.sess.encode (q0Enc r)).1.rt.packetTooLarge len = false) :
      Step (.AF w (.publishPre r)) (.call (.DLW { w with sess := (w.sess.encode (q0Enc r)).1 } 1
        ((w.sess.encode (q0Enc r)).1.data.outbound.retainedPacket off len)))
  | AF_disc {w d off pkt}
      (hres : encodeWithOffset CONTROL_PACKET_LEN d.chunks MT_Disconnect FLAGS_Disconnect = .ok (off, pkt))
      (hsz : w.sess.rt.packetTooLarge pkt.length = false) :
      Step (.AF w (.discPre d)) (.call (.DLW w 2 pkt))
  | DLW_empty {w which bytes} (he : bytes.isEmpty = true) :
      Step (.DLW w which bytes) (.call (.DLF (w.discDone which) which))
  | DLW_pending {w which bytes w1} (he : bytes.isEmpty = false) (hio : w.ioWrite bytes = (w1, .pending)) :
      Step (.DLW w which bytes) (.done (w1.suspend (localWritePc which bytes)))
  | DLW_part {w which bytes w1 n} (he : bytes.isEmpty = false) (hio : w.ioWrite bytes = (w1, .ok n)) :
      Step (.DLW w which bytes) (.call (.DLW w1 which (bytes.drop n)))
  | DLW_zero {w which bytes w1} (he : bytes.isEmpty = false) (hio : w.ioWrite bytes = (w1, .zero)) :
      Step (.DLW w which bytes) (.done (w1.localErr which .writeZero))
  | DLW_err {w which bytes w1 k} (he : bytes.isEmpty = false) (hio : w.ioWrite bytes = (w1, .err k)) :
      Step (.DLW w which bytes) (.done (w1.localErr which (.transport k)))
  | DLF_pending {w which w1} (hio : w.ioFlush = (w1, .pending)) :
      Step (.DLF w which) (.done (w1.suspend (localFlushPc which)))
  | DLF_err {w which w1 k} (hio : w.ioFlush = (w1, .err k)) : Step (.DLF w which) (.done (w1.localErr which (.transport k)))
  | DLF_conn {w w1} (hio : w.ioFlush = (w1, .ok)) :
      Step (.DLF w 0) (.call (.DCR { w1 with sess := w1.sess.clearPing }))
  | DLF_q0 {w w1} (hio : w.ioFlush = (w1, .ok)) :
      Step (.DLF w 1) (.done (({ w1 with sess := w1.sess.noteActivity w1.now } : World).finish "ret publish ok none"))
  | DLF_disc {w which w1} (hio : w.ioFlush = (w1, .ok)) (h0 : which ≠ 0) (h1 : which ≠ 1) :
      Step (.DLF w which) (.done ((w1.handleDisconnect).finish "ret disconnect ok"))
  | DCR_packet {w} (ha : w.sess.reader.packetAvailable = true) : Step (.DCR w) (.done (connectGotPacket w))
  | DCR_noWindow {w} (ha : w.sess.reader.packetAvailable = false) (hw : w.sess.window = none) :
      Step (.DCR w) (.done ((w.handleDisconnect).finishErr "connect" .peerInvalid))
  | DCR_complete {w s1} (ha : w.sess.reader.packetAvailable = false) (hw : w.sess.window = some (s1, 0)) :
      Step (.DCR w) (.done (connectGotPacket { w with sess := s1 }))
  | DCR_pending {w w1} (rd : Reads w w1 .pending) : Step (.DCR w) (.done (w1.suspend .connRead))
  | DCR_eof {w w1} (rd : Reads w w1 .eof) :
      Step (.DCR w) (.done ((w1.handleDisconnect).finishErr "connect" .disconnected))
  | DCR_err {w w1 k} (rd : Reads w w1 (.err k)) :
      Step (.DCR w) (.done ((w1.handleDisconnect).finishErr "connect" (.transport k)))
  | DCR_more {w w1 bytes} (rd : Reads w w1 (.ok bytes)) :
      Step (.DCR w) (.call (.DCR { w1 with sess := w1.sess.commit bytes }))
  | DL_received {w o adv n} (ha : w.sess.reader.packetAvailable = true) (h : Received w o n) : Step (.DL w o adv) n
  | DL_timedOut {w o adv} (ha : w.sess.reader.packetAvailable = false) (ht : timedOut w = true) :
      Step (.DL w o adv) (.done ((w.handleDisconnect).finishErr (outerName o) .disconnected))
  | DL_pingErr {w o adv e} (ha : w.sess.reader.packetAvailable = false) (ht : timedOut w = false)
      (hq : w.sess.queuePing w.now = .error e) : Step (.DL w o adv) (.done (w.finishErr (outerName o) e))
  | DL_idle {w o adv s} (ha : w.sess.reader.packetAvailable = false) (ht : timedOut w = false)
      (hq : w.sess.queuePing w.now = .ok s) (hn : s.data.outbound.nextStep = none) :
      Step (.DL w o adv) (.call (.DAS { w with sess := s } o adv))
  | DL_step {w o adv s step} (ha : w.sess.reader.packetAvailable = false) (ht : timedOut w = false)
      (hq : w.sess.queuePing w.now = .ok s) (hn : s.data.outbound.nextStep = some step) :
      Step (.DL w o adv) (.call (.PS { w with sess := s } (.drive adv o) step w.now))
  | DAS_received {w o adv n} (ha : w.sess.reader.packetAvailable = true) (h : Received w o n) : Step (.DAS w o adv) n
  | DAS_more {w o adv step} (ha : w.sess.reader.packetAvailable = false)
      (hn : w.sess.data.outbound.nextStep = some step) : Step (.DAS w o adv) (.call (.DL w o adv))
  | DAS_drive {w adv} (ha : w.sess.reader.packetAvailable = false) (hn : w.sess.data.outbound.nextStep = none) :
      Step (.DAS w .drive adv) (.done (w.finish "ret drive ok none"))
  | DAS_poll {w} (ha : w.sess.reader.packetAvailable = false) (hn : w.sess.data.outbound.nextStep = none) :
      Step (.DAS w .poll true) (.done (w.finish "ret poll ok none"))
  | DAS_recv {w} (ha : w.sess.reader.packetAvailable = false) (hn : w.sess.data.outbound.nextStep = none) :
      Step (.DAS w .recv true) (.call (.DE w .recv))
  | DAS_wait {w o} (ha : w.sess.reader.packetAvailable = false) (hn : w.sess.data.outbound.nextStep = none)
      (ho : o ≠ .drive) : Step (.DAS w o false) (.call (.DWR w o w.sess.rt.nextDeadline false))
  | DE_dead {w o} (hl : w.live = false) : Step (.DE w o) (.done (w.finishErr (outerName o) .disconnected))
  | DE_live {w o} (hl : w.live = true) : Step (.DE w o) (.call (.DL w o false))
  | DWR_packet {w o d y} (ha : w.sess.reader.packetAvailable = true) : Step (.DWR w o d y) (.call (.DE w o))
  | DWR_noWindow {w o d y} (ha : w.sess.reader.packetAvailable = false) (hw : w.sess.window = none) :
      Step (.DWR w o d y) (.done ((w.handleDisconnect).finishErr (outerName o) .peerInvalid))
  | DWR_complete {w o d y s1} (ha : w.sess.reader.packetAvailable = false) (hw : w.sess.window = some (s1, 0)) :
      Step (.DWR w o d y) (.call (.DE { w with sess := s1 } o))
  | DWR_eof {w o d y w1} (rd : Reads w w1 .eof) :
      Step (.DWR w o d y) (.done ((w1.handleDisconnect).finishErr (outerName o) .disconnected))
  | DWR_err {w o d y w1 k} (rd : Reads w w1 (.err k)) :
      Step (.DWR w o d y) (.done ((w1.handleDisconnect).finishErr (outerName o) (.transport k)))
  | DWR_more {w o d y w1 bytes} (rd : Reads w w1 (.ok bytes)) :
      Step (.DWR w o d y) (.call (.DWR { w1 with sess := w1.sess.commit bytes } o d y))
  -- the transport has nothing (`.pending`): the deadline decides
  | DWR_noDeadline {w o y w1} (rd : Reads w w1 .pending) :
      Step (.DWR w o none y) (.done (w1.suspend (.waitRead o none true)))
  | DWR_early {w o t y w1} (rd : Reads w w1 .pending) (ht : ¬ w1.now ≥ t) :
      Step (.DWR w o (some t) y) (.done (w1.suspend (.waitRead o (some t) true)))
  | DWR_fired {w o t w1} (rd : Reads w w1 .pending) (ht : w1.now ≥ t) :
      Step (.DWR w o (some t) true) (.call (.DE w1 o))
  | DWR_spin {w o t w1} (rd : Reads w w1 .pending) (ht : w1.now ≥ t) (hk : w1.wakes + 1 ≥ 64) :
      Step (.DWR w o (some t) false)
        (.done ((w1.selfWake.emit "spin").suspend (.waitRead o (some t) true)))
  | DWR_selfWake {w o t w1} (rd : Reads w w1 .pending) (ht : w1.now ≥ t) (hk : ¬ w1.wakes + 1 ≥ 64) :
      Step (.DWR w o (some t) false) (.call (.DWR w1.selfWake o (some t) true))

/-- `f` is what `c` does with one unit of fuel more than its argument. -/
def Runs (c : Call) (f : Nat → World) : Prop := ∃ n, Step c n ∧ ∀ m, f m = n.run m

theorem Step.runs {c : Call} {n : Next} (h : Step c n) : Runs c n.run := ⟨n, h, fun _ => rfl⟩

/-- A conditional that does not depend on the fuel, without looking into the branches (`split` would rewrite
the whole remaining body). -/
theorem Runs.ite {c : Call} {p : Prop} [Decidable p] {f g : Nat → World} (hf : p → Runs c f) (hg : ¬ p → Runs c g) :
    Runs c (fun m => if p then f m else g m) := by
  by_cases h : p
  · simp only [if_pos h]; exact hf h
  · simp only [if_neg h]; exact hg h

theorem Received.runs {c : Call} {w : World} {o : Outer} (ha : w.sess.reader.packetAvailable = true)
    (st : ∀ n, Received w o n → Step c n) :
    Runs c (fun m => match w.processReceivedPacket with
      | (w, .error e) => w.finishErr (outerName o) e
      | (w, .ok (some len)) => w.deliver (outerName o) len
      | (w, .ok none) => driveLoop m w o true) := by
  have h := prp_out w
  generalize w.processReceivedPacket = p at h
  cases h with
  | idle ha' => rw [ha] at ha'; cases ha'
  | undecodable _ ht => exact (st _ (.undecodable ht)).runs
  | handled len pkt deliver _ ht hh =>
    cases deliver with
    | true => exact (st _ (.deliver ht hh)).runs
    | false => exact (st _ (.handled ht hh)).runs
  | closed len pkt e _ ht hh hc => exact (st _ (.closed ht hh hc)).runs
  | passed len pkt e _ ht hh hc => exact (st _ (.passed ht hh hc)).runs

theorem run_FL (w : World) (k : AfterFlush) : Runs (.FL w k) (fun m => flushLoop (m + 1) w k) := by
  simp only [flushLoop, World.maybeQueuePingreq]
  cases hq : w.sess.queuePing w.now with
  | error e => exact (Step.FL_pingErr hq).runs
  | ok s =>
    dsimp only
    cases hn : s.data.outbound.nextStep with
    | none => exact (Step.FL_idle hq hn).runs
    | some step => exact (Step.FL_step hq hn).runs

theorem run_PS (w : World) (ctx : StepCtx) (step : Outbound.Step) (now : Nat) :
    Runs (.PS w ctx step now) (fun m => performStep (m + 1) w ctx step now) := by
  simp only [performStep]
  cases hp : prepareStep w step with
  | fail e => exact (Step.PS_fail hp).runs
  | done => exact (Step.PS_done hp).runs
  | flush pkt =>
    exact .ite (fun hl => (Step.PS_flushDead hp (eq_false_of_not_eq_true hl)).runs)
      (fun hl => (Step.PS_flush hp (not_not_eq_true hl)).runs)
  | write pkt bytes written len =>
    exact .ite (fun hl => (Step.PS_writeDead hp (eq_false_of_not_eq_true hl)).runs)
      (fun hl => (Step.PS_write hp (not_not_eq_true hl)).runs)

theorem run_DSW (w : World) (ctx : StepCtx) (pkt : Flushed) (bytes : Bytes) (written len now : Nat) :
    Runs (.DSW w ctx pkt bytes written len now) (fun m => doStepWrite (m + 1) w ctx pkt bytes written len now) := by
  simp only [doStepWrite]
  split
  next w1 hio => exact (Step.DSW_pending hio).runs
  next w1 hio => exact (Step.DSW_zero hio).runs
  next w1 k hio => exact (Step.DSW_err hio).runs
  next w1 count hio => exact .ite (fun h => (Step.DSW_part hio h).runs) (fun h => (Step.DSW_whole hio h).runs)

theorem run_DSF (w : World) (ctx : StepCtx) (pkt : Flushed) (now : Nat) :
    Runs (.DSF w ctx pkt now) (fun m => doStepFlush (m + 1) w ctx pkt now) := by
  simp only [doStepFlush]
  split
  next w1 hio => exact (Step.DSF_pending hio).runs
  next w1 k hio => exact (Step.DSF_err hio).runs
  next w1 hio => exact (Step.DSF_ok hio).runs

theorem run_SR (w : World) (ctx : StepCtx) (adv : Bool) : Runs (.SR w ctx adv) (fun m => stepReturned (m + 1) w ctx adv) := by
  cases ctx with
  | flush k => simp only [stepReturned]; exact Step.SR_flush.runs
  | drive advanced outer => simp only [stepReturned]; exact Step.SR_drive.runs

theorem Runs.encodeThen {ε : Type} {c : Call} {w : World} {s : Session} {name : String} {toErr : ε → Err}
    {enc : Nat → (Nat → Nat → Bytes) → Except ε (Nat × Bytes)} {k : Nat → Session → Nat → Nat → World}
    (big : Runs c fun _ => ({ w with sess := (s.encode enc).1 } : World).finishErr name .packetTooLarge)
    (err : ∀ x, Runs c fun _ => ({ w with sess := (s.encode enc).1 } : World).finishErr name (toErr x))
    (ok : ∀ off len, (s.encode enc).2 = .ok (off, len) → (s.encode enc).1.rt.packetTooLarge len = false →
      Runs c fun m => k m (s.encode enc).1 off len) :
    Runs c fun m => w.encodeThen s name toErr enc (k m) := by
  simp only [World.encodeThen]
  split
  · exact err _
  · rename_i off len hres
    exact .ite (fun _ => big) fun hsz => ok off len hres (Bool.eq_false_iff.2 hsz)

theorem Runs.retainThen {c : Call} {w : World} {s : Session} {name : String} {kind : OpKind} {isPub : Bool} {id off len : Nat}
    (refuse : Runs c fun _ => ({ w with sess := s } : World).finishErr name .inflightExhausted)
    (ok : ∀ s3, s.retain id off len isPub = some s3 → Runs c fun m => flushLoop m { w with sess := s3 }
      (.post name { kind := kind, id := id, generation := s.data.generation })) :
    Runs c fun m => w.retainThen m name kind isPub id s off len := by
  simp only [World.retainThen]
  split
  · exact refuse
  · rename_i s3 hr; exact ok s3 hr

theorem run_AF (w : World) (k : AfterFlush) : Runs (.AF w k) (fun m => afterFlush (m + 1) w k) := by
  have refuse : ∀ {s' e}, (∀ n op, k ≠ .post n op) → ReqSess w.sess s' → Refusal k e →
      Runs (.AF w k) (fun _ => ({ w with sess := s' } : World).finishErr (afterFlushName k) e) :=
    fun hk hs he => (Step.AF_refused hk hs he).runs
  cases k with
  | post name op => simp only [afterFlush]; exact Step.AF_post.runs
  | discPre d =>
    have hk : ∀ n op, AfterFlush.discPre d ≠ .post n op := nofun
    simp only [afterFlush_discPre]
    split
    · exact refuse hk .same .encode
    · rename_i off pkt hres
      exact .ite (fun _ => refuse hk .same .tooLarge) (fun hsz => (Step.AF_disc hres (Bool.eq_false_iff.2 hsz)).runs)
  | subPre r =>
    have hk : ∀ n op, AfterFlush.subPre r ≠ .post n op := nofun
    have full : Refusal (.subPre r) .inflightExhausted := .full nofun
    simp only [afterFlush_subPre]
    have he := ReqSess.encodeAfterAlloc (s := w.sess) (subEnc w.sess.alloc.2 r) (EncOk_encodeWithOffset _ _ _)
    exact .ite (fun _ => refuse hk .same full) fun _ =>
      .encodeThen (refuse hk he .tooLarge) (fun _ => refuse hk he .encode) fun off len hres hsz =>
        .retainThen (refuse hk he full) fun s3 hr => (Step.AF_sub hres hsz hr).runs
  | unsubPre r =>
    have hk : ∀ n op, AfterFlush.unsubPre r ≠ .post n op := nofun
    have full : Refusal (.unsubPre r) .inflightExhausted := .full nofun
    simp only [afterFlush_unsubPre]
    have he := ReqSess.encodeAfterAlloc (s := w.sess) (unsubEnc w.sess.alloc.2 r) (EncOk_encodeWithOffset _ _ _)
    exact .ite (fun _ => refuse hk .same full) fun _ =>
      .encodeThen (refuse hk he .tooLarge) (fun _ => refuse hk he .encode) fun off len hres hsz =>
        .retainThen (refuse hk he full) fun s3 hr => (Step.AF_unsub hres hsz hr).runs
  | publishPre r =>
    have hk : ∀ n op, AfterFlush.publishPre r ≠ .post n op := nofun
    have full : Refusal (.publishPre r) .inflightExhausted := .full nofun
    simp only [afterFlush_publishPre]
    refine .ite (fun _ => refuse hk .same .invalid) (fun hv => ?_)
    generalize hq : effectiveQos w.sess.rt.maxQos w.sess.downgrade r.qos = qos
    refine .ite (fun hpos => ?_) (fun hpos => ?_)
    · have he := ReqSess.encodeAfterAlloc (s := w.sess) (pubEnc w.sess.alloc.2 qos r) (EncOk_encodePublish _ _)
      refine .ite (fun _ => refuse hk .alloc full) (fun hfull => ?_)
      refine .ite (fun _ => refuse hk .alloc .notReady) (fun hcan => ?_)
      replace hcan := and_of_not_not hcan
      exact .encodeThen (refuse hk he .tooLarge) (fun _ => refuse hk he .payload) fun off len hres hsz =>
        .retainThen (refuse hk he full) fun s3 hr => by
          rw [← Session.retain_generation hr]
          exact (Step.AF_pub (by simpa using hv) hq.symm hpos (by rw [Session.alloc_outbound]; exact Bool.eq_false_iff.2 hfull)
            hcan.1 (by rw [canPublishS_alloc]; exact hcan.2) hres hsz hr).runs
    · have hq0 : qos = 0 := by omega
      subst hq0
      have he := ReqSess.encodeScratch (s := w.sess) (q0Enc r) (EncOk_encodePublish _ _)
      refine .ite (fun _ => refuse hk .same .notReady) (fun hcan => ?_)
      replace hcan := and_of_not_not hcan
      exact .encodeThen (refuse hk he .tooLarge) (fun _ => refuse hk he .payload) fun off len hres hsz =>
        (Step.AF_pub0 (by simpa using hv) hq hcan.1 hcan.2 hres hsz).runs

theorem run_DLW (w : World) (which : Nat) (bytes : Bytes) :
    Runs (.DLW w which bytes) (fun m => doLocalWrite (m + 1) w which bytes) := by
  simp only [doLocalWrite]
  refine .ite (fun he => (Step.DLW_empty he).runs) (fun he => ?_)
  replace he := Bool.eq_false_iff.2 he
  split
  next w1 hio => exact (Step.DLW_pending he hio).runs
  next w1 n hio => exact (Step.DLW_part he hio).runs
  next w1 hio => exact (Step.DLW_zero he hio).runs
  next w1 k hio => exact (Step.DLW_err he hio).runs

theorem run_DLF (w : World) (which : Nat) : Runs (.DLF w which) (fun m => doLocalFlush (m + 1) w which) := by
  simp only [doLocalFlush]
  split
  next w1 hio => exact (Step.DLF_pending hio).runs
  next w1 k hio => exact (Step.DLF_err hio).runs
  next w1 hio =>
    refine .ite (fun h0 => ?_) (fun h0 => .ite (fun h1 => ?_) (fun h1 => (Step.DLF_disc hio h0 h1).runs))
    · subst h0; exact (Step.DLF_conn hio).runs
    · subst h1; exact (Step.DLF_q0 hio).runs

theorem run_DCR (w : World) : Runs (.DCR w) (fun m => doConnRead (m + 1) w) := by
  simp only [doConnRead]
  refine .ite (fun ha => (Step.DCR_packet ha).runs) (fun ha => ?_)
  replace ha := Bool.eq_false_iff.2 ha
  split
  next hw => exact (Step.DCR_noWindow ha hw).runs
  next s1 n hw =>
    refine .ite (fun hn => ?_) (fun hn => ?_)
    · subst hn; exact (Step.DCR_complete ha hw).runs
    · split
      next w1 hio => exact (Step.DCR_pending ⟨ha, hw, hn, hio⟩).runs
      next w1 hio => exact (Step.DCR_eof ⟨ha, hw, hn, hio⟩).runs
      next w1 k hio => exact (Step.DCR_err ⟨ha, hw, hn, hio⟩).runs
      next w1 bytes hio => exact (Step.DCR_more ⟨ha, hw, hn, hio⟩).runs

theorem run_DL (w : World) (o : Outer) (adv : Bool) : Runs (.DL w o adv) (fun m => driveLoop (m + 1) w o adv) := by
  cases ha : w.sess.reader.packetAvailable with
  | true =>
    simp only [driveLoop, ha, if_true]
    exact Received.runs ha fun n h => .DL_received ha h
  | false =>
    simp only [driveLoop_service _ _ _ _ ha, World.maybeQueuePingreq]
    refine .ite (fun ht => (Step.DL_timedOut ha ht).runs) (fun ht => ?_)
    replace ht := Bool.eq_false_iff.2 ht
    cases hq : w.sess.queuePing w.now with
    | error e => exact (Step.DL_pingErr ha ht hq).runs
    | ok s =>
      dsimp only
      cases hn : s.data.outbound.nextStep with
      | none => exact (Step.DL_idle ha ht hq hn).runs
      | some step => exact (Step.DL_step ha ht hq hn).runs

theorem run_DAS (w : World) (o : Outer) (adv : Bool) :
    Runs (.DAS w o adv) (fun m => driveAfterService (m + 1) w o adv) := by
  unfold driveAfterService
  refine .ite (fun ha => Received.runs ha fun n h => .DAS_received ha h) (fun ha => ?_)
  replace ha := Bool.eq_false_iff.2 ha
  cases hn : w.sess.data.outbound.nextStep with
  | some step => exact (Step.DAS_more ha hn).runs
  | none =>
    cases adv <;> cases o <;> simp only [Option.isNone_none, Bool.false_eq_true, if_true, if_false]
    · exact (Step.DAS_drive ha hn).runs
    · exact (Step.DAS_wait (o := .poll) ha hn nofun).runs
    · exact (Step.DAS_wait (o := .recv) ha hn nofun).runs
    · exact (Step.DAS_drive ha hn).runs
    · exact (Step.DAS_poll ha hn).runs
    · exact (Step.DAS_recv ha hn).runs

theorem run_DE (w : World) (o : Outer) : Runs (.DE w o) (fun m => driveEnter (m + 1) w o) := by
  simp only [driveEnter]
  exact .ite (fun hl => (Step.DE_dead (eq_false_of_not_eq_true hl)).runs) (fun hl => (Step.DE_live (not_not_eq_true hl)).runs)

theorem run_DWR (w : World) (o : Outer) (d : Option Nat) (y : Bool) :
    Runs (.DWR w o d y) (fun m => doWaitRead (m + 1) w o d y) := by
  simp only [doWaitRead]
  refine .ite (fun ha => (Step.DWR_packet ha).runs) (fun ha => ?_)
  replace ha := Bool.eq_false_iff.2 ha
  split
  next hw => exact (Step.DWR_noWindow ha hw).runs
  next s1 n hw =>
    refine .ite (fun hn => ?_) (fun hn => ?_)
    · subst hn; exact (Step.DWR_complete ha hw).runs
    · split
      next w1 hio => exact (Step.DWR_eof ⟨ha, hw, hn, hio⟩).runs
      next w1 k hio => exact (Step.DWR_err ⟨ha, hw, hn, hio⟩).runs
      next w1 bytes hio => exact (Step.DWR_more ⟨ha, hw, hn, hio⟩).runs
      next w1 hio =>
        cases d with
        | none => exact (Step.DWR_noDeadline ⟨ha, hw, hn, hio⟩).runs
        | some t =>
          refine .ite (fun ht => ?_) (fun ht => (Step.DWR_early ⟨ha, hw, hn, hio⟩ ht).runs)
          cases y with
          | true => simp only [if_true]; exact (Step.DWR_fired ⟨ha, hw, hn, hio⟩ ht).runs
          | false =>
            simp only [Bool.false_eq_true, if_false]
            exact .ite (fun hk => (Step.DWR_spin ⟨ha, hw, hn, hio⟩ ht hk).runs)
              (fun hk => (Step.DWR_selfWake ⟨ha, hw, hn, hio⟩ ht hk).runs)

theorem run_succ (c : Call) : ∃ n, Step c n ∧ ∀ m, c.run (m + 1) = n.run m := by
  cases c with
  | FL w k => exact run_FL w k
  | PS w ctx step now => exact run_PS w ctx step now
  | DSW w ctx pkt bytes written len now => exact run_DSW w ctx pkt bytes written len now
  | DSF w ctx pkt now => exact run_DSF w ctx pkt now
  | SR w ctx adv => exact run_SR w ctx adv
  | AF w k => exact run_AF w k
  | DLW w which bytes => exact run_DLW w which bytes
  | DLF w which => exact run_DLF w which
  | DCR w => exact run_DCR w
  | DL w o adv => exact run_DL w o adv
  | DAS w o adv => exact run_DAS w o adv
  | DE w o => exact run_DE w o
  | DWR w o d y => exact run_DWR w o d y

theorem run_ind {Pre : Call → Prop} {Post : World → Prop}
    (step : ∀ c n, Step c n → Pre c → n.Holds Pre Post) (fuel : ∀ c, Pre c → Post (c.world.emit "fuel")) :
    ∀ (m : Nat) (c : Call), Pre c → Post (c.run m)
  | 0, c, h => by rw [Call.run_zero]; exact fuel c h
  | m + 1, c, h => by
    obtain ⟨n, st, e⟩ := run_succ c
    rw [e]
    cases n with
    | call c' => exact run_ind step fuel m c' (step c _ st h)
    | done r => exact step c _ st h

/-- The call a POLL resumes. -/
def resumeCall (w : World) : Pc → Call
  | .stepWrite ctx pkt bytes written len now => .DSW w ctx pkt bytes written len now
  | .stepFlush ctx pkt now => .DSF w ctx pkt now
  | .connWrite bytes => .DLW w 0 bytes
  | .connFlush => .DLF w 0
  | .connRead => .DCR w
  | .q0Write bytes => .DLW w 1 bytes
  | .q0Flush => .DLF w 1
  | .discWrite bytes => .DLW w 2 bytes
  | .discFlush => .DLF w 2
  | .waitRead outer deadline yielded => .DWR w outer deadline yielded

@[simp] theorem resumeCall_world (w : World) (pc : Pc) : (resumeCall w pc).world = w := by
  cases pc <;> rfl

/-- `World.poll` with the fuel as a parameter (`poll = pollWith pollFuel`). -/
def _root_.Minimq.World.pollWith (fuel : Nat) (w : World) : World :=
  match w.fut with
  | none => { w with wakes := 0, lastIoStarved := false }
  | some pc => (resumeCall { w with wakes := 0, lastIoStarved := false, fut := none } pc).run fuel

theorem poll_eq_pollWith (w : World) : World.poll w = World.pollWith pollFuel w := by
  unfold World.poll World.pollWith
  simp only []
  cases w.fut with
  | none => rfl
  | some pc => cases pc <;> rfl

theorem poll_ind {P : World → Prop} (w : World) (idle : w.fut = none → P { w with wakes := 0, lastIoStarved := false })
    (resume : ∀ pc, w.fut = some pc →
      P ((resumeCall { w with wakes := 0, lastIoStarved := false, fut := none } pc).run pollFuel)) : P (World.poll w) := by
  rw [poll_eq_pollWith]
  unfold World.pollWith
  split
  next hf => exact idle hf
  next pc hf => exact resume pc hf

end Fuel
end Minimq
