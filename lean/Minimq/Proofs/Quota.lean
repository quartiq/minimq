import Minimq.Proofs.QueueWalk
/-
The send quota (`send_quota`, `max_send_quota`) against the number of QoS 1/2 exchanges in flight.
-/
namespace Minimq
open Gen World Outbound

/-- Retained PUBLISH packets, counted on the packet bytes. -/
def Outbound.pubCount (o : Outbound) : Nat := (o.contents.filter isPubPkt).length

theorem inflight_eq (o : Outbound) (h : o.ArenaInv) : o.inflightPublishes = o.pubCount + o.release.length := by
  rw [inflight_qv o h]
  simp only [QV.inflight, qv, pubCount, ← Quiesce.retView_bytes, Quiesce.relView_length, List.filter_map, List.length_map,
    Function.comp_def]

def pubAt (buf : Bytes) (off : Nat) : Bool :=
  match buf[off]? with
  | some x => decide (x.toNat / 16 = MT_Publish)
  | none => false

theorem inflight_def (o : Outbound) :
    o.inflightPublishes = ((o.retained.map (·.offset)).filter (pubAt o.buf)).length + o.release.length := by
  unfold inflightPublishes
  rw [List.filter_map, List.length_map]
  rfl

theorem maxInflight_le : maxInflight ≤ MAX_PENDING_RELEASE := by decide

/-- A PUBLISH that awaits its PUBREC is counted with the release entries, so within a window of at most
`maxInflight` the release list is not full. -/
theorem pubRec_release_room (o : Outbound) (r : Runtime) (id : Nat) (ha : o.ArenaInv)
    (hq : r.sendQuota + o.inflightPublishes ≤ r.maxSendQuota) (hm : r.maxSendQuota ≤ maxInflight)
    (hf : (o.ackPacket id .pubRec).2 = true) : o.release.length < MAX_PENDING_RELEASE := by
  have := pubRec_room o id ha hf
  have := maxInflight_le
  omega

theorem inflight_congr {o o' : Outbound} (hb : o'.buf = o.buf)
    (hr : o'.retained.map (·.offset) = o.retained.map (·.offset)) (hl : o'.release.length = o.release.length) :
    o'.inflightPublishes = o.inflightPublishes := by
  rw [inflight_def, inflight_def, hb, hr, hl]

/-- Window accounting: unless a CONNACK announced a Receive Maximum below the number of publishes that
had to be replayed (ghost flag `deficit`, finding F5c), the remaining send quota plus the number of
QoS 1/2 exchanges in flight never exceeds the maximum send quota. -/
def quotaOk (s : Session) : Prop :=
  s.rt.deficit = true ∨ s.rt.sendQuota + s.data.outbound.inflightPublishes ≤ s.rt.maxSendQuota

def QuotaP (s : Session) : Prop :=
  (s.data.outbound.ArenaInv ∧ s.data.outbound.SerInv) ∧ quotaOk s

theorem QuotaP_init (cfg : Cfg) : QuotaP (Session.new cfg) :=
  ⟨arena_init cfg, Or.inr (by simp [Session.new, Outbound.new, inflight_def])⟩

theorem quotaInc_fields (r : Runtime) :
    (quotaInc r).sendQuota ≤ r.sendQuota + 1 ∧ (quotaInc r).sendQuota ≤ r.maxSendQuota ∧
    (quotaInc r).maxSendQuota = r.maxSendQuota ∧ (quotaInc r).deficit = r.deficit := by
  simp only [quotaInc]
  refine ⟨?_, ?_, trivial, trivial⟩ <;> omega

def qOk (o : Outbound) (r : Runtime) : Prop := r.deficit = true ∨ r.sendQuota + o.inflightPublishes ≤ r.maxSendQuota

/-- In the CONNACK loop send quota and maximum send quota stay equal and at most the local limit. -/
def accInv (localQ : Nat) : Except Err Session.ConnackAcc → Prop
  | .ok (sq, msq, _, _, _, _) => sq = msq ∧ msq ≤ localQ
  | .error _ => True

theorem quotaOk_iff (s : Session) : quotaOk s ↔ qOk s.data.outbound s.rt := Iff.rfl

/-- The accounting of a primitive is read off its view. -/
theorem closed_QuotaP : Closed QuotaP :=
  closed_arena.and_of fun s s' p ha h => by
    unfold quotaOk at *
    rw [inflight_qv _ ha.1] at h
    rw [inflight_qv _ (closed_arena.prim p ha).1]
    exact (p.vstep ha).2.elim (·.le h) (·.le)

end Minimq
