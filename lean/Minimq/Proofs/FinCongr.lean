import Minimq.Proofs.CancelSim
/-
`handles`, `lastRes` and the trace are write-only (`OutFrame.lean`: any relation that is `Unread` is kept
by every machine function and directive). Here the relation is `HSim ha hb a b`, with base worlds `ha`,
`hb`: two worlds `a`, `b` that agree on everything else, whose handle lists are `ha.handles ++ ops` and
`hb.handles ++ ops` for the same `ops`, and whose traces are equal line by line except that the
`ret <name> ok op <k> …` line of the `i`-th of `ops` carries the index `ha.handles.length + i` in the one
and `hb.handles.length + i` in the other. Programs keep it also of the worlds with the per-POLL flags
`wakes` / `lastIoStarved` reset (`HSim.run_clr`), since no directive reads them before resetting them
(`execDirective_clr`). `fin_congr` is the resulting statement about `World.fin`.
-/
namespace Minimq
open Gen World Outbound Fuel

/-- The per-POLL flags reset (what every POLL and every operation start does first). -/
def World.clrFlags (w : World) : World := { w with wakes := 0, lastIoStarved := false }

/-- The trace line `finishOp` prints for the `k`-th handle at time `now`. -/
def opLine (name : String) (op : Op) (k now : Nat) : String :=
  s!"{s!"ret {name} ok op {k} {opKindName op.kind} {op.id} {op.generation}"} @{now}"

theorem finishOp_out (w : World) (name : String) (op : Op) :
    (w.finishOp name op).out = opLine name op w.handles.length w.now :: w.out := rfl

/-- Two traces (newest first) that are equal line by line, except that where the one has the line of
`finishOp` for handle index `da + i` the other has the same line for handle index `db + i`; and `ops`
are the operations of those `finishOp` lines, oldest first (so `i` is the position in `ops`). -/
inductive TrRel (da db : Nat) : List Op → List String → List String → Prop
  | nil : TrRel da db [] [] []
  | same (l : String) {ops : List Op} {x y : List String} : TrRel da db ops x y → TrRel da db ops (l :: x) (l :: y)
  | op (name : String) (op : Op) (now : Nat) {ops : List Op} {x y : List String} : TrRel da db ops x y →
      TrRel da db (ops ++ [op]) (opLine name op (da + ops.length) now :: x) (opLine name op (db + ops.length) now :: y)

theorem TrRel.refl (da db : Nat) (x : List String) : TrRel da db [] x x := by
  induction x with
  | nil => exact .nil
  | cons l x ih => exact .same l ih

theorem TrRel.length {da db : Nat} {ops : List Op} {x y : List String} (h : TrRel da db ops x y) :
    x.length = y.length := by
  induction h with
  | nil => rfl
  | same l _ ih => simp [ih]
  | op name op now _ ih => simp [ih]

theorem TrRel.eq_of_eq {d : Nat} {ops : List Op} {x y : List String} (h : TrRel d d ops x y) : x = y := by
  induction h with
  | nil => rfl
  | same l _ ih => rw [ih]
  | op name op now _ ih => rw [ih]

theorem TrRel.get {da db : Nat} {ops : List Op} {x y : List String} (h : TrRel da db ops x y) :
    ∀ (n : Nat) (la lb : String), x[n]? = some la → y[n]? = some lb →
      la = lb ∨ ∃ name op i now, ops[i]? = some op ∧
        la = opLine name op (da + i) now ∧ lb = opLine name op (db + i) now := by
  induction h with
  | nil => intro n la lb h1; simp at h1
  | same l _ ih =>
    intro n la lb h1 h2
    cases n with
    | zero =>
      simp only [List.getElem?_cons_zero, Option.some.injEq] at h1 h2
      exact Or.inl (h1.symm.trans h2)
    | succ n => simp only [List.getElem?_cons_succ] at h1 h2; exact ih n la lb h1 h2
  | @op name op now ops x y _ ih =>
    intro n la lb h1 h2
    cases n with
    | zero =>
      simp only [List.getElem?_cons_zero, Option.some.injEq] at h1 h2
      exact Or.inr ⟨name, op, ops.length, now, by simp, h1.symm, h2.symm⟩
    | succ n =>
      simp only [List.getElem?_cons_succ] at h1 h2
      rcases ih n la lb h1 h2 with e | ⟨nm, o, i, t, hi, e1, e2⟩
      · exact Or.inl e
      · refine Or.inr ⟨nm, o, i, t, ?_, e1, e2⟩
        have hlt : i < ops.length := (List.getElem?_eq_some_iff.1 hi).1
        rw [List.getElem?_append_left hlt]; exact hi

structure HSim (ha hb : World) (a b : World) : Prop where
  core : a.core = b.core
  hnd : ∃ ops, a.handles = ha.handles ++ ops ∧ b.handles = hb.handles ++ ops ∧
    TrRel ha.handles.length hb.handles.length ops a.out b.out
  res : a.lastRes = b.lastRes ∨ (a.lastRes = ha.lastRes ∧ b.lastRes = hb.lastRes)

namespace HSim
variable {ha hb : World} {a b : World}

theorem proj {β : Type} (h : HSim ha hb a b) (g : World → β) : g a.core = g b.core := congrArg g h.core
theorem nets (h : HSim ha hb a b) : a.nets = b.nets := h.proj World.nets
theorem fut (h : HSim ha hb a b) : a.fut = b.fut := h.proj World.fut
theorem now (h : HSim ha hb a b) : a.now = b.now := h.proj World.now
theorem slot (h : HSim ha hb a b) : a.slot = b.slot := h.proj World.slot
theorem starved (h : HSim ha hb a b) : a.lastIoStarved = b.lastIoStarved := h.proj World.lastIoStarved
theorem tornNets (h : HSim ha hb a b) : a.tornNets = b.tornNets := h.proj World.tornNets
theorem log (h : HSim ha hb a b) : a.log = b.log := h.proj World.log
theorem netIdx (h : HSim ha hb a b) : a.netIdx = b.netIdx := h.proj World.netIdx
theorem curNet (h : HSim ha hb a b) : a.curNet = b.curNet := h.proj World.curNet

theorem setRes (h : HSim ha hb a b) (r : Option (Except Err Unit)) :
    HSim ha hb ({ a with lastRes := r } : World) ({ b with lastRes := r } : World) :=
  ⟨h.core, h.hnd, Or.inl rfl⟩

theorem emit (h : HSim ha hb a b) (l : String) : HSim ha hb (a.emit l) (b.emit l) :=
  ⟨h.core, by obtain ⟨ops, e1, e2, t⟩ := h.hnd; exact ⟨ops, e1, e2, .same l t⟩, h.res⟩

theorem finishOp (h : HSim ha hb a b) (name : String) (op : Op) :
    HSim ha hb (a.finishOp name op) (b.finishOp name op) := by
  obtain ⟨ops, e1, e2, t⟩ := h.hnd
  -- both results are `some (.ok ())`; said so, the kernel does not compare the two worlds, whose trace
  -- lines are different strings
  have hres : (a.finishOp name op).lastRes = (b.finishOp name op).lastRes := Eq.trans (b := some (.ok ())) rfl rfl
  refine ⟨congrArg (fun c : World => ({ c with fut := none } : World)) h.core, ⟨ops ++ [op], ?_, ?_, ?_⟩, Or.inl hres⟩
  · show a.handles ++ [op] = _
    rw [e1, List.append_assoc]
  · show b.handles ++ [op] = _
    rw [e2, List.append_assoc]
  · rw [finishOp_out, finishOp_out, e1, e2, h.now, List.length_append, List.length_append]
    exact .op name op b.now t

theorem unread : Unread (HSim ha hb) :=
  ⟨fun h => ⟨_, _, _, eq_withH_of_core h.core⟩, fun h _ => ⟨rfl, h.hnd, h.res⟩, HSim.emit, HSim.setRes, HSim.finishOp⟩

theorem setStarved (h : HSim ha hb a b) (x : Bool) :
    HSim ha hb ({ a with lastIoStarved := x } : World) ({ b with lastIoStarved := x } : World) :=
  unread.upd h (fun w => { w with lastIoStarved := x })

theorem finish (h : HSim ha hb a b) (l : String) : HSim ha hb (a.finish l) (b.finish l) := unread.finish h l

theorem finishErr (h : HSim ha hb a b) (op : String) (e : Err) :
    HSim ha hb (a.finishErr op e) (b.finishErr op e) := unread.finishErr h op e

theorem deliver (h : HSim ha hb a b) (name : String) (len : Nat) :
    HSim ha hb (a.deliver name len) (b.deliver name len) := unread.deliver h name len

theorem activate (h : HSim ha hb a b) (sp : Bool) (block : Bytes) :
    HSim ha hb (World.activate a sp block) (World.activate b sp block) := unread.activate h sp block

theorem run (ds : List Directive) (h : HSim ha hb a b) :
    HSim ha hb (ds.foldl World.execDirective a) (ds.foldl World.execDirective b) := unread.run h ds

end HSim

/-- `HSim.unread.keeps` written out per machine function, in function form: the statement of
`C13_machine_functions_ignore_handles` (`Theorems/C13Congr.lean`). -/
structure CongrM (ha hb : World) (fuel : Nat) : Prop where
  fl : ∀ a b k, HSim ha hb a b → HSim ha hb (flushLoop fuel a k) (flushLoop fuel b k)
  ps : ∀ a b ctx step now, HSim ha hb a b →
    HSim ha hb (performStep fuel a ctx step now) (performStep fuel b ctx step now)
  dsw : ∀ a b ctx pkt bytes wr len now, HSim ha hb a b →
    HSim ha hb (doStepWrite fuel a ctx pkt bytes wr len now) (doStepWrite fuel b ctx pkt bytes wr len now)
  dsf : ∀ a b ctx pkt now, HSim ha hb a b →
    HSim ha hb (doStepFlush fuel a ctx pkt now) (doStepFlush fuel b ctx pkt now)
  sr : ∀ a b ctx adv, HSim ha hb a b → HSim ha hb (stepReturned fuel a ctx adv) (stepReturned fuel b ctx adv)
  af : ∀ a b k, HSim ha hb a b → HSim ha hb (afterFlush fuel a k) (afterFlush fuel b k)
  dlw : ∀ a b which bytes, HSim ha hb a b →
    HSim ha hb (doLocalWrite fuel a which bytes) (doLocalWrite fuel b which bytes)
  dlf : ∀ a b which, HSim ha hb a b → HSim ha hb (doLocalFlush fuel a which) (doLocalFlush fuel b which)
  dcr : ∀ a b, HSim ha hb a b → HSim ha hb (doConnRead fuel a) (doConnRead fuel b)
  dl : ∀ a b outer adv, HSim ha hb a b → HSim ha hb (driveLoop fuel a outer adv) (driveLoop fuel b outer adv)
  das : ∀ a b outer adv, HSim ha hb a b →
    HSim ha hb (driveAfterService fuel a outer adv) (driveAfterService fuel b outer adv)
  de : ∀ a b outer, HSim ha hb a b → HSim ha hb (driveEnter fuel a outer) (driveEnter fuel b outer)
  dwr : ∀ a b outer d y, HSim ha hb a b →
    HSim ha hb (doWaitRead fuel a outer d y) (doWaitRead fuel b outer d y)

theorem ite_clr {c c' : Prop} [Decidable c] [Decidable c'] (hc : c ↔ c') {x y x' y' : World}
    (h1 : x.clrFlags = x'.clrFlags) (h2 : y.clrFlags = y'.clrFlags) :
    (if c then x else y).clrFlags = (if c' then x' else y').clrFlags := by
  by_cases h : c
  · rw [if_pos h, if_pos (hc.1 h), h1]
  · rw [if_neg h, if_neg (fun k => h (hc.2 k)), h2]

theorem cancelFut_clr (w : World) : w.clrFlags.cancelFut = w.cancelFut.clrFlags := by
  unfold World.cancelFut
  exact Eq.symm (apply_ite World.clrFlags _ _ _)

theorem dropConn_clr (w : World) : w.clrFlags.dropConn = w.dropConn.clrFlags := by
  unfold World.dropConn
  rw [cancelFut_clr]
  exact Eq.symm (apply_ite World.clrFlags _ _ _)

theorem connectStart_clr (w : World) : w.clrFlags.connectStart = w.connectStart := by
  unfold World.connectStart
  rw [dropConn_clr]
  rfl

theorem startOp_clr (w : World) (name : String) (body : World → World) :
    (w.clrFlags.startOp name body).clrFlags = (w.startOp name body).clrFlags := by
  unfold World.startOp
  rw [cancelFut_clr]
  exact ite_clr Iff.rfl rfl rfl

theorem poll_clr (w : World) : World.poll w.clrFlags = World.poll w := rfl

theorem goLoop_clr (n : Nat) (w : World) : (World.goLoop n w.clrFlags).clrFlags = (World.goLoop n w).clrFlags := by
  cases n with
  | zero => rfl
  | succ n => unfold World.goLoop; rfl

/-- A directive run on the world with the per-POLL flags reset does the same: what it tests first is not
a flag, and a POLL or an operation start resets the flags before anything reads them (`poll_clr`). -/
theorem execDirective_clr (w : World) (d : Directive) :
    (w.clrFlags.execDirective d).clrFlags = (w.execDirective d).clrFlags := by
  cases d with
  | connect =>
    show (w.clrFlags.startConnect).clrFlags = w.startConnect.clrFlags
    rw [startConnect_eq, startConnect_eq, connectStart_clr]
  | publish | subscribe | unsubscribe | disconnect | poll | recv | drive => exact startOp_clr w _ _
  | d | rx | setpid => exact ite_clr Iff.rfl rfl rfl
  | go => exact ite_clr Iff.rfl rfl (goLoop_clr _ w)
  | tick us => exact ite_clr Iff.rfl rfl (ite_clr Iff.rfl rfl rfl)
  | cancel => show (w.clrFlags.cancelFut).clrFlags = _; rw [cancelFut_clr]; rfl
  | drop => show (w.clrFlags.dropConn).clrFlags = _; rw [dropConn_clr]; rfl
  | bad | decode => rfl

/-- `HSim` of the worlds with the flags reset is kept by every program: `execDirective_clr` moves the reset
before the directive, where `HSim.unread` applies. -/
theorem HSim.run_clr {ha hb a b : World} (ds : List Directive) (h : HSim ha hb a.clrFlags b.clrFlags) :
    HSim ha hb (ds.foldl World.execDirective a).clrFlags (ds.foldl World.execDirective b).clrFlags :=
  program_ind₂ (R := fun a b => HSim ha hb a.clrFlags b.clrFlags) (fun a b d h => by
    rw [← execDirective_clr a, ← execDirective_clr b]
    exact unread.upd (unread.execDirective h d) World.clrFlags) ds h

theorem HSim.init {a b : World} (h : a.core = b.core)
    (ht : TrRel a.handles.length b.handles.length [] a.out b.out) : HSim a b a b :=
  ⟨h, ⟨[], by simp, by simp, ht⟩, Or.inr ⟨rfl, rfl⟩⟩

/-- With the old traces cut off (`run_clearOut`) the two worlds with their flags reset are related by `HSim` with
themselves as base; the program keeps that (`HSim.run_clr`), and the conclusion is read off it. -/
theorem fin_congr {a b : World} (h : a.fin = b.fin) (hf : a.fut = b.fut) (ds : List Directive) :
    let a' := ds.foldl World.execDirective a
    let b' := ds.foldl World.execDirective b
    a'.fin = b'.fin ∧ a'.fut = b'.fut ∧
    (∃ ops newA newB, a'.handles = a.handles ++ ops ∧ b'.handles = b.handles ++ ops ∧
      a'.out = newA ++ a.out ∧ b'.out = newB ++ b.out ∧
      TrRel a.handles.length b.handles.length ops newA newB) ∧
    (a'.lastRes = b'.lastRes ∨ (a'.lastRes = a.lastRes ∧ b'.lastRes = b.lastRes)) := by
  intro a' b'
  have h0 : HSim a.clearOut b.clearOut a.clearOut.clrFlags b.clearOut.clrFlags := by
    refine ⟨?_, ⟨[], by simp [World.clrFlags], by simp [World.clrFlags], .nil⟩, Or.inr ⟨rfl, rfl⟩⟩
    show ({ a.fin with fut := a.fut } : World) = { b.fin with fut := b.fut }
    rw [h, hf]
  have h1 := h0.run_clr ds
  obtain ⟨ops, e1, e2, t⟩ := h1.hnd
  rw [show a' = _ from run_clearOut ds a, show b' = _ from run_clearOut ds b]
  exact ⟨congrArg (fun c : World => ({ c with fut := none } : World)) h1.core, h1.fut,
    ⟨ops, _, _, e1, e2, rfl, rfl, t⟩, h1.res⟩

end Minimq
