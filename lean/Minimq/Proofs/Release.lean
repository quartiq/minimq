import Minimq.Proofs.OutOps
/-
The ghost serials of the release queue. `queue_release` gives every new release entry the next value
of the ghost counter `Outbound.nextRser` (`PendingRelease.rser`) and records the serial of the retained
PUBLISH whose PUBREC created it (`PendingRelease.pser`). Nothing else writes these fields.

`RelInv`: along the release queue the serials strictly increase and stay below the counter. It is
preserved by every primitive (`closed_RelP`).
-/
namespace Minimq
open Gen World Outbound

/-- Ghost serial, origin serial, identifier and reason code of every release entry, oldest first. -/
def Outbound.relTags (o : Outbound) : List (Nat × Nat × Nat × Nat) := o.release.map fun e => (e.rser, e.pser, e.id, e.rc)

def Outbound.rsers (o : Outbound) : List Nat := o.release.map (·.rser)

theorem rsers_eq_relTags (o : Outbound) : o.rsers = o.relTags.map (·.1) := by
  simp [Outbound.rsers, Outbound.relTags, Function.comp_def]

/-- The release entries are the same up to their send states, and so is the counter. -/
structure RelSame (o o' : Outbound) : Prop where
  tags : o'.relTags = o.relTags
  next : o'.nextRser = o.nextRser

theorem RelSame.refl (o : Outbound) : RelSame o o := ⟨rfl, rfl⟩

theorem RelSame.of_eq {o o' : Outbound} (hr : o'.release = o.release) (hn : o'.nextRser = o.nextRser) : RelSame o o' :=
  ⟨by simp [Outbound.relTags, hr], hn⟩

theorem RelSame.trans {a b c : Outbound} (h1 : RelSame a b) (h2 : RelSame b c) : RelSame a c :=
  ⟨h2.tags.trans h1.tags, h2.next.trans h1.next⟩

theorem RelSame.armReplay (o : Outbound) : RelSame o o.armReplay := by
  obtain ⟨_, h2, _, _, h5⟩ := armReplay_queues o
  exact ⟨by rw [Outbound.relTags, h2, List.map_map]; rfl, h5⟩

theorem RelSame.encodeAt {ε : Type} (o : Outbound) (enc : Nat → (Nat → Nat → Bytes) → Except ε (Nat × Bytes)) :
    RelSame o (o.encodeAt enc).1 :=
  RelSame.of_eq (encodeAt_frame o enc).2.1 (encodeAt_nextRser o enc)

theorem RelSame.retainPacket {o o' : Outbound} {id off len : Nat} (h : o.retainPacket id off len = some o') : RelSame o o' := by
  obtain ⟨_, rfl⟩ := retainPacket_some h
  exact RelSame.of_eq rfl rfl

structure Outbound.RelInv (o : Outbound) : Prop where
  inc : o.rsers.Pairwise (· < ·)
  lt : ∀ e ∈ o.release, e.rser < o.nextRser

theorem RelInv_of_same {o o' : Outbound} (h : o.RelInv) (hs : RelSame o o') : o'.RelInv := by
  have hr : o'.rsers = o.rsers := by rw [rsers_eq_relTags, rsers_eq_relTags, hs.tags]
  exact ⟨hr ▸ h.inc, hs.next ▸ forall_of_map_eq (· < o.nextRser) hr h.lt⟩

/-- `queue_release` is the one operation that writes a serial: the next value of the counter. -/
theorem RelInv_queueRelease {o o' : Outbound} {id rc ps : Nat} (h : o.RelInv) (hq : o.queueRelease id rc ps = some o') :
    o'.RelInv := by
  obtain ⟨_, rfl⟩ := queueRelease_some hq
  refine ⟨?_, fun e he => ?_⟩
  · simp only [Outbound.rsers, List.map_append, List.map_cons, List.map_nil, List.pairwise_append]
    refine ⟨h.inc, by simp, fun a ha c hcm => ?_⟩
    obtain ⟨e, he, rfl⟩ := List.mem_map.mp ha
    rw [List.mem_singleton.mp hcm]
    exact h.lt e he
  · rcases List.mem_append.mp he with hm | hm
    · exact Nat.lt_succ_of_lt (h.lt e hm)
    · rw [List.mem_singleton.mp hm]; exact Nat.lt_succ_self _

theorem StatesOnly.relSame {a b : Outbound} (h : StatesOnly a b) : RelSame a b := ⟨h.relTags, h.nextRser⟩

theorem OutChange.relSame {o o' : Outbound} (h : OutChange o o') : RelSame o o' := by
  cases h with
  | refl => exact .refl _
  | setWritten _ pkt a c => exact (Outbound.setWritten_states _ pkt a c).relSame
  | completeFlush _ pkt => exact (Outbound.completeFlush_states _ pkt).relSame
  | queueControl hq => obtain ⟨_, rfl⟩ := queueControl_some hq; exact .of_eq rfl rfl
  | rearm o => exact ⟨(RelSame.armReplay o.dropPingreq).tags, (RelSame.armReplay o.dropPingreq).next⟩
  | encodeAt _ enc => exact .encodeAt _ enc
  | retain _ _ enc _ _ _ _ _ hr => exact (RelSame.encodeAt _ enc).trans (.retainPacket hr)

theorem OutOp.relInv {a b : Outbound} (op : OutOp a b) (h : a.RelInv) : b.RelInv := by
  cases op with
  | quiet hq => exact RelInv_of_same h hq.relSame
  | ackPacket id k => exact RelInv_of_same h (.of_eq (ackPacket_release _ id k) (ackPacket_nextRser _ id k))
  | queueRelease hq => exact RelInv_queueRelease h hq
  | ackRelease id =>
    rw [ackRelease_eq]
    split
    · exact ⟨h.inc.sublist ((removeFirst_sublist _ _).map _), fun e he => h.lt e ((removeFirst_sublist _ _).subset he)⟩
    · exact h
  | clear => exact ⟨.nil, nofun⟩

def RelP (s : Session) : Prop := s.data.outbound.RelInv

theorem closed_RelP : Closed RelP := Closed.of_out OutOp.relInv

theorem RelP_new (cfg : Cfg) : RelP (Session.new cfg) :=
  ⟨by simp [Outbound.rsers, Session.new, Outbound.new], by intro e he; simp [Session.new, Outbound.new] at he⟩

end Minimq
