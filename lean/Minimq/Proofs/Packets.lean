import Minimq.Proofs.Writer
import Minimq.Proofs.SpecProps
/-
Packet-level round trips: what the model's encoders write, the independent reference decodes back.
-/
namespace Minimq
open Gen

/-- The user-supplied property lists inside a `Properties` value (not the inbound `encoded` form). -/
def Properties.items : Properties → List Property
  | .slice l => l
  | .withCorrelation c l => c :: l
  | .encoded _ => []

def Properties.isEncoded : Properties → Bool
  | .encoded _ => true
  | _ => false

theorem Properties.chunks_eq (ps : Properties) (h : ps.isEncoded = false) :
    ps.chunks = varintField ps.size :: ps.items.flatMap Property.chunks := by
  cases ps <;> first | rfl | cases h

theorem Properties.size_eq (ps : Properties) (h : ps.isEncoded = false) :
    ps.size = (ps.items.map Property.size).sum := by
  cases ps with
  | slice l => rfl
  | encoded _ => cases h
  | withCorrelation c l =>
    simp only [Properties.size, Properties.items, List.map_append, List.sum_append, List.map_cons, List.map_nil,
      List.sum_cons, List.sum_nil]
    omega

/-! ### Field by field

A packet body is the concatenation of a chunk list. Each lemma takes the chunk(s) of one field off
the front: the reference's reader for that field returns the value written and what the remaining
chunks add up to. -/

theorem chunk_raw {x : Bytes} {cs : List (Except SerErr Bytes)} {out : Bytes}
    (h : catChunks (.ok x :: cs) = .ok out) : ∃ r, catChunks cs = .ok r ∧ out = x ++ r := by
  obtain ⟨y, r, hy, hr, rfl⟩ := catChunks_cons h
  cases hy
  exact ⟨r, hr, rfl⟩

theorem chunk_u16 {n : Nat} {cs : List (Except SerErr Bytes)} {out : Bytes}
    (h : catChunks (.ok (u16be n) :: cs) = .ok out) (hn : n < 65536) :
    ∃ r, catChunks cs = .ok r ∧ Spec.u16 out = some (n, r) := by
  obtain ⟨r, hr, rfl⟩ := chunk_raw h
  exact ⟨r, hr, by rw [spec_u16_eq]; exact codec_u16.read hn r⟩

theorem chunk_bin {s : Bytes} {cs : List (Except SerErr Bytes)} {out : Bytes}
    (h : catChunks (lenPrefixed s :: cs) = .ok out) :
    ∃ r, catChunks cs = .ok r ∧ Spec.bin out = some (s, r) := by
  obtain ⟨x, r, hx, hr, rfl⟩ := catChunks_cons h
  obtain ⟨rfl, hl⟩ := lenPrefixed_ok hx
  exact ⟨r, hr, by rw [spec_bin_eq]; exact codec_bin.read (v := s) (by omega) r⟩

theorem chunk_str {s : Bytes} {cs : List (Except SerErr Bytes)} {out : Bytes}
    (h : catChunks (lenPrefixed s :: cs) = .ok out) (hu : validUtf8 s = true) :
    ∃ r, catChunks cs = .ok r ∧ Spec.str out = some (s, r) ∧ r.length < out.length := by
  obtain ⟨x, r, hx, hr, rfl⟩ := catChunks_cons h
  obtain ⟨rfl, hl⟩ := lenPrefixed_ok hx
  refine ⟨r, hr, by rw [spec_str_eq]; exact codec_str.read (v := s) ⟨by omega, hu⟩ r, ?_⟩
  simp only [List.length_append, u16be, List.length_cons]
  omega

theorem chunk_props (w : Spec.Where) (ps : Properties) {cs : List (Except SerErr Bytes)} {out : Bytes}
    (h : catChunks (ps.chunks ++ cs) = .ok out) (henc : ps.isEncoded = false)
    (hwf : ∀ p ∈ ps.items, p.wf = true)
    (hlegal : ∀ p ∈ ps.items, Spec.allowedIn w p.kind.id = true ∧ Spec.legalValue p.kind.id p.toSpec.val.num = true) :
    ∃ r, catChunks cs = .ok r ∧ Spec.props w out = some (ps.items.map Property.toSpec, r) := by
  rw [Properties.chunks_eq ps henc, List.cons_append] at h
  obtain ⟨x, r0, hx, h0, rfl⟩ := catChunks_cons h
  obtain ⟨rfl, hx2⟩ := varintField_ok hx
  obtain ⟨block, r, hblock, hr, rfl⟩ := catChunks_append h0
  refine ⟨r, hr, ?_⟩
  rw [Spec.props, spec_varint_eq, codec_varint.read hx2, Properties.size_eq ps henc,
    ← encodeProps_length ps.items block hblock]
  simp only [spec_take_eq, takeN_append,
    spec_propsFuel_encode ps.items block block.length hwf hblock (Nat.le_refl _)]
  rw [if_pos]
  rw [List.all_map, List.all_eq_true]
  exact fun p hp => Bool.and_eq_true_iff.mpr (hlegal p hp)

theorem chunk_slice (w : Spec.Where) (ps : List Property) {cs : List (Except SerErr Bytes)} {out : Bytes}
    (h : catChunks ((Properties.slice ps).chunks ++ cs) = .ok out) (hwf : ∀ p ∈ ps, p.wf = true)
    (hlegal : ∀ p ∈ ps, Spec.allowedIn w p.kind.id = true ∧ Spec.legalValue p.kind.id p.toSpec.val.num = true) :
    ∃ r, catChunks cs = .ok r ∧ Spec.props w out = some (ps.map Property.toSpec, r) :=
  chunk_props w (.slice ps) h rfl hwf hlegal

namespace Encoded
variable {typ flags off : Nat} {body pkt : Bytes}

theorem parse (e : Encoded typ flags body off pkt) (ht : typ < 16) (hf : flags < 16) (rest : Bytes) :
    Spec.parseClientPacket (pkt ++ rest) = (Spec.parseBody typ flags body).map fun p => (p, rest) := by
  obtain ⟨h1, h2⟩ := hdr_byte typ flags ht
  simp only [e.pkt_eq, Spec.parseClientPacket, List.cons_append, List.append_assoc]
  rw [spec_varint_eq, codec_varint.read e.max]
  simp only [spec_take_eq, takeN_append, h1, h2 hf]
end Encoded

theorem encoded_frame {cap t f off : Nat} {cs : List (Except SerErr Bytes)} {pkt : Bytes} (rest : Bytes)
    (he : encodeWithOffset cap cs t f = .ok (off, pkt)) (ht : t < 16) (hf : f < 16) :
    ∃ body, catChunks cs = .ok body ∧
      Spec.parseClientPacket (pkt ++ rest) = (Spec.parseBody t f body).map fun p => (p, rest) :=
  (encodeWithOffset_ok he).imp fun _ e => ⟨e.1, e.2.1.parse ht hf rest⟩


theorem publish_flags : ∀ (q : Fin 3) (rt dup : Bool),
    let x := q.val * 2 + (if rt then 1 else 0) + (if dup then 8 else 0)
    x < 16 ∧ x / 2 % 4 = q.val ∧ decide (x % 2 = 1) = rt ∧ decide (x / 8 % 2 = 1) = dup := by
  decide

theorem publish_roundtrip (cap off : Nat) (h : PublishHeader) (payload pkt rest : Bytes)
    (hq : h.qos ≤ 2) (hdup : h.dup = false)
    (hid : match h.packetId with
      | some i => 0 < i ∧ i < 65536 ∧ 0 < h.qos
      | none => h.qos = 0)
    (htopic : validUtf8 h.topic = true)
    (henc : h.props.isEncoded = false)
    (hwf : ∀ p ∈ h.props.items, p.wf = true)
    (hlegal : ∀ p ∈ h.props.items, Spec.allowedIn .publish p.kind.id = true ∧
        Spec.legalValue p.kind.id p.toSpec.val.num = true)
    (he : encodePublishWithOffset cap h (.bytes payload) = .ok (off, pkt)) :
    Spec.parseClientPacket (pkt ++ rest) =
      some (.publish false h.qos h.retain h.topic h.packetId (h.props.items.map Property.toSpec) payload, rest) := by
  obtain ⟨hdr, pl, hhdr, hpl, e, _⟩ := encodePublish_ok he
  obtain rfl : payload = pl := by rcases hpl with h | ⟨_, h, _⟩ <;> cases h; rfl
  have hb := catChunks_append_ok hhdr
    (show catChunks [.ok payload] = .ok payload by simp only [catChunks, List.append_nil])
  have hfl : h.flags < 16 ∧ h.flags / 2 % 4 = h.qos ∧ decide (h.flags % 2 = 1) = h.retain ∧
      decide (h.flags / 8 % 2 = 1) = h.dup := publish_flags ⟨h.qos, by omega⟩ h.retain h.dup
  obtain ⟨f1, f2, f3, f4⟩ := hfl
  rw [e.parse (by decide) f1 rest]
  simp only [PublishHeader.chunks, List.cons_append, List.nil_append, List.append_assoc] at hb
  obtain ⟨r1, hb, p1, _⟩ := chunk_str hb htopic
  have hq3 : ¬ h.qos = 3 := by omega
  simp only [Spec.parseBody, MT_Publish, ↓reduceIte, f2, f3, f4, hdup, p1, hq3,
    decide_false, Bool.false_and, Bool.or_false, Bool.false_eq_true]
  cases hpid : h.packetId with
  | none =>
    rw [hpid] at hid hb
    obtain ⟨r2, hb, p2⟩ := chunk_props .publish h.props hb henc hwf hlegal
    cases catChunks_singleton hb
    simp only [hid, if_true, p2, Option.map]
  | some i =>
    rw [hpid] at hid hb
    obtain ⟨r2, hb, p2⟩ := chunk_u16 hb hid.2.1
    obtain ⟨r3, hb, p3⟩ := chunk_props .publish h.props hb henc hwf hlegal
    cases catChunks_singleton hb
    have hq0 : ¬ h.qos = 0 := by omega
    have hi0 : ¬ i = 0 := by omega
    simp only [hq0, if_false, p2, hi0, p3, Option.map]

theorem ack_roundtrip (cap off typ flags id rc : Nat) (pkt rest : Bytes)
    (htyp : typ = 4 ∨ typ = 5 ∨ typ = 6 ∨ typ = 7) (hflags : flags = if typ = 6 then 2 else 0)
    (hid : 0 < id ∧ id < 65536) (hrc : rc < 256)
    (he : encodeWithOffset cap (ackChunks id rc) typ flags = .ok (off, pkt)) :
    Spec.parseClientPacket (pkt ++ rest) = some (.ack typ id rc [], rest) := by
  obtain ⟨body, hb, hp⟩ := encoded_frame rest he (by omega) (by subst hflags; split <;> omega)
  rw [hp]
  obtain ⟨r1, h1, p1⟩ := chunk_u16 hb hid.2
  obtain ⟨r2, h2, rfl⟩ := chunk_raw h1
  cases catChunks_nil h2
  have hn3 : ¬ typ = 3 := by omega
  have hn1 : ¬ typ = 1 := by omega
  have h4567 : (typ = 4 || typ = 5 || typ = 6 || typ = 7) = true := by
    rcases htyp with rfl | rfl | rfl | rfl <;> rfl
  have hi0 : ¬ id = 0 := by omega
  simp only [Spec.parseBody, hn3, hn1, h4567, ↓reduceIte, hflags, ne_eq, not_true_eq_false, p1, hi0,
    List.append_nil, b_toNat, Nat.mod_eq_of_lt hrc, Option.map]

theorem pingreq_roundtrip (cap off : Nat) (pkt rest : Bytes)
    (he : encodeWithOffset cap [] MT_PingReq FLAGS_PingReq = .ok (off, pkt)) :
    Spec.parseClientPacket (pkt ++ rest) = some (.pingreq, rest) := by
  obtain ⟨body, hb, hp⟩ := encoded_frame rest he (by decide) (by decide)
  cases catChunks_nil hb
  exact hp

theorem spec_props_ne_nil {w : Spec.Where} {out r : Bytes} {ps : List Spec.Prop'}
    (h : Spec.props w out = some (ps, r)) : ∃ x xs, out = x :: xs := by
  cases out with
  | nil => cases h
  | cons x xs => exact ⟨x, xs, rfl⟩

def TopicFilter.toSpec (t : TopicFilter) : Spec.Filter :=
  { topic := t.topic, maxQos := t.opts.maxQos, noLocal := t.opts.noLocal, rap := t.opts.rap, rh := t.opts.rh }

/-- The values the crate's enums `QoS` and `RetainHandling` have (0, 1, 2 each); in the model both fields are
natural numbers. -/
def SubOpts.wf (o : SubOpts) : Bool := o.maxQos ≤ 2 && o.rh ≤ 2

theorem subopts_bits : ∀ (q rh : Fin 3) (nl rap : Bool),
    let x := q.val % 4 + (if nl then 4 else 0) + (if rap then 8 else 0) + rh.val * 16
    x < 64 ∧ x % 4 ≠ 3 ∧ x / 16 % 4 ≠ 3 ∧ x % 4 = q.val ∧ decide (x / 4 % 2 = 1) = nl ∧
      decide (x / 8 % 2 = 1) = rap ∧ x / 16 % 4 = rh.val := by
  decide

theorem subopts_byte (o : SubOpts) (h : o.wf = true) :
    o.byte < 64 ∧ o.byte % 4 ≠ 3 ∧ o.byte / 16 % 4 ≠ 3 ∧ o.byte % 4 = o.maxQos ∧
    decide (o.byte / 4 % 2 = 1) = o.noLocal ∧ decide (o.byte / 8 % 2 = 1) = o.rap ∧ o.byte / 16 % 4 = o.rh := by
  simp only [SubOpts.wf, Bool.and_eq_true, decide_eq_true_eq] at h
  exact subopts_bits ⟨o.maxQos, by omega⟩ ⟨o.rh, by omega⟩ o.noLocal o.rap

theorem spec_filters_encode (ts : List TopicFilter) (out : Bytes) (fuel : Nat)
    (hwf : ∀ t ∈ ts, validUtf8 t.topic = true ∧ t.opts.wf = true)
    (h : catChunks (ts.flatMap (fun t => [lenPrefixed t.topic, .ok [b t.opts.byte]])) = .ok out)
    (hf : out.length ≤ fuel) :
    Spec.filtersFuel fuel out = some (ts.map TopicFilter.toSpec) := by
  induction ts generalizing out fuel with
  | nil => cases catChunks_nil h; cases fuel <;> rfl
  | cons t ts ih =>
    obtain ⟨hv, ho⟩ := hwf t List.mem_cons_self
    obtain ⟨b1, b2, b3, b4, b5, b6, b7⟩ := subopts_byte t.opts ho
    obtain ⟨r1, h1, p1, l1⟩ := chunk_str h hv
    obtain ⟨r2, h2, rfl⟩ := chunk_raw h1
    have hbyte : (b t.opts.byte).toNat = t.opts.byte := by rw [b_toNat]; omega
    have hcond : (decide (t.opts.byte ≥ 64) || decide (t.opts.byte % 4 = 3) || decide (t.opts.byte / 16 % 4 = 3)) = false := by
      simp only [ge_iff_le, Bool.or_eq_false_iff, decide_eq_false_iff_not]; omega
    cases fuel with
    | zero => cases out <;> simp at l1 hf
    | succ fuel =>
      obtain ⟨x, xs, rfl⟩ : ∃ x xs, out = x :: xs := by cases out <;> simp at l1 ⊢
      rw [Spec.filtersFuel]
      · simp only [p1, List.singleton_append, hbyte, hcond, Bool.false_eq_true, if_false]
        rw [ih r2 fuel (fun t' ht' => hwf t' (List.mem_cons_of_mem _ ht')) h2
          (by simp only [List.length_append, List.length_cons, List.length_nil] at l1 hf; omega)]
        simp only [b4, b5, b6, b7, Option.map, TopicFilter.toSpec, List.map_cons]
      · exact List.cons_ne_nil _ _

theorem spec_topics_encode (ts : List Bytes) (out : Bytes) (fuel : Nat)
    (hwf : ∀ t ∈ ts, validUtf8 t = true)
    (h : catChunks (ts.map lenPrefixed) = .ok out) (hf : out.length ≤ fuel) :
    Spec.topicsFuel fuel out = some ts := by
  induction ts generalizing out fuel with
  | nil => cases catChunks_nil h; cases fuel <;> rfl
  | cons t ts ih =>
    obtain ⟨r1, h1, p1, l1⟩ := chunk_str h (hwf t List.mem_cons_self)
    cases fuel with
    | zero => cases out <;> simp at l1 hf
    | succ fuel =>
      obtain ⟨x, xs, rfl⟩ : ∃ x xs, out = x :: xs := by cases out <;> simp at l1 ⊢
      rw [Spec.topicsFuel]
      · simp only [p1]
        rw [ih r1 fuel (fun t' ht' => hwf t' (List.mem_cons_of_mem _ ht')) h1
          (by rw [List.length_cons] at l1 hf; omega)]
        rfl
      · exact List.cons_ne_nil _ _

def Will.toSpec (w : Will) : Spec.Will :=
  { props := w.props.map Property.toSpec, topic := w.topic, payload := w.data, qos := w.qos, retain := w.retained }

/-- `cs` clean start, `wl` will flag, `q` will QoS, `rt` will retain, `au` user name and password flags;
bit 0 is reserved. -/
theorem connect_bits : ∀ (cs wl rt au : Bool) (q : Fin 3),
    let x := (if cs then 2 else 0) + (if wl then 4 + q.val * 8 + (if rt then 32 else 0) else 0) +
      (if au then 64 + 128 else 0)
    x < 256 ∧ x % 2 = 0 ∧ decide (x / 2 % 2 = 1) = cs ∧ decide (x / 4 % 2 = 1) = wl ∧
      x / 8 % 4 = (if wl then q.val else 0) ∧ decide (x / 32 % 2 = 1) = (wl && rt) ∧
      decide (x / 64 % 2 = 1) = au ∧ decide (x / 128 % 2 = 1) = au := by
  decide

theorem connect_flags (c : Connect) (hq : ∀ w, c.will = some w → w.qos ≤ 2) :
    c.flags < 256 ∧ c.flags % 2 = 0 ∧ decide (c.flags / 2 % 2 = 1) = c.cleanStart ∧
      decide (c.flags / 4 % 2 = 1) = c.will.isSome ∧
      c.flags / 8 % 4 = (match c.will with | some w => w.qos | none => 0) ∧
      decide (c.flags / 32 % 2 = 1) = (match c.will with | some w => w.retained | none => false) ∧
      decide (c.flags / 64 % 2 = 1) = c.auth.isSome ∧ decide (c.flags / 128 % 2 = 1) = c.auth.isSome := by
  rw [Connect.flags]
  cases hw : c.will with
  | none => exact connect_bits c.cleanStart false false c.auth.isSome 0
  | some w => exact connect_bits c.cleanStart true w.retained c.auth.isSome ⟨w.qos, by have := hq w hw; omega⟩

theorem auth_fields (au : Option Auth) (fl : Nat) {r : Bytes}
    (h : catChunks (match au with
      | some a => [lenPrefixed a.user, lenPrefixed a.pass]
      | none => []) = .ok r)
    (hu : ∀ a, au = some a → validUtf8 a.user = true)
    (h7 : decide (fl / 128 % 2 = 1) = au.isSome) (h6 : decide (fl / 64 % 2 = 1) = au.isSome) :
    ∃ r', (if fl / 128 % 2 = 1 then Option.map (fun x => (some x.fst, x.snd)) (Spec.str r) else some (none, r)) =
        some (au.map (·.user), r') ∧
      (if fl / 64 % 2 = 1 then Option.map (fun x => (some x.fst, x.snd)) (Spec.bin r') else some (none, r')) =
        some (au.map (·.pass), []) := by
  cases au with
  | none =>
    cases catChunks_nil h
    exact ⟨[], by rw [if_neg (of_decide_eq_false h7)]; rfl, by rw [if_neg (of_decide_eq_false h6)]; rfl⟩
  | some a =>
    obtain ⟨r1, h1, p1, _⟩ := chunk_str h (hu a rfl)
    obtain ⟨r2, h2, p2⟩ := chunk_bin h1
    cases catChunks_nil h2
    exact ⟨r1, by rw [if_pos (of_decide_eq_true h7), p1]; rfl, by rw [if_pos (of_decide_eq_true h6), p2]; rfl⟩

theorem connect_roundtrip (cap off : Nat) (c : Connect) (ps : List Property) (pkt rest : Bytes)
    (hka : c.keepalive < 65536) (hcid : validUtf8 c.clientId = true)
    (hprops : c.props = .slice ps)
    (hwf : ∀ p ∈ ps, p.wf = true)
    (hlegal : ∀ p ∈ ps, Spec.allowedIn .connect p.kind.id = true ∧ Spec.legalValue p.kind.id p.toSpec.val.num = true)
    (hwill : ∀ w, c.will = some w → w.qos ≤ 2 ∧ validUtf8 w.topic = true ∧ (∀ p ∈ w.props, p.wf = true) ∧
        (∀ p ∈ w.props, Spec.allowedIn .will p.kind.id = true ∧ Spec.legalValue p.kind.id p.toSpec.val.num = true))
    (hauth : ∀ a, c.auth = some a → validUtf8 a.user = true)
    (he : encodeConnect cap c = .ok (off, pkt)) :
    Spec.parseClientPacket (pkt ++ rest) =
      some (.connect c.cleanStart c.keepalive (ps.map Property.toSpec) c.clientId (c.will.map Will.toSpec)
              (c.auth.map (·.user)) (c.auth.map (·.pass)), rest) := by
  obtain ⟨body, hb, hp⟩ := encoded_frame rest he (by decide) (by decide)
  rw [hp]
  simp only [Connect.chunks, hprops, List.cons_append, List.nil_append, List.append_assoc] at hb
  obtain ⟨r1, h1, p1⟩ := chunk_bin hb
  obtain ⟨r2, h2, rfl⟩ := chunk_raw h1
  obtain ⟨r3, h3, rfl⟩ := chunk_raw h2
  obtain ⟨r4, h4, p4⟩ := chunk_u16 h3 hka
  obtain ⟨r5, h5, p5⟩ := chunk_slice .connect ps h4 hwf hlegal
  obtain ⟨r6, h6, p6, _⟩ := chunk_str h5 hcid
  obtain ⟨f1, f2, f3, f4, f5, f6, f7, f8⟩ := connect_flags c fun w hw => (hwill w hw).1
  have h5 : (5 : UInt8).toNat = 5 := rfl
  have hbyte : (b c.flags).toNat = c.flags := by rw [b_toNat, Nat.mod_eq_of_lt f1]
  simp only [Spec.parseBody, MT_Connect, FLAGS_Connect, ↓reduceIte, Nat.reduceEqDiff, ne_eq, not_true_eq_false,
    p1, List.cons_append, List.nil_append, h5, hbyte, f2, f3, f4, f5, f6, p4, p5, p6]
  cases hw : c.will with
  | none =>
    simp only [hw, List.nil_append] at h6
    obtain ⟨r7, pu, pp⟩ := auth_fields c.auth c.flags h6 hauth f8 f7
    have g4 : ¬ c.flags / 4 % 2 = 1 := of_decide_eq_false (by rw [f4, hw]; rfl)
    simp only [Option.isSome, g4, pu, pp, ↓reduceIte, Nat.reduceEqDiff, not_true_eq_false,
      decide_false, Bool.not_false, Bool.or_false, Bool.and_false, Bool.false_eq_true, List.isEmpty_nil]
    rfl
  | some w =>
    obtain ⟨hwq, hwt, hwwf, hwlegal⟩ := hwill w hw
    simp only [hw, Will.chunks, List.cons_append, List.nil_append, List.append_assoc] at h6
    obtain ⟨r7, h7, p7⟩ := chunk_slice .will w.props h6 hwwf hwlegal
    obtain ⟨r8, h8, p8, _⟩ := chunk_str h7 hwt
    obtain ⟨r9, h9, p9⟩ := chunk_bin h8
    obtain ⟨r10, pu, pp⟩ := auth_fields c.auth c.flags h9 hauth f8 f7
    have hq3 : ¬ w.qos = 3 := by omega
    have g4 : c.flags / 4 % 2 = 1 := of_decide_eq_true (by rw [f4, hw]; rfl)
    simp only [Option.isSome, g4, hq3, p7, p8, p9, pu, pp, ↓reduceIte,
      decide_false, Bool.not_true, Bool.false_and, Bool.or_false, Bool.false_eq_true, List.isEmpty_nil]
    rfl

theorem connectProps_ok (rx expiry : Nat) (h1 : 0 < rx) (h2 : rx < 4294967296) (h3 : expiry < 4294967296) :
    (∀ p ∈ connectProps rx expiry, p.wf = true) ∧
    (∀ p ∈ connectProps rx expiry, Spec.allowedIn .connect p.kind.id = true ∧
      Spec.legalValue p.kind.id p.toSpec.val.num = true) := by
  constructor
  · intro p hp
    simp only [connectProps, List.mem_cons, List.not_mem_nil, or_false] at hp
    rcases hp with rfl | rfl | rfl
    · simp [Property.wf, PropKind.declShape, h2]
    · simp [Property.wf, PropKind.declShape, h3]
    · simp [Property.wf, PropKind.declShape, MAX_INBOUND_QOS2]
  · intro p hp
    simp only [connectProps, List.mem_cons, List.not_mem_nil, or_false] at hp
    rcases hp with rfl | rfl | rfl
    · refine ⟨by simp [PropKind.id, Spec.allowedIn], ?_⟩
      have hne : rx ≠ 0 := by omega
      simp [Spec.legalValue, PropKind.id, Property.toSpec, PropKind.serShape, Spec.Val.num, hne]
    · exact ⟨by simp [PropKind.id, Spec.allowedIn], by simp [Spec.legalValue, PropKind.id]⟩
    · exact ⟨by decide, by decide⟩

end Minimq
