import Minimq.Proofs.Primitives
/-
What the session primitives do to the outbound state.

`OutOp o o'` lists the operations on the transmit arena and its three queues (the functions of `Out.lean` as the
primitives call them); those that neither take a retained packet or a release entry away nor add a release entry are
`OutChange`. `Prim.shape` is the one walk over the primitives; `Prim.out` (every primitive is a chain of `OutOp`s),
`Prim.frame` (`Proofs/PrimFrame.lean`) and the classification of the steps of an execution (`SessStep.outChange`,
`Proofs/Exchange.lean`) are read off it. A relation or an invariant of the outbound state is then shown once per
operation (`Steps.lift`, `Closed.of_out`) and not once per primitive.
-/
namespace Minimq
open Gen World Outbound

/-- What a primitive other than `handle` and the CONNACK of a fresh session does to the outbound state
(`Prim.shape`): nothing, or one of the six operations that neither take a retained packet or a release entry away
nor add a release entry. `retain` is `encode` into the scratch space followed by `retain_packet`. -/
inductive OutChange : Outbound → Outbound → Prop
  | refl (o : Outbound) : OutChange o o
  | setWritten (o : Outbound) (pkt : Flushed) (a c : Nat) : OutChange o (o.setWritten pkt a c)
  | completeFlush (o : Outbound) (pkt : Flushed) : OutChange o (o.completeFlush pkt)
  | queueControl {o o' : Outbound} {a : ControlAction} (h : o.queueControl a = some o') : OutChange o o'
  | rearm (o : Outbound) : OutChange o o.rearm
  | encodeAt {ε : Type} (o : Outbound) (enc : Nat → (Nat → Nat → Bytes) → Except ε (Nat × Bytes)) (he : EncOk enc) :
      OutChange o (o.encodeAt enc).1
  | retain {ε : Type} (o o' : Outbound) (enc : Nat → (Nat → Nat → Bytes) → Except ε (Nat × Bytes)) (he : EncOk enc)
      (id off len : Nat) (hres : (o.encodeAt enc).2 = .ok (off, len))
      (hr : (o.encodeAt enc).1.retainPacket id off len = some o') : OutChange o o'

/-- One operation on the outbound state: the functions of `Out.lean` as the primitives call them. Beside those of
`OutChange`, the three through which `handle_packet` ends or continues an exchange, and the reset for a fresh session. -/
inductive OutOp : Outbound → Outbound → Prop
  | quiet {o o' : Outbound} (h : OutChange o o') : OutOp o o'
  | ackPacket (o : Outbound) (id : Nat) (k : AckKind) : OutOp o (o.ackPacket id k).1
  | queueRelease {o o' : Outbound} {id rc ps : Nat} (h : o.queueRelease id rc ps = some o') : OutOp o o'
  | ackRelease (o : Outbound) (id : Nat) : OutOp o (o.ackRelease id).1
  | clear (o : Outbound) : OutOp o o.clear

abbrev OutOps := Steps OutOp

/-- What `handle_packet` does to the outbound state, as an induction principle: nothing, `ack_packet`,
`ack_packet` and `queue_release` (a PUBREC acknowledges the PUBLISH and queues the PUBREL), `ack_release`, or
`queue_control`. -/
theorem handlePacket_ind {P : Outbound → Prop} (d : SessionData) (r : Runtime) (p : Recv) (same : P d.outbound)
    (ackPacket : ∀ id k, P (d.outbound.ackPacket id k).1)
    (queueRelease : ∀ id k rc ps o', (d.outbound.ackPacket id k).1.queueRelease id rc ps = some o' → P o')
    (ackRelease : ∀ id, P (d.outbound.ackRelease id).1) (queueControl : ∀ a o', d.outbound.queueControl a = some o' → P o') :
    P (handlePacket d r p).1.outbound := by
  have hd := handlePacket_outcome d r p
  generalize handlePacket d r p = out at hd ⊢
  cases hd with
  | skip | pingResp | unsent => exact same
  | acked id k | pubAck id | pubRecFailed id | pubRecStuck id => exact ackPacket id _
  | pubRecReleased id o' _ _ hq => exact queueRelease id _ _ _ o' hq
  | pubComp id => exact ackRelease id
  | queued a o' ids dl ha hids fits hq => exact queueControl a o' hq

theorem handlePacket_out (d : SessionData) (r : Runtime) (p : Recv) :
    OutOps d.outbound (handlePacket d r p).1.outbound :=
  handlePacket_ind d r p (.refl _) (fun id k => .one (.ackPacket _ id k))
    (fun id k _ _ _ hq => (Steps.one (.ackPacket _ id k)).tail (.queueRelease hq)) (fun id => .one (.ackRelease _ id))
    (fun _ _ hq => .one (.quiet (.queueControl hq)))

/-- **Every primitive, by what it changes.** It handles an inbound packet; or it processes a CONNACK; or it
keeps everything but the reader, the identifier counter, four fields of the runtime and the outbound state, which
it changes in one of the ways of `OutChange`. -/
theorem Prim.shape {s s' : Session} (h : Prim s s') :
    (∃ p, s' = (s.handle p).1) ∨ (∃ sp block now, s' = (s.activate sp block now).1) ∨
    ∃ rd pid o sr q np pt, OutChange s.data.outbound o ∧ s' =
      { s with reader := rd, data := { s.data with packetId := pid, outbound := o },
               rt := { s.rt with sessionResumed := sr, sendQuota := q, nextPing := np, pingTimeout := pt } } := by
  cases h
  case handle p => exact .inl ⟨p, rfl⟩
  case activate sp block t => exact .inr (.inl ⟨sp, block, t, rfl⟩)
  -- every other primitive is brought to the form of a record update of `s`
  all_goals right; right
  case queuePing hq =>
    rcases Session.queuePing_ok hq with rfl | ⟨o, ho, rfl⟩
    · exact ⟨_, _, _, _, _, _, _, .refl _, rfl⟩
    · exact ⟨_, _, _, _, _, _, _, .queueControl ho, rfl⟩
  case completeFlush pkt t =>
    cases pkt
    case control a =>
      unfold Session.completeFlush; dsimp only
      split <;> exact ⟨_, _, _, _, _, _, _, .completeFlush _ (.control a), rfl⟩
    case release id => exact ⟨_, _, _, _, _, _, _, .completeFlush _ (.release id), rfl⟩
    case retained id => exact ⟨_, _, _, _, _, _, _, .completeFlush _ (.retained id), rfl⟩
  case setWritten pkt a c => exact ⟨_, _, _, _, _, _, _, .setWritten _ pkt a c, by cases pkt <;> rfl⟩
  case takePkt => rw [Session.takePkt_fst]; exact ⟨_, _, _, _, _, _, _, .refl _, rfl⟩
  case handleDisconnect | beginConnect => exact ⟨_, _, _, _, _, _, _, .rearm _, rfl⟩
  case alloc =>
    obtain ⟨pid, h⟩ := nextPacketId_fst s.data
    rw [Session.alloc_fst, h]; exact ⟨_, _, _, _, _, _, _, .refl _, rfl⟩
  case encodeConnect c => rw [Session.encode_fst]; exact ⟨_, _, _, _, _, _, _, .encodeAt _ _ (EncOk_encodeConnect c), rfl⟩
  case encodeScratch enc he => rw [Session.encode_fst]; exact ⟨_, _, _, _, _, _, _, .encodeAt _ enc he, rfl⟩
  case encodeAfterAlloc enc he =>
    obtain ⟨pid, h⟩ := nextPacketId_fst s.data
    rw [Session.alloc_encode_fst, h]; exact ⟨_, _, _, _, _, _, _, .encodeAt _ enc he, rfl⟩
  case enqueue enc off len isPub typ he _ _ _ hres hr =>
    obtain ⟨o, hres', ho, rfl⟩ := Session.enqueue_some hres hr
    obtain ⟨pid, h⟩ := nextPacketId_fst s.data
    rw [h]
    cases isPub <;> exact ⟨_, _, _, _, _, _, _, .retain _ o enc he _ off len hres' ho, rfl⟩
  case window hw => obtain ⟨rd, _, rfl⟩ := Session.window_some hw; exact ⟨_, _, _, _, _, _, _, .refl _, rfl⟩
  case clearPing | noteActivity | commit | setPid => exact ⟨_, _, _, _, _, _, _, .refl _, rfl⟩

theorem Prim.out {s s' : Session} (p : Prim s s') : OutOps s.data.outbound s'.data.outbound := by
  rcases p.shape with ⟨q, rfl⟩ | ⟨sp, block, now, rfl⟩ | ⟨_, _, _, _, _, _, _, hc, rfl⟩
  · exact handlePacket_out s.data s.rt q
  · -- the reset for a fresh session, then nothing (accepted) or `handle_disconnect` (rejected)
    have h0 : OutOps s.data.outbound (s.preActivate sp).data.outbound := by
      cases sp
      · exact .one (.clear _)
      · exact .refl _
    rcases s.activate_cases sp block now with e | e <;> rw [e]
    · exact h0
    · exact h0.tail (.quiet (.rearm _))
  · exact .one (.quiet hc)

theorem Closed.of_out {I : Outbound → Prop} (op : ∀ {a b}, OutOp a b → I a → I b) :
    Closed (fun s => I s.data.outbound) :=
  (closed_iff_prim _).2 fun _ _ p => p.out.inv fun _ _ st => op st

end Minimq
