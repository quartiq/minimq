import Minimq.Proofs.NoSpin
import Minimq.Proofs.Machine
/-
Fuel adequacy — one step of the machine.

A step `Step c n` of a call `c` (Proofs/Machine.lean) either ends in a world `r` with `Halt c r`, or goes
on as a call `c'` with `Edge c c'`, of strictly smaller rank: `step_outcome`. Both record what the code
in between did: for fuel adequacy (`IoOnce`, `Stuck`), for the self-wake invariant (`K`, `Lines`) and for
what is left suspended (`Ready`). The three are walked together because they share the larger part of every
leaf: what the synchronous code did to trace, decision, counter and clock (`Sync`).
-/
namespace Minimq
open Gen World NoSpin
namespace Fuel

/-- A `poll`/`recv` call in the drive loop that has not yet advanced anything. -/
def Call.calm : Call → Bool
  | .PS _ (.drive adv o) _ _ => !adv && o != .drive
  | .DSW _ (.drive adv o) _ _ _ _ _ => !adv && o != .drive
  | .DSF _ (.drive adv o) _ _ => !adv && o != .drive
  | .SR _ (.drive adv o) a => !adv && !a && o != .drive
  | .DL _ o adv => !adv && o != .drive
  | .DAS _ o adv => !adv && o != .drive
  | .DE _ o => o != .drive
  | .DWR _ o _ _ => o != .drive
  | _ => false

/-- Nothing has advanced and nothing is waiting to be processed: a calm call and no complete packet
in the receive buffer. -/
def Call.Stuck (c : Call) : Prop :=
  c.calm = true ∧ c.world.sess.reader.cls = 0

/-- The I/O decision of this POLL has been used up by an I/O call between `w` and `w'`. -/
def Consumed (w w' : World) : Prop := w.slot.isSome = true ∧ w'.slot = none

def NotOk (r : World) : Prop := r.fut.isSome = true ∨ ∃ e, r.lastRes = some (.error e)

def Settled (r : World) : Prop := r.fut.isSome = true ∨ r.lastRes.isSome = true

structure Edge (c c' : Call) : Prop where
  rank : c'.rank + 1 ≤ c.rank
  lines : Lines c.world c'.world
  io : IoOnce c.world c'.world
  stuck : c.Stuck → c'.Stuck ∨ Consumed c.world c'.world
  keep : ∀ b, K b c → K b c'

theorem Edge.rel {c c' : Call} (e : Edge c c') : Rel c.world c'.world := ⟨Grew.mono ne_fuel_of_space e.lines, e.io⟩

/-- The usual tail call: the code in between is `Sync`, and the callee's invariant `Good` follows
from the caller's (for most callees it is `True`). -/
theorem Edge.of_sync {c c' : Call} (hr : c'.rank + 1 ≤ c.rank) (hs : Sync c.world c'.world)
    (hst : c.Stuck → c'.Stuck ∨ Consumed c.world c'.world)
    (hg : ∀ b, K b c → Good c' := by exact fun _ _ => trivial) : Edge c c' :=
  ⟨hr, hs.lines, hs.io, hst, fun b k => k.same hs.wakes (hg b k)⟩

structure Final (c : Call) (r : World) : Prop where
  rel : Rel c.world r
  stuck : c.Stuck → NotOk r ∨ Consumed c.world r
  settled : Settled r

theorem Final.finishErr (c : Call) {a : World} (h : Rel c.world a) (op : String) (e : Err) :
    Final c (a.finishErr op e) := ⟨h.finishErr _ _, fun _ => .inl (.inr ⟨e, rfl⟩), .inr rfl⟩

theorem Final.suspend (c : Call) {a : World} (h : Rel c.world a) (pc : Pc) :
    Final c (a.suspend pc) := ⟨⟨h.quiet, h.io⟩, fun _ => .inl (.inl rfl), .inl rfl⟩

theorem Final.finish (c : Call) {a : World} (h : Rel c.world a) (line : String) (hs : ¬ c.Stuck) :
    Final c (a.finish line) := ⟨h.finish _, fun x => absurd x hs, .inr rfl⟩

theorem Final.finishOp (c : Call) {a : World} (h : Rel c.world a) (name : String) (op : Op) (hs : ¬ c.Stuck) :
    Final c (a.finishOp name op) := ⟨h.finishOp _ _, fun x => absurd x hs, .inr rfl⟩

theorem Final.deliver (c : Call) {a : World} (h : Rel c.world a) (name : String) (len : Nat) (hs : ¬ c.Stuck) :
    Final c (a.deliver name len) := by
  refine ⟨h.deliver _ _, fun x => absurd x hs, .inr ?_⟩
  obtain ⟨ls, _, e⟩ := deliver_eq a name len
  rw [e]; rfl

/-- A result: `Final` for fuel adequacy; what is left suspended is an await point of the machine's
making (`PcReady`); and under the self-wake invariant the trace gained only lines with a blank and the
self-wake counter stays within its bound. -/
structure Halt (c : Call) (r : World) : Prop where
  final : Final c r
  susp : Ready r
  tidy : ∀ b, K b c → Lines c.world r ∧ r.wakes ≤ b

theorem Halt.of_sync {c : Call} {r : World} (f : Final c r) (hf : Ready r) (hl : Lines c.world r)
    (hw : r.wakes = c.world.wakes) : Halt c r := ⟨f, hf, fun _ k => ⟨hl, by rw [hw]; exact k.1⟩⟩

theorem Halt.finishErr {c : Call} {a : World} {op : String} {e : Err} (h : Sync c.world a) :
    Halt c (a.finishErr op e) :=
  .of_sync (Final.finishErr c h.rel op e) (.inl rfl) (Lines.finishErr h.lines op e) h.wakes

theorem Halt.suspend {c : Call} {a : World} {pc : Pc} (h : Sync c.world a) (hp : PcReady a pc) : Halt c (a.suspend pc) :=
  .of_sync (Final.suspend c h.rel pc) (.inr ⟨pc, rfl, by cases pc <;> exact hp⟩) h.lines h.wakes

theorem Halt.finish {c : Call} {a : World} {line : String} (h : Sync c.world a) (hs : ¬ c.Stuck) :
    Halt c (a.finish line) :=
  .of_sync (Final.finish c h.rel line hs) (.inl rfl) (Lines.finish h.lines line) h.wakes

theorem Halt.finishOp {c : Call} {a : World} {name : String} {op : Op} (h : Sync c.world a) (hs : ¬ c.Stuck) :
    Halt c (a.finishOp name op) :=
  .of_sync (Final.finishOp c h.rel name op hs) (.inl rfl) (Lines.finishOp h.lines name op) h.wakes

theorem Halt.deliver {c : Call} {a : World} {name : String} {len : Nat} (h : Sync c.world a) (hs : ¬ c.Stuck) :
    Halt c (a.deliver name len) := by
  refine .of_sync (Final.deliver c h.rel name len hs) (.inl ?_) (Lines.deliver h.lines name len) ?_
  all_goals
    obtain ⟨ls, _, e⟩ := deliver_eq a name len
    rw [e]
  · rfl
  · exact h.wakes

theorem IoFacts.wt_le {w w1 : World} (io : IoFacts w w1) : wt w1 ≤ wt w := by
  unfold wt; rw [io.sess, io.wakes, io.slot]; simp only [sig]; omega

theorem IoFacts.wt_eq {w w1 : World} (io : IoFacts w w1) (hs : w.slot = none) : wt w1 = wt w := by
  unfold wt; rw [io.sess, io.wakes, io.slot, hs]

@[simp] theorem wt_setWritten (w : World) (p : Flushed) (a b : Nat) : wt (w.setWritten p a b) = wt w := rfl
@[simp] theorem wt_completeFlush (w : World) (p : Flushed) (now : Nat) : wt (w.completeFlush p now) = wt w := rfl

/-! ### The weight along a step

`Call.rank` is the weight of the world plus a position between 1 and 9 (`Call.rank_bounds`). A step keeps the
weight and lowers the position, or it takes something off the weight: the I/O decision (`wt_consumed`: 10 at
least, so that the next call may stand anywhere), a packet in the receive buffer (`wt_buffer`) or a self-wake
(`wt_idle`, `le_wt`), 5 each. -/

/-- Using up the I/O decision takes 20 off the weight; the receive buffer gives back at most 10. -/
theorem wt_consumed {w w' : World} (hc : Consumed w w') (hk : w'.wakes = w.wakes) : wt w' + 10 ≤ wt w := by
  have := w'.sess.reader.cls_le
  obtain ⟨k, hk'⟩ := Option.isSome_iff_exists.mp hc.1
  unfold wt; rw [hc.2, hk, hk']; simp only [sig]; omega

theorem wt_buffer {w w' : World} (ho : obs w' = obs w := by rfl) :
    wt w' + 5 * w.sess.reader.cls = wt w + 5 * w'.sess.reader.cls := by
  simp only [obs, Prod.mk.injEq] at ho
  unfold wt; rw [ho.2.1, ho.2.2.2.1]; omega

theorem wt_idle {w : World} (hs : w.slot = none) (hc : w.sess.reader.cls = 0) : wt w = 5 * (63 - w.wakes) := by
  unfold wt; rw [hs, hc]; simp only [sig]; omega

theorem le_wt (w : World) : 5 * (63 - w.wakes) ≤ wt w := by unfold wt; omega

theorem IoFacts.wt_commit {w w1 : World} (io : IoFacts w w1) (hs : w.slot.isSome = true) (s : Session) :
    wt { w1 with sess := s } + 10 ≤ wt w := wt_consumed (w' := { w1 with sess := s }) ⟨hs, io.slot⟩ io.wakes

theorem rank_consumed {c c' : Call} (hc : Consumed c.world c'.world) (hk : c'.world.wakes = c.world.wakes)
    (hr : wt c.world ≤ c.rank) : c'.rank + 1 ≤ c.rank := by
  have := wt_consumed hc hk; have := c'.rank_bounds; omega

/-- The tail call after an I/O call with a result `r` other than `pending`: it has used up the decision.
`f` is `ioWrite_facts`, `ioFlush_facts` or `ioRead_facts`. -/
theorem Edge.of_io {α : Type} {r p : α} {c c' : Call} {w w1 : World}
    (f : IoStep w w1 ∧ (r ≠ p → w.slot.isSome = true)) (hne : r ≠ p) (hr : wt c.world ≤ c.rank)
    (hw : obs c.world = obs w := by rfl) (hw' : obs c'.world = obs w1 := by rfl)
    (hg : ∀ b, K b c → Good c' := by exact fun _ _ => trivial) : Edge c c' := by
  have hs : Sync c.world c'.world := f.1.toSync.of_obs hw' hw
  simp only [obs, Prod.mk.injEq] at hw hw'
  have hc : Consumed c.world c'.world := ⟨hw.2.1 ▸ f.2 hne, hw'.2.1.trans f.1.slot⟩
  exact .of_sync (rank_consumed hc hs.wakes hr) hs (fun _ => .inr hc) hg

/-- A call that is not calm is not stuck, so whatever is asked of a stuck call holds (`p` is `False`, or
what `Edge.stuck` asks for). -/
theorem not_stuck_of_calm {c : Call} {p : Prop} (h : c.calm = false) (hs : c.Stuck) : p := by
  rw [hs.1] at h; exact Bool.noConfusion h

theorem not_stuck_of_available {c : Call} {p : Prop} (h : c.world.sess.reader.packetAvailable = true) (hs : c.Stuck) :
    p := by
  rw [available_of_cls_zero hs.2] at h; exact Bool.noConfusion h

theorem stuck_keep {c c' : Call} (hc : c'.calm = c.calm)
    (hr : c.world.sess.reader.cls = 0 → c'.world.sess.reader.cls = 0) (hs : c.Stuck) :
    c'.Stuck ∨ Consumed c.world c'.world := .inl ⟨hc.trans hs.1, hr hs.2⟩

theorem good_of_K_not_wait {b : Nat} {c : Call} (k : K b c) (h : isWait c = false) : Good c := by
  rcases k.2 with g | ⟨_, hw, _⟩
  · exact g
  · rw [h] at hw; exact Bool.noConfusion hw

theorem good_SR_true (w : World) (ctx : StepCtx) : Good (.SR w ctx true) := by
  cases ctx with
  | flush kk => trivial
  | drive adv o => intro h; simp at h

theorem good_DAS {w : World} {o : Outer} {adv : Bool} (h : adv = false → Served w) : Good (.DAS w o adv) := by
  cases adv with
  | true => trivial
  | false => exact h rfl

theorem Halt.connectGotPacket {c : Call} {a : World} (h : Sync c.world a) (ns : ¬ c.Stuck) :
    Halt c (World.connectGotPacket a) :=
  connectGotPacket_ind a (fun _ => Halt.finishErr h.of_obs) (fun _ => Halt.finishErr h.of_obs) fun sp block =>
    activate_ind _ sp block (fun _ _ => Halt.finishErr h.of_obs) (fun _ => Halt.finish h.of_obs ns)

theorem Halt.localErr {c : Call} {a : World} {which : Nat} {e : Err} (h : Sync c.world a) :
    Halt c (a.localErr which e) :=
  ite_ind (fun _ => Halt.finishErr h) fun _ =>
    ite_ind (fun _ => Halt.finishErr h.handleDisconnect) (fun _ => Halt.finishErr h.handleDisconnect)

theorem _root_.Minimq.NoSpin.PcReady.localWrite (a : World) (which : Nat) (bytes : Bytes) :
    PcReady a (localWritePc which bytes) := by
  unfold localWritePc; repeat' split
  all_goals trivial

theorem _root_.Minimq.NoSpin.PcReady.localFlush (a : World) (which : Nat) : PcReady a (localFlushPc which) := by
  unfold localFlushPc; repeat' split
  all_goals trivial

theorem wt_after_packet {w w1 : World} (hcls : w1.sess.reader.cls = 0) (ho : obs w1 = obs w)
    (hpa : w.sess.reader.packetAvailable = true) : wt w1 + 5 = wt w := by
  have := wt_buffer ho
  rw [hcls, cls_of_available hpa] at this; omega

/-- The head of `drive_packet`'s loop, common to `driveLoop` and `driveAfterService`: a packet lies in
the receive buffer and is processed. -/
theorem received_outcome {c : Call} {o : Outer} {n : Next} (h : Received c.world o n)
    (ha : c.world.sess.reader.packetAvailable = true) (hr : wt c.world + 2 ≤ c.rank) :
    n.Holds (Edge c) (Halt c) := by
  have ns : ¬ c.Stuck := not_stuck_of_available ha
  cases h with
  | undecodable | closed | passed => exact Halt.finishErr (Sync.refl _).of_obs
  | deliver => exact Halt.deliver (Sync.refl _).of_obs ns
  | @handled len pkt =>
    have := wt_after_packet (w := c.world) (w1 := { c.world with sess := (c.world.sess.takePkt.1.handle pkt).1 })
      (takePkt_cls _ ha) rfl ha
    dsimp only at this
    exact Edge.of_sync (show wt _ + 6 + 1 ≤ c.rank by omega) (Sync.refl _).of_obs (not_stuck_of_available ha)

theorem K.wait_same {b : Nat} {w w' : World} {o : Outer} {d : Option Nat} {y : Bool}
    (k : K b (.DWR w o d y)) (hn : w'.now = w.now) (hw : w'.wakes = w.wakes) : K b (.DWR w' o d y) := by
  refine ⟨by show w'.wakes ≤ b; rw [hw]; exact k.1, ?_⟩
  cases y with
  | true => exact .inl trivial
  | false =>
    rcases k.2 with g | ⟨h1, _, h3⟩
    · left; show Fresh w'.now d; rw [hn]; exact g
    · right; exact ⟨h1, rfl, by show w'.wakes = 0; rw [hw]; exact h3⟩

/-- `wait_for_progress` is entered with a deadline that has expired: impossible after a service pass, so this
is a hand-made await point, which has not woken itself yet. -/
theorem K.expired {b : Nat} {w : World} {o : Outer} {t : Nat} (k : K b (.DWR w o (some t) false)) (ht : w.now ≥ t) :
    b = 1 ∧ w.wakes = 0 := by
  rcases k.2 with g | ⟨hb, _, hw⟩
  · exact absurd g (Nat.not_lt.mpr ht)
  · exact ⟨hb, hw⟩

theorem wait_pending {w w1 : World} (rd : Reads w w1 .pending) :
    Sync w w1 ∧ w1.sess.reader.Probed ∧ w1.sess.reader.cls = 0 ∧ w1.slot = none := by
  obtain ⟨_, hw, hn, hio⟩ := rd
  obtain ⟨io, _⟩ := ioRead_facts hio
  exact ⟨io.toSync.of_obs, io.sess ▸ Probed_of_session_window hw hn,
    io.sess ▸ (session_window_facts hw).2.1 hn, io.slot⟩

theorem Edge.afterFlush {w : World} {k : AfterFlush} (hk : isPost k = false) {s : Session}
    (hs : s.reader = w.sess.reader) {c' : Call} (hw : c'.world = { w with sess := s })
    (hr : c'.rank ≤ wt c'.world + 3) (hg : Good c') : Edge (.AF w k) c' := by
  refine .of_sync ?_ ?_ (not_stuck_of_calm rfl) (fun _ _ => hg)
  · have : (Call.AF w k).rank = wt w + 4 := by simp only [Call.rank, hk, Bool.false_eq_true, if_false]
    rw [hw, (Pure.sess w s hs).wt] at hr
    omega
  · rw [hw]; exact (Sync.refl w).of_obs

theorem step_outcome {c : Call} {n : Next} (st : Step c n) : n.Holds (Edge c) (Halt c) := by
  cases st with
  | FL_pingErr | PS_flushDead | PS_writeDead => exact Halt.finishErr ((Sync.refl _).discFail _)
  | PS_fail => exact Halt.finishErr ((Sync.refl _).of_obs (obs_failStep _ _ _))
  | AF_refused => exact Halt.finishErr (Sync.refl _).of_obs
  | DL_pingErr | DE_dead => exact Halt.finishErr (Sync.refl _)
  | DCR_noWindow | DWR_noWindow | DL_timedOut => exact Halt.finishErr (Sync.refl _).handleDisconnect
  | AF_post => exact Halt.finishOp (Sync.refl _) (not_stuck_of_calm rfl)
  | DAS_drive => exact Halt.finish (Sync.refl _) (not_stuck_of_calm (Bool.and_false _))
  | DAS_poll => exact Halt.finish (Sync.refl _) (not_stuck_of_calm rfl)
  | DCR_packet => exact Halt.connectGotPacket (Sync.refl _) (not_stuck_of_calm rfl)
  | DCR_complete => exact Halt.connectGotPacket (Sync.refl _).of_obs (not_stuck_of_calm rfl)
  | DSW_pending hio => exact Halt.suspend (ioWrite_facts hio).1.toSync trivial
  | DLW_pending _ hio => exact Halt.suspend (ioWrite_facts hio).1.toSync (.localWrite _ _ _)
  | DSF_pending hio => exact Halt.suspend (ioFlush_facts hio).1.toSync trivial
  | DLF_pending hio => exact Halt.suspend (ioFlush_facts hio).1.toSync (.localFlush _ _)
  | DCR_pending rd => exact Halt.suspend (wait_pending rd).1 trivial
  | DSW_zero hio => exact Halt.finishErr ((ioWrite_facts hio).1.toSync.discFail _)
  | DSW_err hio => exact Halt.finishErr (ioWrite_facts hio).1.toSync.handleDisconnect
  | DSF_err hio => exact Halt.finishErr (ioFlush_facts hio).1.toSync.handleDisconnect
  | DLW_zero _ hio | DLW_err _ hio => exact Halt.localErr (ioWrite_facts hio).1.toSync
  | DLF_err hio => exact Halt.localErr (ioFlush_facts hio).1.toSync
  | DLF_q0 hio => exact Halt.finish (ioFlush_facts hio).1.toSync.of_obs (not_stuck_of_calm rfl)
  | DLF_disc hio => exact Halt.finish (ioFlush_facts hio).1.toSync.handleDisconnect (not_stuck_of_calm rfl)
  | DCR_eof rd | DCR_err rd | DWR_eof rd | DWR_err rd =>
    obtain ⟨_, _, _, hio⟩ := rd
    exact Halt.finishErr (ioRead_facts hio).1.toSync.of_obs.handleDisconnect
  | DL_received ha h => exact received_outcome h ha (by simp only [Call.rank, Call.world]; split <;> omega)
  | DAS_received ha h =>
    refine received_outcome h ha ?_
    simp only [Call.rank, Call.world]; repeat' split
    all_goals omega
  | @FL_idle w k s hq hn =>
    have hp := Pure.sess w s (queuePing_reader hq)
    exact Edge.of_sync (by simp only [Call.rank, hp.wt]; split <;> omega) (Sync.refl _).of_obs
      (not_stuck_of_calm rfl)
  | @FL_step w k s step hq hn =>
    have hp := Pure.sess w s (queuePing_reader hq)
    refine Edge.of_sync ?_ (Sync.refl _).of_obs (not_stuck_of_calm rfl)
    simp only [Call.rank, hp.wt, nextStep_not_done _ _ step hn, Bool.false_eq_true, if_false]
    split <;> omega
  | PS_done hp =>
    refine Edge.of_sync (by simp only [Call.rank, hp, isDone, if_true]; omega) (Sync.refl _)
      (stuck_keep (by cases ‹StepCtx› <;> simp [Call.calm]) id) (fun b k => ?_)
    cases ‹StepCtx› with
    | flush => trivial
    | drive adv o =>
      cases adv with
      | true => exact nofun
      | false => exact fun _ => good_of_K_not_wait k rfl (by rw [hp]; rfl)
  | PS_flush hp | PS_write hp =>
    exact Edge.of_sync (by simp only [Call.rank, hp, isDone, Bool.false_eq_true, if_false]; omega) (Sync.refl _)
      (stuck_keep (by cases ‹StepCtx› <;> rfl) id)
  | DSW_part hio => exact Edge.of_io (ioWrite_facts hio) nofun (Nat.le_add_right _ _) (hg := fun _ _ => good_SR_true _ _)
  | DSF_ok hio => exact Edge.of_io (ioFlush_facts hio) nofun (Nat.le_add_right _ _) (hg := fun _ _ => good_SR_true _ _)
  | DSW_whole hio | DLW_part _ hio => exact Edge.of_io (ioWrite_facts hio) nofun (Nat.le_add_right _ _)
  | DLF_conn hio => exact Edge.of_io (ioFlush_facts hio) nofun (Nat.le_add_right _ _)
  | DCR_more rd =>
    obtain ⟨_, _, _, hio⟩ := rd
    exact Edge.of_io (ioRead_facts hio) nofun (Nat.le_add_right _ _)
  | SR_flush =>
    exact Edge.of_sync (by simp only [Call.rank]; split <;> omega) (Sync.refl _) (not_stuck_of_calm rfl)
  | @SR_drive w advanced outer adv =>
    refine Edge.of_sync ?_ (Sync.refl _) (stuck_keep (by cases advanced <;> cases adv <;> rfl) id)
      (fun b k => good_DAS (good_of_K_not_wait k rfl))
    simp only [Call.rank]; repeat' split
    all_goals omega
  | AF_sub _ _ hr | AF_unsub _ _ hr | AF_pub _ _ _ _ _ _ _ _ hr =>
    exact Edge.afterFlush rfl ((retain_reader hr).trans ((encode_reader _ _).trans (alloc_reader _))) rfl
      (Nat.le_refl _) trivial
  | AF_pub0 => exact Edge.afterFlush rfl (encode_reader _ _) rfl (Nat.le_succ _) trivial
  | AF_disc => exact Edge.afterFlush rfl rfl rfl (Nat.le_succ _) trivial
  | @DLW_empty w which bytes he =>
    refine Edge.of_sync ?_ ((Sync.refl _).of_obs (obs_discDone _ _)) (not_stuck_of_calm rfl)
    simp only [Call.rank]
    rcases discDone_cases w which with ⟨e, _⟩ | ⟨_, h0, _⟩
    · rw [e]; split <;> omega
    · rw [if_neg h0]; omega
  | @DL_idle w o adv s ha ht hq hn =>
    have hp := Pure.sess w s (queuePing_reader hq)
    refine Edge.of_sync ?_ (Sync.refl _).of_obs (stuck_keep rfl (hp.reader ▸ ·))
      (fun _ _ => good_DAS fun _ => service_served w s ht hq)
    simp only [Call.rank, hp.wt, hn, Option.isNone_none, if_true]; split <;> omega
  | @DL_step w o adv s step ha ht hq hn =>
    have hp := Pure.sess w s (queuePing_reader hq)
    have hd := nextStep_not_done { w with sess := s } _ step hn
    refine Edge.of_sync ?_ (Sync.refl _).of_obs (stuck_keep rfl (hp.reader ▸ ·)) (fun _ _ => ?_)
    · simp only [Call.rank, hp.wt, hd, Bool.false_eq_true, if_false]; split <;> omega
    · cases adv with
      | true => trivial
      | false => intro h; rw [hd] at h; exact Bool.noConfusion h
  | DAS_more ha hn =>
    refine Edge.of_sync ?_ (Sync.refl _) (stuck_keep rfl id)
    simp only [Call.rank, hn, Option.isNone_some, Bool.false_eq_true, if_false]; split <;> omega
  | DAS_recv ha hn =>
    exact Edge.of_sync (by simp only [Call.rank, hn, Option.isNone_none, if_true]; omega) (Sync.refl _)
      (not_stuck_of_calm rfl)
  | DAS_wait ha hn ho =>
    refine Edge.of_sync ?_ (Sync.refl _) (stuck_keep rfl id) (fun b k => good_of_K_not_wait k rfl hn)
    simp only [Call.rank, hn, ha, Option.isNone_none, Bool.or_false, Bool.false_eq_true, if_true, if_false]; omega
  | DE_live =>
    exact Edge.of_sync (by simp only [Call.rank, Bool.false_eq_true, if_false]; omega) (Sync.refl _) (stuck_keep rfl id)
  | DWR_packet ha =>
    exact Edge.of_sync (by simp only [Call.rank, ha, Bool.or_true, if_true]; omega) (Sync.refl _)
      (not_stuck_of_available ha)
  | @DWR_complete w o d y s1 ha hw =>
    obtain ⟨hz1, _, hz3⟩ := session_window_facts hw
    have hc : w.sess.reader.cls = 2 := hz3 ha
    have hb := wt_buffer (w := w) (w' := { w with sess := s1 })
    rw [hc, cls_of_available (hz1 rfl)] at hb
    refine Edge.of_sync ?_ (Sync.refl _).of_obs (fun hst => absurd (hc.symm.trans hst.2) (by decide))
    simp only [Call.rank]; split <;> omega
  | @DWR_more w o d y w1 bytes rd =>
    obtain ⟨_, _, _, hio⟩ := rd
    obtain ⟨io, hp⟩ := ioRead_facts hio
    have hs : Sync w w1 := io.toSync.of_obs
    have hc : Consumed w { w1 with sess := w1.sess.commit bytes } := ⟨hp nofun, io.slot⟩
    exact Edge.mk (rank_consumed hc hs.wakes (Nat.le_add_right _ _)) hs.lines hs.io (fun _ => .inr hc)
      (fun b k => K.wait_same k hs.now hs.wakes)
  | DWR_noDeadline rd | DWR_early rd =>
    obtain ⟨hs, hpr, _, _⟩ := wait_pending rd
    exact Halt.suspend hs ⟨rfl, hpr⟩
  | @DWR_fired w o t w1 rd =>
    obtain ⟨hs, _, hc, hsl⟩ := wait_pending rd
    have := wt_idle hsl hc; have := le_wt w; have := hs.wakes
    exact Edge.of_sync (by simp only [Call.rank, Bool.true_or, if_true]; omega) hs (stuck_keep rfl fun _ => hc)
  | @DWR_spin w o t w1 rd ht hk =>
    obtain ⟨hs, hpr, _, _⟩ := wait_pending rd
    refine Halt.mk (Final.suspend (.DWR w o (some t) false)
      ⟨Grew.emit (a := w1.selfWake) hs.rel.quiet "spin" (by decide), hs.io⟩ _) (.inr ⟨_, rfl, rfl, hpr⟩) (fun b k => ?_)
    have := K.expired k (hs.now ▸ ht); have := hs.wakes
    omega
  | @DWR_selfWake w o t w1 rd ht hk =>
    obtain ⟨hs, _, hc, hsl⟩ := wait_pending rd
    obtain ⟨ha, _, _, _⟩ := rd
    have h1 : wt w1.selfWake = 5 * (63 - (w1.wakes + 1)) := wt_idle (w := w1.selfWake) hsl hc
    have := le_wt w; have := hs.wakes
    refine Edge.mk ?_ hs.lines hs.io (stuck_keep rfl fun _ => hc) (fun b k => ⟨?_, .inl trivial⟩)
    · simp only [Call.rank, h1, ha, Bool.or_false, Bool.true_or, Bool.false_eq_true, if_false, if_true]; omega
    · have := K.expired k (hs.now ▸ ht)
      show w1.wakes + 1 ≤ b
      omega

theorem run_step (c : Call) :
    (∃ c', Edge c c' ∧ ∀ m, c.run (m + 1) = c'.run m) ∨ (∃ r, Halt c r ∧ ∀ m, c.run (m + 1) = r) := by
  obtain ⟨n, st, h⟩ := run_succ c
  cases n with
  | call c' => exact .inl ⟨c', step_outcome st, h⟩
  | done r => exact .inr ⟨r, step_outcome st, h⟩

end Fuel
end Minimq
