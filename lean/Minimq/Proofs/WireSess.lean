import Minimq.Proofs.OutOps
import Minimq.Proofs.ReaderStream
/-
Session-level facts for the wire-framing theorem (C01): which entry of the three outbound queues is
"the current one", that at most one entry is ever partially written, and that the lookups by
identifier / action of `set_written` and `complete_flush` find exactly that entry.
-/
namespace Minimq
open Gen World Outbound

theorem afterWrite_lt {wr len : Nat} (h : wr < len) : SendState.afterWrite wr len = .write wr := by
  unfold SendState.afterWrite; rw [if_neg (by omega)]

theorem afterWrite_ge {wr len : Nat} (h : len ≤ wr) : SendState.afterWrite wr len = .flush := by
  unfold SendState.afterWrite; rw [if_pos (by omega)]

def Outbound.Step.withState : Outbound.Step → SendState → Outbound.Step
  | .control a _, s => .control a s
  | .release id rc _, s => .release id rc s
  | .retained id off len _, s => .retained id off len s

@[simp] theorem Step.withState_state (step : Outbound.Step) (s : SendState) : (step.withState s).state = s := by
  cases step <;> rfl

@[simp] theorem Step.withState_flushed (step : Outbound.Step) (s : SendState) : (step.withState s).flushed = step.flushed := by
  cases step <;> rfl

structure Outbound.Quiet (o : Outbound) : Prop where
  control : ∀ e ∈ o.control, e.state = .write 0
  release : ∀ e ∈ o.release, e.state.isInProgress = false
  retained : ∀ e ∈ o.retained, e.state.isInProgress = false

/-- `step` denotes an entry of its queue — the one the lookups of `set_written` and `complete_flush`
find (first entry with that action / identifier) — and no *other* entry of any queue is in the middle
of a transmission (the other acknowledgements all wait for their first byte). `hsent` — in the release and the
retained queue everything in front of the entry has been sent — is what the agreement with the log needs when the
entry is completed (`QLog.setState_flush`, `Proofs/WireLog.lean`). -/
inductive Outbound.Slot (o : Outbound) : Outbound.Step → Prop
  | control (a : ControlAction) (st : SendState) (rest : List PendingControl)
      (hc : o.control = ⟨a, st⟩ :: rest) (hrest : ∀ x ∈ rest, x.state = .write 0)
      (hrel : ∀ e ∈ o.release, e.state.isInProgress = false)
      (hret : ∀ e ∈ o.retained, e.state.isInProgress = false) : Slot o (.control a st)
  | release (pre : List PendingRelease) (id rc : Nat) (st : SendState) (rs ps : Nat) (post : List PendingRelease)
      (hr : o.release = pre ++ ⟨id, rc, st, rs, ps⟩ :: post)
      (hpre : ∀ x ∈ pre, x.id ≠ id ∧ x.state.isInProgress = false)
      (hpost : ∀ x ∈ post, x.state.isInProgress = false)
      (hctl : ∀ e ∈ o.control, e.state = .write 0)
      (hret : ∀ e ∈ o.retained, e.state.isInProgress = false)
      (hsent : ∀ x ∈ pre, x.state = .sent) : Slot o (.release id rc st)
  | retained (pre : List RetainedPacket) (e : RetainedPacket) (post : List RetainedPacket)
      (hr : o.retained = pre ++ e :: post)
      (hpre : ∀ x ∈ pre, x.id ≠ e.id ∧ x.state.isInProgress = false)
      (hpost : ∀ x ∈ post, x.state.isInProgress = false)
      (hctl : ∀ e ∈ o.control, e.state = .write 0)
      (hrel : ∀ e ∈ o.release, e.state.isInProgress = false)
      (hsent : ∀ x ∈ pre, x.state = .sent) : Slot o (.retained e.id e.offset e.len e.state)

theorem StepBytes_unique {o : Outbound} {step : Outbound.Step} {b1 b2 : Bytes}
    (h1 : o.StepBytes step b1) (h2 : o.StepBytes step b2) : b1 = b2 := by
  cases step with
  | control | release => simp only [Outbound.StepBytes] at h1 h2; rw [h1] at h2; cases h2; rfl
  | retained id off len st => simp only [Outbound.StepBytes] at h1 h2; rw [h1.1, h2.1]

theorem StepBytes_withState {o : Outbound} {step : Outbound.Step} {bs : Bytes} (h : o.StepBytes step bs) (s : SendState) :
    o.StepBytes (step.withState s) bs := by
  cases step <;> exact h

theorem StepBytes_congr {o o' : Outbound} {step : Outbound.Step} {bs : Bytes} (h : o.StepBytes step bs) (hb : o'.buf = o.buf) :
    o'.StepBytes step bs := by
  cases step with
  | control a st => exact h
  | release id rc st => exact h
  | retained id off len st => simp only [Outbound.StepBytes] at h ⊢; rw [hb]; exact h

theorem Outbound.Slot.setWritten {o : Outbound} {step : Outbound.Step} (h : o.Slot step) (wr len : Nat) :
    (o.setWritten step.flushed wr len).Slot (step.withState (SendState.afterWrite wr len)) := by
  cases h with
  | control a st rest hc hrest hrel hret =>
    refine Slot.control a _ rest ?_ hrest hrel hret
    simp [Outbound.setWritten, Outbound.Step.flushed, setControlWritten, hc, modifyFirst]
  | release pre id rc st rs ps post hr hpre hpost hctl hret hsent =>
    refine Slot.release pre id rc _ rs ps post ?_ hpre hpost hctl hret hsent
    simp only [Outbound.setWritten, Outbound.Step.flushed, setReleaseWritten, hr]
    rw [modifyFirst_hit _ _ pre _ post (fun x hx => by simp [(hpre x hx).1]) (by simp)]
  | retained pre e post hr hpre hpost hctl hrel hsent =>
    refine Slot.retained pre { e with state := SendState.afterWrite wr len } post ?_ hpre hpost hctl hrel hsent
    simp only [Outbound.setWritten, Outbound.Step.flushed, setRetainedWritten, hr]
    rw [modifyFirst_hit _ _ pre _ post (fun x hx => by simp [(hpre x hx).1]) (by simp)]

theorem setWritten_buf (o : Outbound) (pkt : Flushed) (wr len : Nat) : (o.setWritten pkt wr len).buf = o.buf :=
  (o.setWritten_states pkt wr len).buf

theorem Outbound.Slot.completeFlush {o : Outbound} {step : Outbound.Step} (h : o.Slot step) :
    (o.completeFlush step.flushed).Quiet := by
  cases h with
  | control a st rest hc hrest hrel hret =>
    refine ⟨fun e he => ?_, hrel, hret⟩
    simp only [Outbound.completeFlush, Outbound.Step.flushed, flushControl, hc, modifyFirst, beq_self_eq_true, if_true] at he
    rw [List.mem_filter] at he
    rcases List.mem_cons.mp he.1 with rfl | hm
    · simp at he
    · exact hrest e hm
  | release pre id rc st rs ps post hr hpre hpost hctl hret =>
    refine ⟨hctl, ?_, hret⟩
    simp only [Outbound.completeFlush, Outbound.Step.flushed, flushRelease, hr]
    rw [modifyFirst_hit _ _ pre _ post (fun x hx => by simp [(hpre x hx).1]) (by simp)]
    exact List.forall_mem_append.mpr ⟨fun x hx => (hpre x hx).2, List.forall_mem_cons.mpr ⟨rfl, hpost⟩⟩
  | retained pre x post hr hpre hpost hctl hrel =>
    refine ⟨hctl, hrel, ?_⟩
    simp only [Outbound.completeFlush, Outbound.Step.flushed, flushRetained, hr]
    rw [modifyFirst_hit _ _ pre _ post (fun y hy => by simp [(hpre y hy).1]) (by simp)]
    exact List.forall_mem_append.mpr ⟨fun y hy => (hpre y hy).2, List.forall_mem_cons.mpr ⟨rfl, hpost⟩⟩

theorem Outbound.Slot.others {o : Outbound} {step : Outbound.Step} (h : o.Slot step) :
    (∀ e ∈ o.control, e.state = .write 0 ∨ e.state = step.state) ∧
    (∀ e ∈ o.release, e.state.isInProgress = false ∨ e.state = step.state) ∧
    (∀ e ∈ o.retained, e.state.isInProgress = false ∨ e.state = step.state) := by
  cases h with
  | control a st rest hc hrest hrel hret =>
    exact ⟨by rw [hc]; exact List.forall_mem_cons.mpr ⟨.inr rfl, fun e he => .inl (hrest e he)⟩,
      fun e he => .inl (hrel e he), fun e he => .inl (hret e he)⟩
  | release pre id rc st rs ps post hr hpre hpost hctl hret =>
    refine ⟨fun e he => .inl (hctl e he), ?_, fun e he => .inl (hret e he)⟩
    rw [hr]
    exact List.forall_mem_append.mpr ⟨fun e he => .inl (hpre e he).2,
      List.forall_mem_cons.mpr ⟨.inr rfl, fun e he => .inl (hpost e he)⟩⟩
  | retained pre x post hr hpre hpost hctl hrel =>
    refine ⟨fun e he => .inl (hctl e he), fun e he => .inl (hrel e he), ?_⟩
    rw [hr]
    exact List.forall_mem_append.mpr ⟨fun e he => .inl (hpre e he).2,
      List.forall_mem_cons.mpr ⟨.inr rfl, fun e he => .inl (hpost e he)⟩⟩

theorem Outbound.Slot.quiet_of_fresh {o : Outbound} {step : Outbound.Step} (h : o.Slot step) (hs : step.state = .write 0) : o.Quiet := by
  obtain ⟨h1, h2, h3⟩ := h.others
  exact ⟨fun e he => (h1 e he).elim id (·.trans hs), fun e he => (h2 e he).elim id (fun h' => by rw [h', hs]; rfl),
    fun e he => (h3 e he).elim id (fun h' => by rw [h', hs]; rfl)⟩

theorem Outbound.Quiet.queueControl {o o' : Outbound} {a : ControlAction} (h : o.Quiet) (hq : o.queueControl a = some o') : o'.Quiet := by
  obtain ⟨_, rfl⟩ := queueControl_some hq
  exact ⟨List.forall_mem_append.mpr ⟨h.control, List.forall_mem_singleton.mpr rfl⟩, h.release, h.retained⟩

theorem Outbound.Slot.queueControl {o o' : Outbound} {a : ControlAction} {step : Outbound.Step} (h : o.Slot step)
    (hq : o.queueControl a = some o') : o'.Slot step := by
  obtain ⟨_, rfl⟩ := queueControl_some hq
  have happ : ∀ (l : List PendingControl), (∀ x ∈ l, x.state = .write 0) →
      ∀ x ∈ l ++ [({ action := a, state := .write 0 } : PendingControl)], x.state = .write 0 :=
    fun l hl => List.forall_mem_append.mpr ⟨hl, List.forall_mem_singleton.mpr rfl⟩
  cases h with
  | control a' st rest hc hrest hrel hret =>
    exact Slot.control a' st (rest ++ [{ action := a, state := .write 0 }]) (by simp [hc]) (happ rest hrest) hrel hret
  | release pre id rc st rs ps post hr hpre hpost hctl hret hsent =>
    exact Slot.release pre id rc st rs ps post hr hpre hpost (happ _ hctl) hret hsent
  | retained pre e post hr hpre hpost hctl hrel hsent =>
    exact Slot.retained pre e post hr hpre hpost (happ _ hctl) hrel hsent

theorem queueControl_buf {o o' : Outbound} {a : ControlAction} (hq : o.queueControl a = some o') : o'.buf = o.buf := by
  obtain ⟨_, rfl⟩ := queueControl_some hq; rfl


/-- The scheduler continues the entry that is in progress (C01: no packet is started inside another). -/
theorem Outbound.Slot.nextStep {o : Outbound} {step : Outbound.Step} (h : o.Slot step) (hp : step.state.isInProgress = true) :
    o.nextStep = some step := by
  have hfresh : ∀ (l : List PendingControl), (∀ x ∈ l, x.state = .write 0) →
      l.find? (fun e => e.state.matchesPriority true) = none := by
    intro l hl
    apply find?_none_of_all
    intro x hx; rw [matchesPriority_true, hl x hx]; rfl
  unfold Outbound.nextStep Outbound.nextStepPrio
  cases h with
  | control a st rest hc hrest hrel hret =>
    simp only [Outbound.Step.state] at hp
    simp [hc, matchesPriority_true, hp]
  | release pre id rc st rs ps post hr hpre hpost hctl hret =>
    simp only [Outbound.Step.state] at hp
    rw [hfresh _ hctl]
    simp only []
    rw [hr, find?_hit _ pre _ post (fun x hx => by rw [matchesPriority_true]; exact (hpre x hx).2)
      (by rw [matchesPriority_true]; exact hp)]
  | retained pre e post hr hpre hpost hctl hrel =>
    simp only [Outbound.Step.state] at hp
    rw [hfresh _ hctl]
    simp only []
    rw [find?_none_of_all (l := o.release) (fun x hx => by rw [matchesPriority_true]; exact hrel x hx)]
    simp only []
    rw [hr, find?_hit _ pre _ post (fun x hx => by rw [matchesPriority_true]; exact (hpre x hx).2)
      (by rw [matchesPriority_true]; exact hp)]

theorem Outbound.Quiet.nextStepPrio_true {o : Outbound} (h : o.Quiet) : o.nextStepPrio true = none := by
  unfold Outbound.nextStepPrio
  rw [find?_none_of_all (l := o.control) (fun x hx => by rw [matchesPriority_true, h.control x hx]; rfl)]
  simp only []
  rw [find?_none_of_all (l := o.release) (fun x hx => by rw [matchesPriority_true]; exact h.release x hx)]
  simp only []
  rw [find?_none_of_all (l := o.retained) (fun x hx => by rw [matchesPriority_true]; exact h.retained x hx)]

theorem nodup_pre_ne {α} (f : α → Nat) (pre : List α) (e : α) (post : List α)
    (h : ((pre ++ e :: post).map f).Nodup) : ∀ x ∈ pre, f x ≠ f e := by
  intro x hx heq
  rw [List.map_append, List.map_cons, List.nodup_append] at h
  exact h.2.2 (f x) (List.mem_map.mpr ⟨x, hx, rfl⟩) (f e) (by simp) heq

/-- With nothing in progress the scheduler picks an entry waiting for its first byte, and — in-flight
identifiers being distinct — that entry is the one the later lookups by identifier find. -/
theorem Outbound.Quiet.nextStep {o : Outbound} {step : Outbound.Step} (h : o.Quiet) (hid : o.IdInv)
    (hn : o.nextStep = some step) : o.Slot step ∧ step.state = .write 0 := by
  unfold Outbound.nextStep at hn
  rw [h.nextStepPrio_true] at hn
  simp only [] at hn
  have hnd := hid.nodup
  simp only [Outbound.usedIds, List.nodup_append] at hnd
  rcases nextStepPrio_cases o false with ⟨e, hf, hs⟩ | ⟨_, ⟨e, hf, hs⟩ | ⟨_, ⟨e, hf, hs⟩ | ⟨_, hs⟩⟩⟩
  · rw [hs] at hn; cases hn
    have hst : e.state = .write 0 := h.control e (List.mem_of_find?_eq_some hf)
    refine ⟨?_, hst⟩
    cases hc : o.control with
    | nil => rw [hc] at hf; simp at hf
    | cons c rest =>
      have hcst : c.state = .write 0 := h.control c (by rw [hc]; simp)
      rw [hc] at hf
      simp only [List.find?_cons, matchesPriority_false, hcst, SendState.isFresh] at hf
      cases hf
      exact Slot.control e.action e.state rest hc (fun x hx => h.control x (by rw [hc]; simp [hx])) h.release h.retained
  · rw [hs] at hn; cases hn
    have hfr := List.find?_some hf
    rw [matchesPriority_false, isFresh_iff] at hfr
    refine ⟨?_, hfr⟩
    obtain ⟨_, pre, post, hl, hnf⟩ := List.find?_eq_some_iff_append.mp hf
    have hne := nodup_pre_ne (fun (x : PendingRelease) => x.id) pre e post (by rw [← hl]; exact hnd.2.1)
    exact Slot.release pre e.id e.rc e.state e.rser e.pser post hl
      (fun x hx => ⟨hne x hx, h.release x (by rw [hl]; simp [hx])⟩)
      (fun x hx => h.release x (by rw [hl]; simp [hx])) h.control h.retained
      (fun x hx => sent_of_neither _ (by have := hnf x hx; rw [matchesPriority_false] at this; simpa using this)
        (h.release x (by rw [hl]; simp [hx])))
  · rw [hs] at hn; cases hn
    have hfr := List.find?_some hf
    rw [matchesPriority_false, isFresh_iff] at hfr
    refine ⟨?_, hfr⟩
    obtain ⟨_, pre, post, hl, hnf⟩ := List.find?_eq_some_iff_append.mp hf
    have hne := nodup_pre_ne (fun (x : RetainedPacket) => x.id) pre e post (by rw [← hl]; exact hnd.1)
    exact Slot.retained pre e post hl
      (fun x hx => ⟨hne x hx, h.retained x (by rw [hl]; simp [hx])⟩)
      (fun x hx => h.retained x (by rw [hl]; simp [hx])) h.control h.release
      (fun x hx => sent_of_neither _ (by have := hnf x hx; rw [matchesPriority_false] at this; simpa using this)
        (h.retained x (by rw [hl]; simp [hx])))
  · rw [hs] at hn; cases hn

theorem Outbound.Slot.unique {o : Outbound} {s1 s2 : Outbound.Step} (h1 : o.Slot s1) (h2 : o.Slot s2)
    (p1 : s1.state.isInProgress = true) (p2 : s2.state.isInProgress = true) : s1 = s2 := by
  have a := h1.nextStep p1
  have c := h2.nextStep p2
  rw [a] at c; cases c; rfl

theorem Outbound.Quiet.not_slot {o : Outbound} {step : Outbound.Step} (h : o.Quiet) (hs : o.Slot step)
    (hp : step.state.isInProgress = true) : False := by
  have a := hs.nextStep hp
  unfold Outbound.nextStep at a
  rw [h.nextStepPrio_true] at a
  simp only [] at a
  have := nextStepPrio_matches o false step a
  rw [matchesPriority_false, isFresh_iff] at this
  rw [this] at hp; simp [SendState.isInProgress] at hp

/-- What the queues say about the last, possibly incomplete, packet on the wire: `part` is the part of
it that has been written. `ok` is whatever was checked about the packet when its first byte was offered
(its size). -/
inductive Outbound.OState (o : Outbound) (ok : Bytes → Prop) : Bytes → Prop
  | quiet (h : o.Quiet) : OState o ok []
  | flushing (step : Outbound.Step) (hs : o.Slot step) (hst : step.state = .flush) : OState o ok []
  | writing (step : Outbound.Step) (n : Nat) (bytes : Bytes) (hs : o.Slot step) (hst : step.state = .write (n + 1))
      (hb : o.StepBytes step bytes) (hn : n + 1 < bytes.length) (hf : Framed bytes) (hok : ok bytes) :
      OState o ok (bytes.take (n + 1))

theorem Outbound.OState.queueControl {o o' : Outbound} {ok : Bytes → Prop} {a : ControlAction} {part : Bytes}
    (h : o.OState ok part) (hq : o.queueControl a = some o') : o'.OState ok part := by
  cases h with
  | quiet h => exact .quiet (h.queueControl hq)
  | flushing step hs hst => exact .flushing step (hs.queueControl hq) hst
  | writing step n bytes hs hst hb hn hf hok =>
    exact .writing step n bytes (hs.queueControl hq) hst (StepBytes_congr hb (queueControl_buf hq)) hn hf hok

theorem Outbound.OState.of_nextStep_none {o : Outbound} {ok : Bytes → Prop} {part : Bytes} (h : o.OState ok part)
    (hn : o.nextStep = none) : o.Quiet ∧ part = [] := by
  cases h with
  | quiet h => exact ⟨h, rfl⟩
  | flushing step hs hst | writing step _ _ hs hst =>
    have := hs.nextStep (by rw [hst]; rfl)
    rw [hn] at this; cases this

theorem Outbound.OState.of_quiet {o : Outbound} {ok : Bytes → Prop} {part : Bytes} (h : o.OState ok part) (hq : o.Quiet) :
    part = [] := by
  cases h with
  | quiet h => rfl
  | flushing step hs hst => rfl
  | writing step n bytes hs hst hb hn' hf hok => exact (hq.not_slot hs (by rw [hst]; rfl)).elim

theorem Outbound.OState.of_nextStep {o : Outbound} {ok : Bytes → Prop} {part : Bytes} {step : Outbound.Step}
    (h : o.OState ok part) (hid : o.IdInv) (hn : o.nextStep = some step) :
    o.Slot step ∧
    ((step.state = .write 0 ∧ part = []) ∨ (step.state = .flush ∧ part = []) ∨
     (∃ n bytes, step.state = .write (n + 1) ∧ o.StepBytes step bytes ∧ n + 1 < bytes.length ∧ Framed bytes ∧
        ok bytes ∧ part = bytes.take (n + 1))) := by
  cases h with
  | quiet h =>
    obtain ⟨a, c⟩ := h.nextStep hid hn
    exact ⟨a, Or.inl ⟨c, rfl⟩⟩
  | flushing step' hs hst =>
    have := hs.nextStep (by rw [hst]; rfl)
    rw [hn] at this; cases this
    exact ⟨hs, Or.inr (Or.inl ⟨hst, rfl⟩)⟩
  | writing step' n bytes hs hst hb hn' hf hok =>
    have := hs.nextStep (by rw [hst]; rfl)
    rw [hn] at this; cases this
    exact ⟨hs, Or.inr (Or.inr ⟨n, bytes, hst, hb, hn', hf, hok, rfl⟩)⟩

theorem Outbound.OState.part_prefix {o : Outbound} {ok : Bytes → Prop} {part : Bytes} (h : o.OState ok part) :
    part = [] ∨ ∃ rest, Framed (part ++ rest) := by
  cases h with
  | quiet h => exact Or.inl rfl
  | flushing step hs hst => exact Or.inl rfl
  | writing step n bytes hs hst hb hn hf hok =>
    exact Or.inr ⟨bytes.drop (n + 1), by rw [List.take_append_drop]; exact hf⟩

theorem Quiet_of_states {o o' : Outbound} (h : o.Quiet) (hc : o'.control = o.control) (hr : o'.release = o.release)
    (hs : o'.retained.map (·.state) = o.retained.map (·.state)) : o'.Quiet :=
  ⟨hc ▸ h.control, hr ▸ h.release, forall_of_map_eq (·.isInProgress = false) hs h.retained⟩

theorem Outbound.AllFresh.quiet {o : Outbound} (h : o.AllFresh) : o.Quiet :=
  ⟨h.control, fun e he => fresh_not_inProgress _ (h.release e he), fun e he => fresh_not_inProgress _ (h.retained e he)⟩

theorem Quiet_rearm (o : Outbound) : o.rearm.Quiet := (armReplay_allFresh _).quiet

theorem Quiet_compact {o : Outbound} (h : o.Quiet) : o.compact.Quiet :=
  Quiet_of_states h rfl rfl (compact_map _ (fun _ _ => rfl) o)

theorem Quiet_ackPacket {o : Outbound} (id : Nat) (k : AckKind) (h : o.Quiet) : (o.ackPacket id k).1.Quiet := by
  unfold ackPacket
  simp only []
  split
  · apply Quiet_compact
    exact ⟨h.control, h.release, fun e he => h.retained e ((removeFirst_sublist _ _).subset he)⟩
  · exact h

theorem Quiet_ackRelease {o : Outbound} (id : Nat) (h : o.Quiet) : (o.ackRelease id).1.Quiet := by
  unfold ackRelease
  split
  · exact ⟨h.control, fun e he => h.release e ((removeFirst_sublist _ _).subset he), h.retained⟩
  · exact h

theorem Quiet_queueRelease {o o' : Outbound} {id rc ps : Nat} (h : o.Quiet) (hq : o.queueRelease id rc ps = some o') : o'.Quiet := by
  obtain ⟨_, rfl⟩ := queueRelease_some hq
  exact ⟨h.control, List.forall_mem_append.mpr ⟨h.release, List.forall_mem_singleton.mpr rfl⟩, h.retained⟩

theorem Quiet_handle (s : Session) (p : Recv) (h : s.data.outbound.Quiet) : (s.handle p).1.data.outbound.Quiet := by
  rw [Session.handle_fst_data]
  exact handlePacket_ind s.data s.rt p h (fun id k => Quiet_ackPacket id k h)
    (fun _ _ _ _ _ hq => Quiet_queueRelease (Quiet_ackPacket _ _ h) hq) (fun id => Quiet_ackRelease id h)
    (fun _ _ hq => h.queueControl hq)

theorem Quiet_takePkt (s : Session) (h : s.data.outbound.Quiet) : s.takePkt.1.data.outbound.Quiet := by
  rw [(Session.takePkt_data s).1]; exact h

theorem Quiet_handleDisconnect (s : Session) : s.handleDisconnect.data.outbound.Quiet := Quiet_rearm _

/-- The queues after CONNACK processing: as they were, cleared (fresh session), or re-armed (rejected). -/
theorem activate_outbound_cases (s : Session) (sp : Bool) (block : Bytes) (now : Nat) :
    (s.activate sp block now).1.data.outbound = s.data.outbound ∨
    (s.activate sp block now).1.data.outbound = s.data.outbound.clear ∨
    ∃ o : Outbound, (s.activate sp block now).1.data.outbound = o.rearm := by
  rcases s.activate_cases sp block now with e | e <;> rw [e]
  · cases sp
    · exact .inr (.inl rfl)
    · exact .inl rfl
  · exact .inr (.inr ⟨_, rfl⟩)

theorem Quiet_encode {ε : Type} (s : Session) (enc : Nat → (Nat → Nat → Bytes) → Except ε (Nat × Bytes))
    (h : s.data.outbound.Quiet) : (s.encode enc).1.data.outbound.Quiet := by
  obtain ⟨buf, e⟩ := encodeAt_queues s.data.outbound enc
  rw [Session.encode_fst, e]; exact Quiet_of_states (Quiet_compact h) rfl rfl rfl

theorem Quiet_retain {s s3 : Session} {id off len : Nat} {isPub : Bool} (h : s.data.outbound.Quiet)
    (hr : s.retain id off len isPub = some s3) : s3.data.outbound.Quiet := by
  obtain ⟨o, ho, rfl⟩ := Session.retain_some hr
  obtain ⟨_, rfl⟩ := retainPacket_some ho
  exact ⟨h.control, h.release, List.forall_mem_append.mpr ⟨h.retained, List.forall_mem_singleton.mpr rfl⟩⟩

theorem OState_queuePing {s s' : Session} {ok : Bytes → Prop} {now : Nat} {part : Bytes} (hq : s.queuePing now = .ok s')
    (h : s.data.outbound.OState ok part) : s'.data.outbound.OState ok part := by
  rcases Session.queuePing_ok hq with rfl | ⟨o, ho, rfl⟩
  · exact h
  · exact h.queueControl ho

theorem takePkt_not_avail (s : Session) : s.takePkt.1.reader.packetAvailable = false := by
  rw [Session.takePkt_fst]
  cases hp : s.reader.packetLength with
  | none => rw [takePacket_none hp]; exact packetAvailable_false_of_none hp
  | some l => rw [takePacket_some hp]; rfl

theorem window_not_avail {s s1 : Session} {n : Nat} (h : s.window = some (s1, n)) (hn : n ≠ 0) :
    s1.reader.packetAvailable = false := by
  obtain ⟨rd, hrw, rfl⟩ := Session.window_some h
  exact (receiveWindow_available hrw).trans (decide_eq_false hn)

theorem activate_reader (s : Session) (sp : Bool) (block : Bytes) (now : Nat) :
    (s.activate sp block now).2 = .ok () → (s.activate sp block now).1.reader = s.reader := by
  intro hok
  rw [activate_fst_of_ok hok]
  cases sp <;> rfl

end Minimq
