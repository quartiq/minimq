import Minimq.Proofs.Props
/-
The model's *inbound* property decoder (`decodeProp`, `iterEncoded`: `Property::deserialize` and
`PropertiesIter` over an encoded block) inverts the model's property encoder (`Property.encode`,
`encodeProps`: `impl Serialize for Property`), for all 27 kinds and arbitrary values; and, for
arbitrary (possibly malformed) blocks, every iteration step consumes at least one byte, so the
iteration ends by itself.
-/
namespace Minimq
open Gen

theorem shapes_ser_eq_de (k : PropKind) : k.serShape = k.deShape := by
  cases k <;> rfl

example : ¬ ∀ k : PropKind, k.serShape = k.declShape ∧ k.deShape = k.declShape := by
  intro h
  have := (h .SubscriptionIdentifier).1
  simp [PropKind.serShape, PropKind.declShape] at this

example : PropKind.SubscriptionIdentifier.declShape = .u32 ∧
    PropKind.SubscriptionIdentifier.serShape = .varint ∧
    PropKind.SubscriptionIdentifier.deShape = .varint := ⟨rfl, rfl, rfl⟩

theorem kindOfId_id (k : PropKind) : kindOfId k.id = some k := by
  cases k <;> rfl

/-- No hypothesis on the kind is needed: `serShape = deShape` holds for all kinds, and the one kind
whose declared type differs (`SubscriptionIdentifier`) still round-trips because the varint writer
refuses values the varint reader could not return. -/
theorem decodeProp_encode (p : Property) (out rest : Bytes) (hwf : p.wf = true)
    (h : p.encode = .ok out) :
    decodeProp (out ++ rest) = { result := some p, consumed := out.length } := by
  have hok := p.wf_valOk hwf
  obtain ⟨body, hb, rfl, hx2⟩ := p.encode_ok h
  unfold decodeProp
  rw [List.append_assoc, codec_varint.read hx2]
  simp only [kindOfId_id, ← shapes_ser_eq_de, readVal_valChunks _ _ body rest hok hb, PropStep.mk.injEq,
    true_and, List.length_append]
  omega

/-- With the table hypothesis (that the three shape tables agree for this kind) stated: an instance of
`decodeProp_encode`, which does not need it. -/
theorem decodeProp_encode_of_shapes (p : Property) (out rest : Bytes) (hwf : p.wf = true)
    (_hs : p.kind.serShape = p.kind.declShape ∧ p.kind.deShape = p.kind.declShape)
    (h : p.encode = .ok out) :
    decodeProp (out ++ rest) = { result := some p, consumed := out.length } :=
  decodeProp_encode p out rest hwf h

theorem iterEncodedFuel_encode (l : List Property) (block : Bytes) (fuel : Nat)
    (hwf : ∀ p ∈ l, p.wf = true) (h : encodeProps l = .ok block) (hf : block.length ≤ fuel) :
    iterEncodedFuel fuel block = l.map some := by
  induction l generalizing block fuel with
  | nil => cases h; cases fuel <;> rfl
  | cons p l ih =>
    obtain ⟨a, c, ha, hc, rfl⟩ := encodeProps_cons h
    obtain ⟨x, xs, rfl⟩ := List.exists_cons_of_ne_nil (Property.encode_nonempty p a ha)
    cases fuel with
    | zero => cases hf
    | succ fuel =>
      rw [iterEncodedFuel, decodeProp_encode p _ c (hwf p List.mem_cons_self) ha]
      simp only [List.cons_append, List.isEmpty_cons, Bool.false_eq_true, if_false]
      rw [← List.cons_append, List.drop_left, ih c fuel (fun q hq => hwf q (List.mem_cons_of_mem _ hq)) hc
        (by rw [List.length_append, List.length_cons] at hf; omega)]
      rfl

/-- The value of the first property of kind `k` in a list of properties (`none` if there is no
property of that kind, or — impossible for a well-typed string/binary kind — its value is not a
byte string). -/
def firstVal (k : PropKind) (l : List Property) : Option Bytes :=
  match l.find? (fun p => p.kind = k) with
  | some p => (match p.val with | .s bs => some bs | _ => none)
  | none => none

theorem Property.wf_str_val (p : Property) (hwf : p.wf = true)
    (hk : p.kind.declShape = .str ∨ p.kind.declShape = .bin) : ∃ bs, p.val = .s bs := by
  unfold Property.wf at hwf
  cases hv : p.val with
  | s bs => exact ⟨bs, rfl⟩
  | n _ | p _ _ => rcases hk with hk | hk <;> rw [hk, hv] at hwf <;> cases hwf

/-! ### Arbitrary blocks: progress and termination

Every successful reader hands back a piece of what it was given, and every failing one reports no
more consumed bytes than there were. -/

theorem decodeVarint_length {bs r : Bytes} {n : Nat} (h : decodeVarint bs = some (n, r)) :
    r.length < bs.length := by
  have := varintLen_bounds n
  rw [codec_varint.length h, encodeVarint_length]; omega

theorem readU16_length {bs r : Bytes} {n : Nat} (h : readU16 bs = some (n, r)) :
    bs.length = r.length + 2 :=
  (codec_u16.length h).trans (Nat.add_comm ..)

theorem readVal_length {sh : Shape} {bs r : Bytes} {v : PVal} (h : readVal sh bs = some (v, r)) :
    r.length ≤ bs.length := by
  cases sh <;> simp only [readVal, Option.map_eq_some_iff, Prod.exists, Prod.mk.injEq] at h
  case u8 =>
    match bs, h with
    | _ :: _, h => cases h; exact Nat.le_succ _
  case u16 => obtain ⟨_, _, h, _, rfl⟩ := h; exact codec_u16.length_le h
  case u32 =>
    obtain ⟨_, _, h, _, rfl⟩ := h
    match bs, h with
    | _ :: _ :: _ :: _ :: _, h => cases h; simp only [List.length_cons]; omega
  case varint => obtain ⟨_, _, h, _, rfl⟩ := h; exact codec_varint.length_le h
  case str => obtain ⟨_, _, h, _, rfl⟩ := h; exact codec_str.length_le h
  case bin => obtain ⟨_, _, h, _, rfl⟩ := h; exact codec_bin.length_le h
  case pair =>
    split at h
    · cases h
    · rename_i k r1 hk
      split at h
      · cases h
      · rename_i v' r2 hv
        cases h
        exact Nat.le_trans (codec_str.length_le hv) (codec_str.length_le hk)

theorem failConsumed_varint_pos (bs : Bytes) (h : bs ≠ []) : 1 ≤ failConsumed .varint bs := by
  unfold failConsumed
  simp only []
  repeat' split
  all_goals first | omega | exact absurd rfl h

theorem failConsumed_lenField_le (bs : Bytes) :
    (match readU16 bs with
     | none => min bs.length 2
     | some (n, r) => if r.length < n then 2 else 2 + n) ≤ bs.length := by
  split
  · exact Nat.min_le_left _ _
  · rename_i n r h16
    have := readU16_length h16
    split
    · omega
    · show 2 + n ≤ bs.length; omega

theorem failConsumed_le (sh : Shape) (bs : Bytes) : failConsumed sh bs ≤ bs.length := by
  cases sh <;> simp only [failConsumed]
  · omega
  · exact Nat.min_le_left _ _
  · omega
  · repeat' split
    all_goals first | omega | (simp only [List.length_cons]; omega)
  · exact failConsumed_lenField_le bs
  · exact failConsumed_lenField_le bs
  · split
    · exact failConsumed_lenField_le bs
    · rename_i k r hk
      have := codec_str.length_le hk
      refine Nat.le_trans (Nat.add_le_add_left (failConsumed_lenField_le r) _) ?_
      omega

/-- The property identifier is read first, and reading it pops at least one byte even when it fails. -/
theorem decodeProp_consumed_bounds (bs : Bytes) :
    (bs ≠ [] → 1 ≤ (decodeProp bs).consumed) ∧ (decodeProp bs).consumed ≤ bs.length := by
  unfold decodeProp
  split
  · exact ⟨failConsumed_varint_pos bs, failConsumed_le .varint bs⟩
  · rename_i id r hv
    have hl := decodeVarint_length hv
    simp only []
    split
    · simp only []; omega
    · rename_i k hk
      split
      · have := failConsumed_le k.deShape r
        simp only []; omega
      · rename_i v r' hr
        have := readVal_length hr
        simp only []; omega

/-- So the iterator never repeats the same error. -/
theorem decodeProp_consumed_ne_zero (bs : Bytes) (h : bs ≠ []) : (decodeProp bs).consumed ≠ 0 := by
  have := (decodeProp_consumed_bounds bs).1 h; omega

theorem drop_consumed_length (x : UInt8) (xs : Bytes) :
    ((x :: xs).drop (decodeProp (x :: xs)).consumed).length ≤ xs.length := by
  have := (decodeProp_consumed_bounds (x :: xs)).1 (List.cons_ne_nil _ _)
  rw [List.length_drop, List.length_cons]
  omega

theorem iterEncodedFuel_stable (f1 f2 : Nat) (bs : Bytes) (h1 : bs.length ≤ f1) (h2 : bs.length ≤ f2) :
    iterEncodedFuel f1 bs = iterEncodedFuel f2 bs := by
  induction f1 generalizing f2 bs with
  | zero =>
    cases List.eq_nil_of_length_eq_zero (Nat.le_zero.mp h1)
    cases f2 <;> rfl
  | succ f1 ih =>
    cases bs with
    | nil => cases f2 <;> rfl
    | cons x xs =>
      cases f2 with
      | zero => cases h2
      | succ f2 =>
        have := drop_consumed_length x xs
        rw [List.length_cons] at h1 h2
        unfold iterEncodedFuel
        simp only [List.isEmpty_cons, Bool.false_eq_true, if_false]
        rw [ih f2 _ (by omega) (by omega)]

theorem iterEncoded_eq_fuel (fuel : Nat) (bs : Bytes) (h : bs.length ≤ fuel) :
    iterEncodedFuel fuel bs = iterEncoded bs :=
  iterEncodedFuel_stable _ _ bs h (Nat.le_succ _)

end Minimq
