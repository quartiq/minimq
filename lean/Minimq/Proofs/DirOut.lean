import Minimq.Proofs.Ops
/-
`execDirective` by cases, once. `DirOut w d r` lists the ways the directive `d` can end when executed in
`w`, each with what the interpreter checked on the way; `execDirective_out` says that `w.execDirective d`
is one of them. A property of worlds is shown to survive every directive by `cases` on this, with one
line per way. `goLoop_ind` does the same for the rounds of `go`, `startConnect_ind` for `connect` up to its
first await; `opStart` and `connectStart` are the worlds in which an operation's machine, resp. the encoding of
CONNECT, starts.
-/
namespace Minimq
open Gen World

/-- The world an operation's machine is entered in (`startOp`): whatever was suspended is cancelled, the
per-POLL counters are cleared. -/
def World.opStart (w : World) : World := { w.cancelFut with wakes := 0, lastIoStarved := false }

theorem startOp_eq (w : World) (name : String) (body : World → World) :
    w.startOp name body = if w.conn.isNone then w.emit s!"ret {name} err NoConnection" else body w.opStart := rfl

theorem opStart_of_idle {w : World} (h : w.fut = none) : w.opStart = { w with wakes := 0, lastIoStarved := false } := by
  unfold World.opStart; rw [cancelFut_of_idle h]

theorem startOp_ready (w : World) (name : String) (body : World → World)
    (hconn : w.conn.isSome = true) (hfut : w.fut = none) :
    w.startOp name body = body { w with wakes := 0, lastIoStarved := false } := by
  rw [startOp_eq, if_neg (by rw [← Option.not_isSome, hconn]; nofun), opStart_of_idle hfut]

/-- The world `Session::connect` works in, before CONNECT is encoded: the old connection handle is
gone, a new transport has been opened, the session has been through the three resets. -/
def World.connectStart (w : World) : World :=
  let w := w.dropConn
  let w := { w with nets := w.nets ++ [({ } : Net)] }
  let w := w.emit s!"net {w.netIdx} open"
  { w with sess := w.sess.beginConnect, wakes := 0, lastIoStarved := false }

/-- The CONNECT encoder as handed to the arena. -/
def connEnc (c : Connect) : Nat → (Nat → Nat → Bytes) → Except SerErr (Nat × Bytes) := fun cap _ => encodeConnect cap c

theorem startConnect_eq (w : World) :
    w.startConnect =
      (let w1 := w.connectStart
       let w2 : World := { w1 with sess := (w1.sess.encode (connEnc w1.sess.connectPacket)).1 }
       match (w1.sess.encode (connEnc w1.sess.connectPacket)).2 with
       | .error e => w2.finishErr "connect" (Err.ofSer e)
       | .ok (off, len) => doLocalWrite pollFuel w2 0 (w2.sess.data.outbound.retainedPacket off len)) := by
  unfold World.startConnect World.connectStart connEnc
  dsimp only
  -- both sides are now the same `match` over the same world; with that world and the fuel as variables
  -- the check is a comparison of terms, not an evaluation
  generalize (World.emit _ _) = w1
  generalize pollFuel = f
  rfl

/-- `connect` up to its first await, by cases on the encoding of CONNECT into the arena (`x` is the world after
it): it fails and `connect` is over, or `write_all` starts on what was encoded. -/
theorem startConnect_ind {P : World → Prop} (w : World) :
    let x : World :=
      { w.connectStart with sess := (w.connectStart.sess.encode (connEnc w.connectStart.sess.connectPacket)).1 }
    (∀ e, P (x.finishErr "connect" (Err.ofSer e))) → (∀ bytes, P (doLocalWrite pollFuel x 0 bytes)) →
      P w.startConnect := by
  intro x err ok
  rw [startConnect_eq]
  dsimp only
  split
  · exact err _
  · exact ok _

/-- The request a directive hands to `flush_outbound`, if it is one of the four operations that send. -/
def Directive.request : Directive → Option AfterFlush
  | .publish r => some (.publishPre r)
  | .subscribe r => some (.subPre r)
  | .unsubscribe r => some (.unsubPre r)
  | .disconnect x => some (.discPre x)
  | _ => none

/-- The caller of `drive_packet`, if the directive is one of the three that drive the connection. -/
def Directive.outer : Directive → Option Outer
  | .poll => some .poll
  | .recv => some .recv
  | .drive => some .drive
  | _ => none

/-- The ways `w.execDirective d` can end. An over-approximation: only `connect`, `go`, `dead`, `invalid`,
`request` and `drive` say for which directive they arise, which is all the invariants need. -/
inductive DirOut (w : World) (d : Directive) : World → Prop
  | badOp : DirOut w d (w.emit "bad-op")
  | decode (bs : Bytes) : DirOut w d (w.emit (decodeLine bs))
  | connect (hd : d = .connect) : DirOut w d w.startConnect
  | noConn (name : String) (hc : w.conn.isNone = true) : DirOut w d (w.emit s!"ret {name} err NoConnection")
  | dead (k : AfterFlush) (hd : d.request = some k) (hc : w.conn.isNone = false) (hl : w.opStart.live = false)
      (hk : ∀ x, k ≠ .discPre x) : DirOut w d (w.opStart.finishErr (afterFlushName k) .disconnected)
  | discDead (hc : w.conn.isNone = false) (hl : w.opStart.live = false) :
      DirOut w d (w.opStart.finish "ret disconnect ok")
  | invalid (k : AfterFlush) (hd : d.request = some k) (hc : w.conn.isNone = false) (hl : w.opStart.live = true) :
      DirOut w d (w.opStart.finishErr (afterFlushName k) .invalidRequest)
  | request (k : AfterFlush) (hd : d.request = some k) (hc : w.conn.isNone = false) (hl : w.opStart.live = true) :
      DirOut w d (flushLoop pollFuel w.opStart k)
  | drive (o : Outer) (hd : d.outer = some o) (hc : w.conn.isNone = false) : DirOut w d (driveEnter pollFuel w.opStart o)
  | decision (n : Nat) (hf : w.fut.isNone = false) : DirOut w d { World.poll { w with slot := some n } with slot := none }
  /-- 10000: the rounds `execDirective` gives `go` before it prints `spin` -/
  | go (hd : d = .go) (hf : w.fut.isNone = false) : DirOut w d (goLoop 10000 w)
  | tick (us : Nat) (hf : w.fut.isSome = true) : DirOut w d (World.poll { w with now := w.now + us })
  | tickIdle (us : Nat) : DirOut w d { w with now := w.now + us }
  | rx (bytes : Bytes) (hn : w.nets.isEmpty = false) :
      DirOut w d (w.setCurNet { w.curNet with rx := w.curNet.rx ++ bytes })
  | cancel : DirOut w d w.cancelFut
  | drop : DirOut w d w.dropConn
  | setpid (n : Nat) (hf : w.fut = none) (h1 : 1 ≤ n) (h2 : n ≤ 65535) : DirOut w d { w with sess := w.sess.setPid n }

theorem DirOut.startOp {w : World} {d : Directive} (name : String) (body : World → World)
    (hb : w.conn.isNone = false → DirOut w d (body w.opStart)) : DirOut w d (w.startOp name body) := by
  rw [startOp_eq]
  by_cases hc : w.conn.isNone = true
  · rw [if_pos hc]; exact .noConn name hc
  · rw [if_neg hc]; exact hb (Bool.eq_false_iff.2 hc)

theorem execDirective_out (w : World) (d : Directive) : DirOut w d (w.execDirective d) := by
  cases d <;> simp only [World.execDirective]
  case bad => exact .badOp
  case connect => exact .connect rfl
  case publish r =>
    refine .startOp _ _ fun hc => ?_
    refine ite_ind (P := DirOut w _) (fun hl => ?_) (fun hl => ?_)
    · exact .dead (.publishPre r) rfl hc (by simpa using hl) nofun
    · exact .request (.publishPre r) rfl hc (by simpa using hl)
  case subscribe r =>
    refine .startOp _ _ fun hc => ?_
    refine ite_ind (P := DirOut w _) (fun hl => ?_) (fun hl => ?_)
    · exact .dead (.subPre r) rfl hc (by simpa using hl) nofun
    · have hl' : w.opStart.live = true := by simpa using hl
      exact ite_ind (P := DirOut w _) (fun _ => .invalid (.subPre r) rfl hc hl') fun _ =>
        ite_ind (P := DirOut w _) (fun _ => .invalid (.subPre r) rfl hc hl') fun _ => .request (.subPre r) rfl hc hl'
  case unsubscribe r =>
    refine .startOp _ _ fun hc => ?_
    refine ite_ind (P := DirOut w _) (fun hl => ?_) (fun hl => ?_)
    · exact .dead (.unsubPre r) rfl hc (by simpa using hl) nofun
    · have hl' : w.opStart.live = true := by simpa using hl
      exact ite_ind (P := DirOut w _) (fun _ => .invalid (.unsubPre r) rfl hc hl') fun _ =>
        ite_ind (P := DirOut w _) (fun _ => .invalid (.unsubPre r) rfl hc hl') fun _ => .request (.unsubPre r) rfl hc hl'
  case disconnect dd =>
    refine .startOp _ _ fun hc => ?_
    refine ite_ind (P := DirOut w _) (fun hl => ?_) (fun hl => ?_)
    · exact .discDead hc (by simpa using hl)
    · have hl' : w.opStart.live = true := by simpa using hl
      exact ite_ind (P := DirOut w _) (fun _ => .invalid (.discPre dd) rfl hc hl') fun _ => .request (.discPre dd) rfl hc hl'
  case poll | recv | drive => exact .startOp _ _ fun hc => .drive _ rfl hc
  case d n => exact ite_ind (P := DirOut w _) (fun _ => .badOp) (fun hf => .decision n (Bool.eq_false_iff.2 hf))
  case go => exact ite_ind (P := DirOut w _) (fun _ => .badOp) (fun hf => .go rfl (Bool.eq_false_iff.2 hf))
  case tick us =>
    exact ite_ind (P := DirOut w _) (fun _ => .badOp) fun _ =>
      ite_ind (P := DirOut w _) (fun hf => .tick us hf) (fun _ => .tickIdle us)
  case rx bytes => exact ite_ind (P := DirOut w _) (fun _ => .badOp) (fun hn => .rx bytes (Bool.eq_false_iff.2 hn))
  case cancel => exact .cancel
  case drop => exact .drop
  case setpid n =>
    refine ite_ind (P := DirOut w _) (fun _ => .badOp) (fun h => ?_)
    simp only [Bool.or_eq_true, decide_eq_true_eq, not_or, Option.isSome_iff_ne_none, ne_eq, Decidable.not_not] at h
    exact .setpid n h.1.1 (by omega) (by omega)
  case decode bs => exact .decode bs

theorem execDirective_ind {P : World → Prop} (w : World) (d : Directive) (h : ∀ r, DirOut w d r → P r) :
    P (w.execDirective d) :=
  h _ (execDirective_out w d)

/-- A round of `go` is a POLL with the decision 250, "as much as possible". -/
theorem goLoop_ind {P : World → Prop}
    (round : ∀ w, P w → P { World.poll { w with slot := some 250 } with slot := none })
    (spin : ∀ w, P w → P (w.emit "spin")) : ∀ (n : Nat) (w : World), P w → P (World.goLoop n w)
  | 0, w, h => spin w h
  | n + 1, w, h => by
    rw [World.goLoop]
    exact ite_ind (fun _ => round w h) fun _ => ite_ind (fun _ => round w h) fun _ =>
      ite_ind (fun _ => round w h) fun _ => goLoop_ind round spin n _ (round w h)

end Minimq
