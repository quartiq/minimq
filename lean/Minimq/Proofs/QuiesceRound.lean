import Minimq.Proofs.QuiesceLoop
/-
Bounded quiescence (C16, liveness half): a whole round, and rounds until the queues are empty.
-/
namespace Minimq
open Gen World Fuel Outbound
namespace Quiesce

/-- The invariant between rounds: a program produced the world; the lifted and the `Tidy` facts hold;
the reader is at a packet boundary; and the inbound queue of the transport holds exactly the answers the
broker owes (for everything that is completely on the wire and not yet acknowledged). -/
structure Ready (W : World) : Prop where
  reach : Produced W
  live : Live W
  fresh : W.sess.reader.data = []
  sync : ∃ as, W.curNet.rx = enc as ∧ as.Perm (expected W.sess.data.outbound)

/-- Rounds that are still needed. -/
def mu (o : Outbound) : Nat := (if pending o = 0 then 0 else 1) + owed o

theorem mid_start (W : World) (hr : Ready W) :
    Mid W.log.length (owed W.sess.data.outbound) (pending W.sess.data.outbound) W.sess.data.generation 0
      (W.execDirective .poll) ∧
    (W.execDirective .poll).fut.isSome = true ∧
    nu (W.execDirective .poll) ≤ 2 * pending W.sess.data.outbound + 1 + 4 * W.curNet.rx.length := by
  have hreach := hr.reach.exec .poll
  obtain ⟨o, t, hstart⟩ := poll_start W hr.live.live hr.live.slot hr.live.wait hr.live.calm
  rw [hstart] at hreach ⊢
  have hsync : Sync W.log.length (startW W o t) := by
    obtain ⟨as, h1, h2⟩ := hr.sync
    refine ⟨as, ?_, ?_⟩
    · show W.sess.reader.data ++ W.curNet.rx = _
      rw [hr.fresh, List.nil_append]; exact h1
    · rw [newLog_nil (L0 := W.log.length) (W := startW W o t) rfl]
      show (as ++ []).Perm (expected W.sess.data.outbound)
      rw [List.append_nil]; exact h2
  obtain ⟨hm, hout⟩ := mid_settle (h := 0) (pend0 := pending W.sess.data.outbound) false
    (hr.live.congr (W' := startW W o t) rfl rfl rfl rfl rfl) hsync (Nat.le_refl _) rfl
    (fun _ hp0 => ⟨nextStep_none_of_pending_zero _ hp0, rfl, rfl⟩) rfl hr.fresh rfl rfl hreach
  rcases hout with ⟨-, ha⟩ | ⟨h1, h2⟩
  · cases ha
  · exact ⟨hm, h1, h2⟩

theorem enc_length_le (n : Nat) (as : List Spec.ServerPacket) (h : ∀ a ∈ as, (Spec.encodeServer a).length ≤ n) :
    (enc as).length ≤ n * as.length := by
  induction as with
  | nil => simp [enc]
  | cons a as ih =>
    rw [enc_cons, List.length_append, List.length_cons, Nat.mul_succ]
    have := h a (by simp)
    have := ih (fun x hx => h x (by simp [hx]))
    omega

theorem mid_end {L0 owed0 pend0 G h : Nat} {W : World} (hm : Mid L0 owed0 pend0 G h W)
    (hstop : W.fut = none ∨ W.lastIoStarved = true) :
    W.sess.data.outbound.nextStep = none ∧ W.sess.reader.data = [] := by
  rcases hstop with hf | hs
  · exact (pcOK_idle hf).1 hm.pc
  · obtain ⟨hrx, dl, y, hf⟩ := hm.starved hs
    exact ⟨((pcOK_read hf).1 hm.pc).2, hm.live.idle hrx⟩

theorem go_eq (W : World) (h : W.fut.isSome = true) : W.execDirective .go = World.goLoop 10000 W := by
  simp only [World.execDirective]
  rw [if_neg (by cases hf : W.fut <;> simp_all)]

theorem client_turn (W : World) (hr : Ready W) :
    Mid W.log.length (owed W.sess.data.outbound) (pending W.sess.data.outbound) W.sess.data.generation 0
      (W.execDirective .poll) ∧
    ∃ h', Mid W.log.length (owed W.sess.data.outbound) (pending W.sess.data.outbound) W.sess.data.generation h'
        (clientTurn W) ∧
      ((clientTurn W).fut = none ∨ (clientTurn W).lastIoStarved = true) := by
  obtain ⟨hm1, hfs1, hnu1⟩ := mid_start W hr
  -- enough rounds of `go`
  have hnu : nu (W.execDirective .poll) < 10000 := by
    obtain ⟨as, h1, h2⟩ := hr.sync
    have hp := pending_le W.sess.data.outbound
    have hc : W.sess.data.outbound.control.length ≤ 8 := hr.live.tidy.ctlCap
    have hrc : W.sess.data.outbound.retained.length ≤ 8 := hr.live.ids.retCap
    have hlc : W.sess.data.outbound.release.length ≤ 8 := hr.live.ids.relCap
    have hl : as.length ≤ 16 := by rw [h2.length_eq]; have := expected_length_le W.sess.data.outbound; omega
    have := enc_length_le 6 as (fun a ha => (expected_wf _ hr.live.tidy.small a (h2.subset ha)).2)
    rw [h1] at hnu1
    omega
  obtain ⟨h', hm2, hstop⟩ := mid_go _ _ _ _ 10000 0 _ hm1 hfs1 hnu
  rw [← go_eq _ hfs1] at hm2 hstop
  exact ⟨hm1, h', hm2, hstop⟩

theorem round_ready (W : World) (hr : Ready W) :
    Ready (round W) ∧
    (mu (round W).sess.data.outbound < mu W.sess.data.outbound ∨ (round W).sess.data.outbound.isQuiescent = true) ∧
    (round W).sess.data.generation = W.sess.data.generation := by
  obtain ⟨_, h', hm2, hstop⟩ := client_turn W hr
  obtain ⟨hn2, hdata2⟩ := mid_end hm2 hstop
  have hround : round W = (clientTurn W).setCurNet { (clientTurn W).curNet with
      rx := (clientTurn W).curNet.rx ++ brokerBytes (newLog W.log.length (clientTurn W)) } :=
    exec_rx _ _ hm2.live.nets
  have hreach3 : Produced (round W) := hm2.reach.exec _
  have hcur3 : (round W).curNet.rx =
      (clientTurn W).curNet.rx ++ brokerBytes (newLog W.log.length (clientTurn W)) := by
    rw [hround]; simp [World.setCurNet, World.curNet]
  have hsess3 : (round W).sess = (clientTurn W).sess := by rw [hround]; rfl
  have hpl : (clientTurn W).sess.reader.packetLength = none := by
    have := hm2.live.wait.canonical
    rw [this, hdata2]; rfl
  have hready : Ready (round W) := by
    refine ⟨hreach3, ⟨hreach3.ids, hreach3.arena, hreach3.quota, ?_, ?_, ?_, ?_, ?_, ?_, ?_, ?_, ?_⟩,
      by rw [hsess3]; exact hdata2, ?_⟩
    · rw [hround]; exact hm2.live.live
    · rw [hround]; exact hm2.live.slot
    · rw [hround]; simp [World.setCurNet]
    · rw [hsess3, hround]; exact hm2.live.calm
    · rw [hsess3]; exact hm2.live.tidy
    · rw [hsess3]; exact hm2.live.kinds
    · rw [hsess3]; exact hm2.live.cap
    · rw [hsess3]
      exact Waiting_fresh _ _ hdata2 hpl (Nat.le_trans (by omega) hm2.live.cap)
    · rw [hsess3]; exact fun _ => hdata2
    · obtain ⟨as, h1, h2⟩ := hm2.sync
      refine ⟨as ++ (newLog W.log.length (clientTurn W)).filterMap answerOf, ?_, by rw [hsess3]; exact h2⟩
      rw [hcur3, enc_append]
      rw [hdata2, List.nil_append] at h1
      rw [h1]; rfl
  have hp2 : pending (clientTurn W).sess.data.outbound = 0 :=
    pending_zero_of_nextStep_none _ hn2 hm2.live.tidy.clean
  refine ⟨hready, ?_, by rw [hsess3]; exact hm2.gen⟩
  · have hacct := hm2.acct
    unfold mu
    rw [hsess3, hp2]
    simp only [if_true]
    by_cases hp0 : pending W.sess.data.outbound = 0
    · rw [if_pos hp0]
      by_cases hh : h' = 0
      · -- nothing was sent and nothing was read: everything had been acknowledged already
        right
        subst hh
        obtain ⟨⟨dl, y, hfw⟩, hlog⟩ := hm2.quiet0 rfl hp0
        have hst : (clientTurn W).lastIoStarved = true := by
          rcases hstop with h | h
          · rw [hfw] at h; cases h
          · exact h
        obtain ⟨hrx, _⟩ := hm2.starved hst
        obtain ⟨as, h1, h2⟩ := hm2.sync
        rw [hdata2, hrx] at h1
        have has : as = [] := enc_eq_nil h1.symm
        rw [has, newLog_nil hlog] at h2
        exact quiescent_of _ hp2 (List.Perm.nil_eq h2).symm hm2.live.kinds
      · left; omega
    · left
      rw [if_neg hp0]; omega

theorem sum_wgt_bounds (l : List RetV) : l.length ≤ (l.map wgt).sum ∧ (l.map wgt).sum ≤ 2 * l.length := by
  induction l with
  | nil => simp
  | cons x xs ih =>
    have := wgt_pos x
    simp only [List.map_cons, List.sum_cons, List.length_cons]
    omega

theorem owed_bounds (o : Outbound) :
    o.retained.length + o.release.length ≤ owed o ∧ owed o ≤ 2 * o.retained.length + o.release.length := by
  have := sum_wgt_bounds (retView o)
  rw [retView_length] at this
  unfold owed; omega

/-- The bound in terms of the queues: one round to send what is not sent, two per retained packet at
most (one unless it is a QoS 2 PUBLISH), one per PUBREL. -/
theorem mu_le (o : Outbound) : mu o ≤ 1 + 2 * o.retained.length + o.release.length := by
  unfold mu
  have := (owed_bounds o).2
  split <;> omega

theorem mu_zero_iff (o : Outbound) : mu o = 0 ↔ o.isQuiescent = true := by
  rw [quiescent_iff']
  have hb := owed_bounds o
  constructor
  · intro h
    unfold mu at h
    split at h
    · rename_i hp
      have h0 : owed o ≤ 0 := by omega
      have hl := Nat.add_eq_zero_iff.mp (Nat.le_zero.mp (Nat.le_trans hb.1 h0))
      exact ⟨((pending_zero_iff o).mp hp).1, List.eq_nil_of_length_eq_zero hl.1, List.eq_nil_of_length_eq_zero hl.2⟩
    · omega
  · rintro ⟨h1, h2, h3⟩
    have hp : pending o = 0 := (pending_zero_iff o).mpr ⟨h1, by simp [h3], by simp [h2]⟩
    rw [h2, h3] at hb
    have : owed o ≤ 0 := hb.2
    unfold mu; rw [if_pos hp]; omega

theorem rounds_inv {P : World → Prop} (hstep : ∀ W, P W → P (round W)) : ∀ n W, P W → P (rounds n W)
  | 0, _, h => h
  | n + 1, W, h => rounds_inv hstep n (round W) (hstep W h)

theorem quiesces : ∀ (m : Nat) (W : World), Ready W → mu W.sess.data.outbound ≤ m →
    ∃ n, n ≤ mu W.sess.data.outbound ∧ (rounds n W).sess.data.outbound.isQuiescent = true ∧ Ready (rounds n W) ∧
      (rounds n W).sess.data.generation = W.sess.data.generation
  | 0, W, hr, hm => ⟨0, Nat.zero_le _, (mu_zero_iff _).mp (by show mu W.sess.data.outbound = 0; omega), hr, rfl⟩
  | m + 1, W, hr, hm => by
    by_cases h0 : mu W.sess.data.outbound = 0
    · exact ⟨0, Nat.zero_le _, (mu_zero_iff _).mp h0, hr, rfl⟩
    · obtain ⟨hr', hprog, hgen⟩ := round_ready W hr
      rcases hprog with hlt | hq
      · obtain ⟨n, hn, h1, h2, h3⟩ := quiesces m (round W) hr' (by omega)
        exact ⟨n + 1, by omega, h1, h2, by rw [rounds, h3, hgen]⟩
      · exact ⟨1, by omega, hq, hr', hgen⟩

theorem stays_quiescent (W : World) (hr : Ready W) (hq : W.sess.data.outbound.isQuiescent = true) :
    ∀ n, (rounds n W).sess.data.outbound.isQuiescent = true ∧ Ready (rounds n W) := fun n =>
  rounds_inv (P := fun W => W.sess.data.outbound.isQuiescent = true ∧ Ready W) (fun W ⟨hq, hr⟩ => by
    obtain ⟨hr', hprog, _⟩ := round_ready W hr
    exact ⟨hprog.resolve_left (by have := (mu_zero_iff _).mpr hq; omega), hr'⟩) n W ⟨hq, hr⟩

end Quiesce
end Minimq
