import Minimq.Proofs.Props
import Minimq.Spec.Mqtt5
/-
The independent reference (Spec/Mqtt5.lean) decodes what the model's encoder writes: primitives,
all 27 property kinds, property lists. The reference's primitive readers compute the same function
as the model's, so what the model reads back from its writers the reference reads back too.
-/
namespace Minimq
open Gen

theorem spec_varint_eq (bs : Bytes) : Spec.varint bs = decodeVarint bs := by
  have sub (x : UInt8) (h : ¬ x.toNat < 128) : x.toNat - 128 = x.toNat % 128 := by
    have := x.toNat_lt; omega
  -- the case numbers: see `decodeVarint_cont` (`Proofs/Varint.lean`)
  fun_cases decodeVarint bs
  case case5 x0 h0 x1 r h1 hz =>
    simp only [Spec.varint, if_neg h0, if_pos h1, if_neg hz, sub _ h0, Nat.mul_comm 128]
  case case8 x0 h0 x1 h1 x2 r h2 hz =>
    simp only [Spec.varint, if_neg h0, if_neg h1, if_pos h2, if_neg hz, sub _ h0, sub _ h1,
      Nat.mul_comm 128, Nat.mul_comm 16384]
  case case11 x0 h0 x1 h1 x2 h2 x3 r h3 hz =>
    simp only [Spec.varint, if_neg h0, if_neg h1, if_neg h2, if_pos h3, if_neg hz, sub _ h0, sub _ h1,
      sub _ h2, Nat.mul_comm 128, Nat.mul_comm 16384, Nat.mul_comm 2097152]
  all_goals simp only [Spec.varint, *, Nat.zero_lt_succ, if_true, if_false]

theorem spec_u16_eq (bs : Bytes) : Spec.u16 bs = readU16 bs := by
  match bs with
  | [] | [_] | _ :: _ :: _ => rfl

theorem spec_u32_eq (bs : Bytes) : Spec.u32 bs = readU32 bs := by
  match bs with
  | [] | [_] | [_, _] | [_, _, _] => rfl
  | a :: c :: d :: e :: r => exact congrArg (fun v => some (v, r)) (by simp only [u32of]; omega)

theorem spec_take_eq (n : Nat) (bs : Bytes) : Spec.take n bs = takeN bs n := by
  unfold Spec.take takeN
  by_cases h : n ≤ bs.length
  · rw [if_pos h, if_neg (by omega)]
  · rw [if_neg h, if_pos (by omega)]

theorem spec_bin_eq (bs : Bytes) : Spec.bin bs = readBin bs := by
  unfold Spec.bin readBin
  rw [spec_u16_eq]
  cases readU16 bs with
  | none => rfl
  | some p => exact spec_take_eq ..

theorem spec_str_eq (bs : Bytes) : Spec.str bs = readStr bs := by
  rw [Spec.str, spec_bin_eq, readStr_eq]
  rfl

/-- The reference's view of a model property. The last arm (a value that does not have the shape of its kind) is
junk: the statements that use `toSpec` assume `p.wf`. -/
def Property.toSpec (p : Property) : Spec.Prop' :=
  { id := p.kind.id,
    val := match p.kind.serShape, p.val with
      | .u8, .n v => .byte v
      | .u16, .n v => .two v
      | .u32, .n v => .four v
      | .varint, .n v => .var v
      | .str, .s bs => .str bs
      | .bin, .s bs => .bin bs
      | .pair, .p k v => .pair k v
      | _, _ => .byte 0 }

theorem propType_id (k : PropKind) :
    Spec.propType k.id = some (match k.serShape with
      | .u8 => .byte | .u16 => .two | .u32 => .four | .varint => .var
      | .str => .str | .bin => .bin | .pair => .pair) := by
  cases k <;> rfl

theorem spec_oneProp_id (k : PropKind) (bs : Bytes) (hid : k.id ≤ MQTT_VARINT_MAX) :
    Spec.oneProp (encodeVarint k.id ++ bs) =
      (readVal k.serShape bs).map fun x => (({ kind := k, val := x.1 } : Property).toSpec, x.2) := by
  rw [Spec.oneProp, spec_varint_eq, codec_varint.read hid]
  simp only [propType_id, Property.toSpec]
  generalize k.serShape = sh
  cases sh <;> simp only [readVal, spec_u16_eq, spec_u32_eq, spec_varint_eq, spec_str_eq, spec_bin_eq]
  case u8 => cases bs <;> rfl
  case u16 => cases readU16 bs <;> rfl
  case u32 => cases readU32 bs <;> rfl
  case varint => cases decodeVarint bs <;> rfl
  case str => cases readStr bs <;> rfl
  case bin => cases readBin bs <;> rfl
  case pair =>
    cases readStr bs with
    | none => rfl
    | some p => obtain ⟨a, r1⟩ := p; dsimp only; cases readStr r1 <;> rfl

theorem spec_oneProp_encode (p : Property) (out r : Bytes) (hwf : p.wf = true)
    (h : p.encode = .ok out) : Spec.oneProp (out ++ r) = some (p.toSpec, r) := by
  obtain ⟨body, hb, rfl, hid⟩ := p.encode_ok h
  rw [List.append_assoc, spec_oneProp_id _ _ hid, readVal_valChunks _ _ body r (p.wf_valOk hwf) hb]
  rfl

theorem spec_propsFuel_encode (l : List Property) (out : Bytes) (fuel : Nat)
    (hwf : ∀ p ∈ l, p.wf = true) (h : encodeProps l = .ok out) (hf : out.length ≤ fuel) :
    Spec.propsFuel fuel out = some (l.map Property.toSpec) := by
  induction l generalizing out fuel with
  | nil => cases h; cases fuel <;> rfl
  | cons p l ih =>
    obtain ⟨a, c, ha, hc, rfl⟩ := encodeProps_cons h
    obtain ⟨x, xs, rfl⟩ := List.exists_cons_of_ne_nil (Property.encode_nonempty p a ha)
    cases fuel with
    | zero => cases hf
    | succ fuel =>
      rw [List.cons_append, Spec.propsFuel, ← List.cons_append,
        spec_oneProp_encode p _ c (hwf p List.mem_cons_self) ha]
      · simp only
        rw [ih c fuel (fun q hq => hwf q (List.mem_cons_of_mem _ hq)) hc
          (by rw [List.length_append, List.length_cons] at hf; omega)]
        rfl
      · exact List.cons_ne_nil _ _

/-! The crate's property validation table against the specification's table. -/

def ctxWhere : Ctx → Spec.Where
  | .Publish => .publish
  | .Subscribe => .subscribe
  | .Unsubscribe => .unsubscribe
  | .Disconnect => .disconnect
  | .Will => .will

/-- The `matches!` table of `is_valid_for` is the column "Packet / Will Properties" of Table 2-4,
entry by entry (5 contexts × 27 kinds). -/
theorem validCtx_eq_allowedIn (c : Ctx) (k : PropKind) :
    validCtx c k = Spec.allowedIn (ctxWhere c) k.id := by
  cases c <;> cases k <;> rfl

/-- For every kind a client may use somewhere, `has_valid_value` is the specification's restriction
on the value. (The two differ on Maximum QoS, Receive Maximum and Maximum Packet Size, which only a
server or a CONNECT carries.) -/
theorem validValue_eq_legalValue (c : Ctx) (k : PropKind) (n : Nat) (h : validCtx c k = true) :
    k.validValue n = Spec.legalValue k.id n := by
  cases k
  case TopicAlias => cases n <;> rfl
  all_goals first | rfl | (cases c <;> cases h)

theorem validFor_iff_spec (c : Ctx) (p : Property) :
    p.validFor c = true ↔
      (Spec.allowedIn (ctxWhere c) p.kind.id = true ∧ Spec.legalValue p.kind.id p.val.num = true) := by
  rw [Property.validFor, Bool.and_eq_true, ← validCtx_eq_allowedIn, and_comm]
  exact and_congr_right fun h => by rw [validValue_eq_legalValue c p.kind _ h]

theorem toSpec_num (p : Property) (hwf : p.wf = true) : p.toSpec.val.num = p.val.num := by
  have hok := p.wf_valOk hwf
  rw [Property.toSpec]
  generalize p.kind.serShape = sh, p.val = v at hok ⊢
  cases sh <;> cases v <;> first | rfl | cases hok

theorem legal_of_validFor (c : Ctx) (ps : List Property) (hwf : ∀ p ∈ ps, p.wf = true)
    (hv : ∀ p ∈ ps, p.validFor c = true) :
    ∀ p ∈ ps, Spec.allowedIn (ctxWhere c) p.kind.id = true ∧ Spec.legalValue p.kind.id p.toSpec.val.num = true := by
  intro p hp
  rw [toSpec_num p (hwf p hp)]
  exact (validFor_iff_spec c p).mp (hv p hp)

end Minimq
