import Minimq.Proofs.OutFrame
import Minimq.Proofs.PollSteps
/-
C13, machine level — cancelling a cancel-safe operation and driving on is the same as resuming it.

The machine functions are taken at adequate fuel (`ev` and its unfolding equations, `Proofs/Ev.lean`). Two
runs from one suspended world are compared POLL by POLL, with the same I/O decisions: an operation inside
its `flush_outbound` against the `poll` that replaces it (`RF`, one POLL: `RF.step`), and a `poll` / `recv` /
`drive` against a fresh one of the same kind (`RD`). Re-entry (`reenter`) shows that dropping the future and
starting the new operation puts it at the old one's await point in the same state.
-/
namespace Minimq
open Gen World Fuel

def World.rest (w : World) : World := { w with out := [], fut := none, wakes := 0, lastIoStarved := false }

def World.fin (w : World) : World := { w.rest with handles := [], lastRes := none }

theorem fin_of_rest {a b : World} (h : a.rest = b.rest) : a.fin = b.fin := by unfold World.fin; rw [h]

@[simp] theorem rest_suspend (w : World) (pc : Pc) : (w.suspend pc).rest = w.rest := rfl
@[simp] theorem rest_emit (w : World) (l : String) : (w.emit l).rest = w.rest := rfl
@[simp] theorem rest_addOld (w : World) (o : List String) : (w.addOld o).rest = w.rest := rfl
theorem rest_io {w : World} (hs : w.slot = none) (l : String) : (w.io l).rest = w.rest := by
  cases w; cases hs; rfl
@[simp] theorem fin_finish (w : World) (l : String) : (w.finish l).fin = w.fin := rfl
@[simp] theorem fin_finishErr (w : World) (n : String) (e : Err) : (w.finishErr n e).fin = w.fin := rfl
@[simp] theorem fin_finishOp (w : World) (n : String) (op : Op) : (w.finishOp n op).fin = w.fin := rfl
@[simp] theorem fin_emit (w : World) (l : String) : (w.emit l).fin = w.fin := rfl

theorem fin_deliver (w : World) (n : String) (len : Nat) : (w.deliver n len).fin = w.fin := by
  obtain ⟨ls, _, e⟩ := deliver_eq w n len
  rw [e]; rfl

theorem fut_deliver (w : World) (n : String) (len : Nat) : (w.deliver n len).fut = none := by
  obtain ⟨ls, _, e⟩ := deliver_eq w n len
  rw [e]; rfl

/-- What the comparison needs of the common state at a write/flush await: no complete inbound packet
is waiting (`drive_packet` would handle it first, `flush_outbound` does not look) and no keep-alive
event is due (`drive_packet` checks the ping timeout, `flush_outbound` does not; and they look at the
queue and at the PINGREQ timer in different orders). -/
structure AwaitOK (w : World) : Prop where
  avail : w.sess.reader.packetAvailable = false
  calm : KaCalm w.sess.rt w.now

theorem AwaitOK.of_eq {u v : World} (h : AwaitOK u) (hr : v.sess.reader = u.sess.reader) (ht : v.sess.rt = u.sess.rt)
    (hn : v.now = u.now) : AwaitOK v :=
  ⟨by rw [hr]; exact h.avail, by rw [ht, hn]; exact h.calm⟩

theorem ev_DL_calm {w : World} (hg : AwaitOK w) (outer : Outer) (adv : Bool) :
    ev (.DL w outer adv) =
      match w.sess.data.outbound.nextStep with
      | none => ev (.DAS w outer adv)
      | some step => ev (.PS w (.drive adv outer) step w.now) := by
  rw [ev_DL_service hg.avail, timedOut_false hg.calm.2, maybeQueuePingreq_eq hg.calm.queuePing]
  rfl

/-- Corresponding await points: the same I/O call for the same queue entry, reached from
`flush_outbound` with continuation `k` in run A and from `poll` in run B. -/
inductive PcF (k : AfterFlush) (now : Nat) : Pc → Pc → Prop
  | write (adv : Bool) (pkt : Flushed) (bytes : Bytes) (wr len : Nat) :
      PcF k now (.stepWrite (.flush k) pkt bytes wr len now) (.stepWrite (.drive adv .poll) pkt bytes wr len now)
  | flush (adv : Bool) (pkt : Flushed) :
      PcF k now (.stepFlush (.flush k) pkt now) (.stepFlush (.drive adv .poll) pkt now)

/-- How the final states compare when both operations have completed with an error inside the flush:
they are the same — except that `disconnect` (continuation `.discPre`) ends the connection when its
preliminary flush fails (`disconnect_with`: `handle_disconnect()` before the error is returned), which
`poll` does only for a transport error: then run A's state is run B's after `handle_disconnect`. -/
def DoneF (k : AfterFlush) (a b : World) : Prop :=
  a.fin = b.fin ∨ ((∃ d, k = .discPre d) ∧ a.fin = (b.handleDisconnect).fin)

theorem DoneF.same {k : AfterFlush} {a b : World} (h : DoneF k a b) (hk : ∀ d, k ≠ .discPre d) : a.fin = b.fin := by
  rcases h with h | ⟨⟨d, hd⟩, _⟩
  · exact h
  · exact (hk d hd).elim

theorem doneF_discFail (k : AfterFlush) (adv : Bool) (x : World) :
    DoneF k (x.discFail (.flush k)) (x.discFail (.drive adv .poll)) := by
  rcases discFail_cases x (.flush k) with ⟨e1, _⟩ | ⟨e1, d, hd⟩
  · exact .inl (by rw [e1]; rfl)
  · exact .inr ⟨⟨d, by injection hd⟩, by rw [e1]; rfl⟩

/-- The two runs name different operations in the trace line; rewriting with `fin_finishErr` keeps the
kernel from comparing those strings. -/
theorem DoneF.finishErr {k : AfterFlush} {x y : World} (h : DoneF k x y) (n1 n2 : String) (e : Err) :
    DoneF k (x.finishErr n1 e) (y.finishErr n2 e) := by
  rcases h with h | ⟨hd, h⟩
  · exact .inl (by rw [fin_finishErr, fin_finishErr, h])
  · exact .inr ⟨hd, by rw [fin_finishErr, h]; rfl⟩

/-- The three ways one POLL of the two runs can end (`StepF` is the same after `wrap`). -/
inductive OutF (k : AfterFlush) : World → World → Prop
  | susp {a b : World} {pa pb : Pc} : a.fut = some pa → b.fut = some pb → a.rest = b.rest → AwaitOK a →
      PcF k a.now pa pb → OutF k a b
  | done {a b : World} : a.fut = none → b.fut = none → DoneF k a b → OutF k a b
  /-- the queues are drained: run B's `poll` completed with `Ok`, and run A went on to its continuation
  `k` from the same state `u0`, where the I/O decision has been used up (`u0.slot = none`: the directive clears the
  slot afterwards, `wrap`, and `u0.fin` must not change by that) -/
  | handed {a b : World} (u0 : World) : a = ev (.AF u0 k) → u0.slot = none → b.fut = none →
      b.lastRes = some (.ok ()) → u0.fin = b.fin → OutF k a b

theorem OutF.failed {k : AfterFlush} {x y : World} (h : DoneF k x y) (n1 n2 : String) (e : Err) :
    OutF k (x.finishErr n1 e) (y.finishErr n2 e) :=
  .done rfl rfl (h.finishErr n1 n2 e)

section flushVsPoll
variable (k : AfterFlush) (u : World) (hs : u.slot = none) (hg : AwaitOK u) (adv : Bool)
include hs hg

theorem dsfF_none (pkt : Flushed) :
    OutF k (ev (.DSF u (.flush k) pkt u.now)) (ev (.DSF u (.drive adv .poll) pkt u.now)) := by
  rw [ev_DSF, ev_DSF, ioFlush_none hs]
  exact .susp rfl rfl rfl ⟨hg.avail, hg.calm⟩ (.flush adv pkt)

theorem dswF_none (pkt : Flushed) (bytes : Bytes) (wr len : Nat) :
    OutF k (ev (.DSW u (.flush k) pkt bytes wr len u.now)) (ev (.DSW u (.drive adv .poll) pkt bytes wr len u.now)) := by
  rw [ev_DSW, ev_DSW, ioWrite_none hs]
  exact .susp rfl rfl rfl ⟨hg.avail, hg.calm⟩ (.write adv pkt bytes wr len)

theorem psF_none (st : Outbound.Step) (hnd : isDone (prepareStep u st) = false) :
    OutF k (ev (.PS u (.flush k) st u.now)) (ev (.PS u (.drive adv .poll) st u.now)) := by
  rw [ev_PS, ev_PS]
  cases hp : prepareStep u st with
  | fail e =>
    cases st with
    | retained id off len s => exact .failed (doneF_discFail k adv u) _ _ e
    | control | release => exact .failed (.inl rfl) _ _ e
  | done => rw [hp] at hnd; simp [isDone] at hnd
  | flush pkt =>
    simp only []
    cases hl : u.live with
    | false => exact .failed (doneF_discFail k adv u) _ _ _
    | true => simp only [Bool.not_true, Bool.false_eq_true, if_false]; exact dsfF_none k u hs hg adv pkt
  | write pkt bytes wr len =>
    simp only []
    cases hl : u.live with
    | false => exact .failed (doneF_discFail k adv u) _ _ _
    | true => simp only [Bool.not_true, Bool.false_eq_true, if_false]; exact dswF_none k u hs hg adv pkt bytes wr len

/-- After a step has returned (the I/O decision of this POLL is used up): `flush_outbound` in run A and
`drive_packet` in run B take the same next step, or are both done. -/
theorem settleF :
    OutF k (ev (.FL u k)) (ev (.DAS u .poll true)) := by
  rw [ev_FL_idle hg.calm.queuePing, ev_DAS]
  simp only [hg.avail, Bool.false_eq_true, if_false]
  cases hn : u.sess.data.outbound.nextStep with
  | none =>
    simp only [Option.isNone_none, if_true]
    exact .handed u rfl hs rfl rfl rfl
  | some st =>
    simp only [Option.isNone_some, Bool.false_eq_true, if_false]
    rw [ev_DL_calm hg, hn]
    exact psF_none k u hs hg true st (nextStep_not_done u _ st hn)

omit hs in
theorem dsfF (pkt : Flushed) :
    OutF k (ev (.DSF u (.flush k) pkt u.now)) (ev (.DSF u (.drive adv .poll) pkt u.now)) := by
  rw [ev_DSF, ev_DSF]
  obtain ⟨e1, e2, e3⟩ : (u.ioFlush).1.sess = u.sess ∧ (u.ioFlush).1.now = u.now ∧ (u.ioFlush).1.slot = none :=
    let ⟨_, h⟩ := ioFlush_call (w := u) rfl; ⟨h.sess, h.now, h.slot⟩
  generalize u.ioFlush = p at e1 e2 e3
  obtain ⟨u1, r⟩ := p
  dsimp only at e1 e2 e3
  cases r with
  | pending => exact .susp rfl rfl rfl (hg.of_eq (congrArg _ e1) (congrArg _ e1) e2) (e2 ▸ .flush adv pkt)
  | err kk => exact .failed (.inl rfl) _ _ _
  | ok =>
    dsimp only
    rw [ev_SR, ev_SR]
    simp only [Bool.or_true]
    refine settleF k _ e3 ⟨?_, ?_⟩
    · show u1.sess.reader.packetAvailable = false
      rw [e1]; exact hg.avail
    · show KaCalm (u1.sess.completeFlush pkt u.now).rt u1.now
      rw [e1, e2]; exact hg.calm.completeFlush pkt

omit hs in
theorem dswF (pkt : Flushed) (bytes : Bytes) (wr len : Nat) :
    OutF k (ev (.DSW u (.flush k) pkt bytes wr len u.now)) (ev (.DSW u (.drive adv .poll) pkt bytes wr len u.now)) := by
  rw [ev_DSW, ev_DSW]
  obtain ⟨e1, e2, e3⟩ : (u.ioWrite (bytes.drop wr)).1.sess = u.sess ∧ (u.ioWrite (bytes.drop wr)).1.now = u.now ∧
      (u.ioWrite (bytes.drop wr)).1.slot = none :=
    let ⟨_, h⟩ := ioWrite_call (w := u) (bs := bytes.drop wr) rfl; ⟨h.sess, h.now, h.slot⟩
  generalize u.ioWrite (bytes.drop wr) = p at e1 e2 e3
  obtain ⟨u1, r⟩ := p
  dsimp only at e1 e2 e3
  cases r with
  | pending => exact .susp rfl rfl rfl (hg.of_eq (congrArg _ e1) (congrArg _ e1) e2) (e2 ▸ .write adv pkt bytes wr len)
  | zero => exact .failed (doneF_discFail k adv u1) _ _ _
  | err kk => exact .failed (.inl rfl) _ _ _
  | ok count =>
    dsimp only
    -- `set_written` touches only the queue entry
    have hg2 : AwaitOK (u1.setWritten pkt (wr + count) len) :=
      hg.of_eq (show (u1.sess.setWritten pkt _ _).reader = _ by rw [← e1]; rfl)
        (show (u1.sess.setWritten pkt _ _).rt = _ by rw [← e1]; rfl) e2
    have hs2 : (u1.setWritten pkt (wr + count) len).slot = none := e3
    split
    · rw [ev_SR, ev_SR]
      simp only [Bool.or_true]
      exact settleF k _ hs2 hg2
    · have := dsfF_none k _ hs2 hg2 adv pkt
      rwa [show (u1.setWritten pkt (wr + count) len).now = u.now from e2] at this

end flushVsPoll

/-- Await points that differ at most in the `advanced` flag of `drive_packet`. -/
inductive PcD : Pc → Pc → Prop
  | write (a1 a2 : Bool) (o : Outer) (pkt : Flushed) (bytes : Bytes) (wr len now : Nat) :
      PcD (.stepWrite (.drive a1 o) pkt bytes wr len now) (.stepWrite (.drive a2 o) pkt bytes wr len now)
  | flush (a1 a2 : Bool) (o : Outer) (pkt : Flushed) (now : Nat) :
      PcD (.stepFlush (.drive a1 o) pkt now) (.stepFlush (.drive a2 o) pkt now)
  | same (pc : Pc) : PcD pc pc

inductive FutD : Option Pc → Option Pc → Prop
  | none : FutD none none
  | some {pa pb : Pc} : PcD pa pb → FutD (some pa) (some pb)

theorem FutD.refl (f : Option Pc) : FutD f f := by
  cases f with
  | none => exact .none
  | some pc => exact .some (.same pc)

def EqD (x y : World) : Prop := ({ x with fut := none } : World) = { y with fut := none } ∧ FutD x.fut y.fut

theorem EqD.refl (x : World) : EqD x x := ⟨rfl, FutD.refl _⟩

theorem dsfD (u : World) (a1 a2 : Bool) (o : Outer) (pkt : Flushed) (now : Nat) :
    EqD (ev (.DSF u (.drive a1 o) pkt now)) (ev (.DSF u (.drive a2 o) pkt now)) := by
  rw [ev_DSF, ev_DSF]
  cases hio : u.ioFlush with
  | mk u1 r =>
    cases r with
    | pending => exact ⟨rfl, .some (.flush a1 a2 o pkt now)⟩
    | err kk => exact EqD.refl _
    | ok =>
      simp only []
      rw [ev_SR, ev_SR]
      simp only [Bool.or_true]
      exact EqD.refl _

theorem dswD (u : World) (a1 a2 : Bool) (o : Outer) (pkt : Flushed) (bytes : Bytes) (wr len now : Nat) :
    EqD (ev (.DSW u (.drive a1 o) pkt bytes wr len now)) (ev (.DSW u (.drive a2 o) pkt bytes wr len now)) := by
  rw [ev_DSW, ev_DSW]
  cases hio : u.ioWrite (bytes.drop wr) with
  | mk u1 r =>
    cases r with
    | pending => exact ⟨rfl, .some (.write a1 a2 o pkt bytes wr len now)⟩
    | zero | err => exact EqD.refl _
    | ok count =>
      simp only []
      split
      · rw [ev_SR, ev_SR]
        simp only [Bool.or_true]
        exact EqD.refl _
      · exact dsfD _ a1 a2 o pkt now

theorem resumeD (u : World) {pa pb : Pc} (h : PcD pa pb) : EqD (ev (resumeCall u pa)) (ev (resumeCall u pb)) := by
  cases h with
  | write a1 a2 o pkt bytes wr len now => exact dswD u a1 a2 o pkt bytes wr len now
  | flush a1 a2 o pkt now => exact dsfD u a1 a2 o pkt now
  | same pc => exact EqD.refl _

/-- What `.d n` does around the machine functions. -/
def wrap (z : World) (o : List String) : World := { z.addOld o with slot := none }

/-- A POLL with I/O decision `n` of a suspended world, in terms of `ev`: the result depends on the
world only through `rest` and the future, and the old trace stays at the old end. -/
theorem exec_d_wrap (a : World) (pc : Pc) (hf : a.fut = some pc) (n : Nat) :
    a.execDirective (.d n) = wrap (ev (resumeCall { a.rest with slot := some n } pc)) a.out := by
  have F := ev_addOld (resumeCall a pc) { a.rest with slot := some n } a.out
  rw [resumeCall_setWorld, resumeCall_setWorld] at F
  rw [exec_d hf]
  exact clearSlot_congr F

@[simp] theorem wrap_fut (z : World) (o : List String) : (wrap z o).fut = z.fut := rfl
@[simp] theorem wrap_now (z : World) (o : List String) : (wrap z o).now = z.now := rfl
@[simp] theorem wrap_sess (z : World) (o : List String) : (wrap z o).sess = z.sess := rfl
@[simp] theorem wrap_lastRes (z : World) (o : List String) : (wrap z o).lastRes = z.lastRes := rfl
theorem wrap_rest (z : World) (o : List String) : (wrap z o).rest = { z.rest with slot := none } := rfl
theorem wrap_fin (z : World) (o : List String) : (wrap z o).fin = { z.fin with slot := none } := rfl
theorem fin_clearSlot {u : World} (h : u.slot = none) : ({ u.fin with slot := none } : World) = u.fin := by
  unfold World.fin World.rest; simp only []; rw [h]

/-- **Run A inside `flush_outbound` with continuation `k`, run B inside a `poll`**, suspended at
corresponding await points in the same state. -/
structure RF (k : AfterFlush) (a b : World) : Prop where
  rest : a.rest = b.rest
  good : AwaitOK a
  pcs : ∃ pa pb, a.fut = some pa ∧ b.fut = some pb ∧ PcF k a.now pa pb

inductive StepF (k : AfterFlush) (a' b' : World) : Prop
  | susp : RF k a' b' → StepF k a' b'
  | done : a'.fut = none → b'.fut = none → DoneF k a' b' → StepF k a' b'
  | handed (u0 : World) (oa : List String) : a' = wrap (ev (.AF u0 k)) oa → u0.slot = none → b'.fut = none →
      b'.lastRes = some (.ok ()) → u0.fin = b'.fin → StepF k a' b'

theorem OutF.wrap {k : AfterFlush} {x y : World} (h : OutF k x y) (ox oy : List String) : StepF k (wrap x ox) (wrap y oy) := by
  cases h with
  | susp h1 h2 h3 h4 h5 => exact .susp ⟨by rw [wrap_rest, wrap_rest, h3], ⟨h4.avail, h4.calm⟩, _, _, h1, h2, h5⟩
  | done h1 h2 h3 =>
    refine .done h1 h2 ?_
    rcases h3 with h3 | ⟨hd, h3⟩
    · exact .inl (by rw [wrap_fin, wrap_fin, h3])
    · refine .inr ⟨hd, ?_⟩
      show (Minimq.wrap x ox).fin = ({ (y.handleDisconnect).fin with slot := none } : World)
      rw [wrap_fin, h3]
  | handed u0 h1 h2 h3 h4 h5 =>
    refine .handed u0 ox (by rw [h1]) h2 h3 h4 ?_
    rw [wrap_fin, ← h5, fin_clearSlot h2]

theorem RF.step {k : AfterFlush} {a b : World} (h : RF k a b) (n : Nat) :
    StepF k (a.execDirective (.d n)) (b.execDirective (.d n)) := by
  obtain ⟨pa, pb, hfa, hfb, hpc⟩ := h.pcs
  rw [exec_d_wrap a pa hfa n, exec_d_wrap b pb hfb n, ← h.rest]
  have hg : AwaitOK ({ a.rest with slot := some n } : World) := ⟨h.good.avail, h.good.calm⟩
  cases hpc with
  | write adv pkt bytes wr len => exact (dswF k _ hg adv pkt bytes wr len).wrap _ _
  | flush adv pkt => exact (dsfF k _ hg adv pkt).wrap _ _

/-- **Run A and run B inside `drive_packet` of the same kind of operation**, suspended at the same
await point (up to the `advanced` flag) in the same state. -/
structure RD (a b : World) : Prop where
  rest : a.rest = b.rest
  pcs : ∃ pa pb, a.fut = some pa ∧ b.fut = some pb ∧ PcD pa pb

structure SameD (a a' b b' : World) : Prop where
  out : ∃ new, a'.out = new ++ a.out ∧ b'.out = new ++ b.out
  state : a'.rest = b'.rest
  fut : FutD a'.fut b'.fut

theorem RD.step {a b : World} (h : RD a b) (n : Nat) :
    SameD a (a.execDirective (.d n)) b (b.execDirective (.d n)) := by
  obtain ⟨pa, pb, hfa, hfb, hpc⟩ := h.pcs
  rw [exec_d_wrap a pa hfa n, exec_d_wrap b pb hfb n, ← h.rest]
  obtain ⟨h1, h2⟩ := resumeD ({ a.rest with slot := some n } : World) hpc
  generalize ev (resumeCall ({ a.rest with slot := some n } : World) pa) = x at h1 h2
  generalize ev (resumeCall ({ a.rest with slot := some n } : World) pb) = y at h1 h2
  have hr : x.rest = y.rest := (congrArg World.rest h1 :)
  have ho : x.out = y.out := (congrArg World.out h1 :)
  exact ⟨⟨x.out, rfl, congrArg (· ++ b.out) ho.symm⟩, by rw [wrap_rest, wrap_rest, hr], h2⟩

theorem SameD.rd {a a' b b' : World} (h : SameD a a' b b') :
    RD a' b' ∨ (a'.fut = none ∧ b'.fut = none) := by
  obtain ⟨_, hs, hf⟩ := h
  generalize ha : a'.fut = fa at hf
  generalize hb : b'.fut = fb at hf
  cases hf with
  | none => exact Or.inr ⟨rfl, rfl⟩
  | some hp =>
    left
    exact ⟨hs, _, _, ha, hb, hp⟩

def dirOf : Outer → Directive
  | .poll => .poll
  | .recv => .recv
  | .drive => .drive

theorem opStart_rest {a : World} (hf : a.fut = none) : a.opStart = a.rest.addOld a.out := by
  rw [opStart_of_idle hf]
  cases a; cases hf
  simp [World.rest, World.addOld]

theorem cancelFut_safe {a : World} {pc : Pc} (hf : a.fut = some pc) (ht : tearsPacket (some pc) = false) :
    a.cancelFut = { a.emit "cancel" with fut := none } := by
  unfold World.cancelFut World.tornAfterDrop
  rw [hf, ht]
  rfl

theorem opStart_cancel {a : World} {pc : Pc} (hf : a.fut = some pc) (ht : tearsPacket (some pc) = false) :
    a.opStart = a.rest.addOld ("cancel" :: a.out) := by
  unfold World.opStart
  rw [cancelFut_safe hf ht]
  rfl

/-- **Re-entry.** Drop a future that is not inside an operation-local write and start `poll`/`recv`/`drive` on a
live connection, when nothing is waiting to be received and no keep-alive event is due: the new operation comes
to rest (`settle`) from the state `rest`; it has no I/O decision yet, so where it comes to rest is its first I/O
call (`l` the line of the pending call, `pc'` the await point), and there it is suspended in the same state. -/
theorem reenter (a : World) (pc : Pc) (hf : a.fut = some pc) (hl : a.live = true) (hs : a.slot = none)
    (ht : tearsPacket (some pc) = false) (hg : AwaitOK a) (hp : a.sess.data.outbound.nextStep = none → a.sess.reader.Probed)
    (o : Outer) {l : String} {pc' : Pc}
    (hst : (a.rest.addOld ("cancel" :: a.out)).settle o false = ((a.rest.addOld ("cancel" :: a.out)).io l).suspend pc') :
    let b := a.execDirective (dirOf o)
    b.rest = a.rest ∧ b.fut = some pc' ∧ b.out = l :: "cancel" :: a.out := by
  intro b
  have hb : b = (a.rest.addOld ("cancel" :: a.out)).settle o false := by
    show a.execDirective (dirOf o) = _
    rw [exec_drive_settle (dirOf o) o (by cases o <;> rfl) hl hs hg.avail hp hg.calm.2 hg.calm.queuePing, opStart_cancel hf ht]
    rfl
  rw [hb, hst]
  exact ⟨by rw [rest_suspend, rest_io (by exact hs), rest_addOld]; rfl, rfl, rfl⟩

def runD (ks : List Nat) (w : World) : World := ks.foldl (fun w n => w.execDirective (.d n)) w

theorem runD_append (ks1 ks2 : List Nat) (w : World) : runD (ks1 ++ ks2) w = runD ks2 (runD ks1 w) := by
  unfold runD; rw [List.foldl_append]

theorem runD_eq_foldl (ks : List Nat) (w : World) :
    runD ks w = (ks.map Directive.d).foldl World.execDirective w := by
  unfold runD; rw [List.foldl_map]

theorem runD_idle (ks : List Nat) (w : World) (h : w.fut = none) : (runD ks w).fut = none := by
  induction ks generalizing w with
  | nil => exact h
  | cons n ks ih =>
    apply ih
    show (w.execDirective (.d n)).fut = none
    simp only [World.execDirective, h, Option.isNone_none, if_true]
    exact h

theorem SameD.trans {a a' a'' b b' b'' : World} (h1 : SameD a a' b b') (h2 : SameD a' a'' b' b'') : SameD a a'' b b'' := by
  obtain ⟨n1, e1, e2⟩ := h1.out
  obtain ⟨n2, e3, e4⟩ := h2.out
  exact ⟨⟨n2 ++ n1, by rw [e3, e1, List.append_assoc], by rw [e4, e2, List.append_assoc]⟩, h2.state, h2.fut⟩

/-- `start_vs_poll` at the level of `ev`, from a state without an I/O decision: with nothing left to send the
operation goes straight on to `k`; otherwise the two outcomes are related by `OutF`: both suspended at the I/O
call for the entry the scheduler names, or both ended before it (the step cannot be prepared). -/
theorem startF (k : AfterFlush) (X : World) (hl : X.live = true) (hs : X.slot = none) (hg : AwaitOK X) :
    (X.sess.data.outbound.nextStep = none ∧ ev (.FL X k) = ev (.AF X k)) ∨
    OutF k (ev (.FL X k)) (ev (.DE X .poll)) := by
  rw [ev_FL_idle hg.calm.queuePing, ev_DE_live hl, ev_DL_calm hg]
  cases hn : X.sess.data.outbound.nextStep with
  | none => exact Or.inl ⟨rfl, rfl⟩
  | some st => exact Or.inr (psF_none k X hs hg false st (nextStep_not_done X _ st hn))

/-- **Starting a request against starting a `poll`**, from the same idle world. `a` is what the directive of a
publish, subscribe, unsubscribe or disconnect comes to once the request has passed its local checks:
`flush_outbound` with the continuation `k` that holds the request, from the state `rest`. Either nothing is left to
send and the operation goes on to `k` from the untouched state; or the queues drain within this POLL and it goes on
to `k` from the state the `poll` ends in; or both suspend at the same I/O call (`RF k`); or both fail there. -/
theorem start_vs_poll (k : AfterFlush) (w : World) (hf : w.fut = none) (hl : w.live = true) (hs : w.slot = none)
    (hg : AwaitOK w) :
    let a := (ev (.FL w.rest k)).addOld w.out
    let b := w.execDirective .poll
    (∃ u0, a = (ev (.AF u0 k)).addOld w.out ∧
      ((u0 = w.rest ∧ w.sess.data.outbound.nextStep = none) ∨ (b.fut = none ∧ u0.fin = b.fin))) ∨
    RF k a b ∨ (a.fut = none ∧ b.fut = none ∧ DoneF k a b) := by
  intro a b
  have eb : b = (ev (.DE w.rest .poll)).addOld w.out := by
    show w.execDirective .poll = _
    rw [exec_drive (World.conn_of_live hl) .poll .poll rfl, opStart_rest hf]
    exact ev_addOld (.DE w.rest .poll) w.rest w.out
  rcases startF k w.rest hl hs ⟨hg.avail, hg.calm⟩ with ⟨hn, he⟩ | hout
  · exact Or.inl ⟨w.rest, by show (ev _).addOld _ = _; rw [he], Or.inl ⟨rfl, hn⟩⟩
  · rw [eb]
    cases hout with
    | susp h1 h2 h3 h4 h5 => exact Or.inr (Or.inl ⟨h3, ⟨h4.avail, h4.calm⟩, _, _, h1, h2, h5⟩)
    | done h1 h2 h3 => exact Or.inr (Or.inr ⟨h1, h2, h3⟩)
    | handed u0 h1 h2 h3 h4 h5 => exact Or.inl ⟨u0, by show (ev _).addOld _ = _; rw [h1], Or.inr ⟨h3, h5⟩⟩

end Minimq
