import Minimq.Proofs.Primitives
import Minimq.Proofs.Machine
import Minimq.Proofs.Nets
/-
`connect` up to its first await (C12, and the handshake part of C05): the resets at the top of
`Session::connect` leave every queue entry fresh and the handshake keeps them so; CONNECT is encoded into
exactly the scratch space and read back unaltered (`startConnect_spec`); and whatever the transport does, the
`write_all` of the handshake puts a prefix of the bytes handed in on the wire of the new transport and stays
suspended with exactly the rest (`conn_step`, a step invariant of the machine, from which `C12_write_all_progress`
follows).
-/
namespace Minimq
open Gen World Outbound

theorem beginConnect_allFresh (s : Session) : s.beginConnect.data.outbound.AllFresh := armReplay_allFresh _

/-- Between `beginConnect` and the CONNACK, the handshake only encodes CONNECT, clears the keep-alive
deadlines and feeds the reader; none of that touches the queues' send states. -/
theorem handshake_keeps_allFresh (s : Session) (h : s.data.outbound.AllFresh) :
    (∀ c, (s.encode (ε := SerErr) (fun cap _ => encodeConnect cap c)).1.data.outbound.AllFresh) ∧
    s.clearPing.data.outbound.AllFresh ∧ (∀ bytes, (s.commit bytes).data.outbound.AllFresh) ∧
    (∀ s' n, s.window = some (s', n) → s'.data.outbound.AllFresh) ∧ s.takePkt.1.data.outbound.AllFresh := by
  refine ⟨?_, h, fun _ => h, ?_, ?_⟩
  · intro c; rw [Session.encode_fst]; exact encodeAt_allFresh _ _ h
  · intro s' n hw
    obtain ⟨rd, _, rfl⟩ := Session.window_some hw
    exact h
  · rw [Session.takePkt_fst]; exact h

theorem beginConnect_arena (s : Session) (h : s.data.outbound.ArenaInv) :
    s.beginConnect.data.outbound.ArenaInv ∧ s.beginConnect.data.outbound.scratchLen = s.data.outbound.scratchLen := by
  have hd : s.data.outbound.dropPingreq.ArenaInv := ArenaInv_of_layout h rfl rfl rfl
  obtain ⟨hi, _, hm, _, hbl, _⟩ := armReplay_spec s.data.outbound.dropPingreq hd
  refine ⟨hi, ?_⟩
  show s.data.outbound.dropPingreq.armReplay.scratchLen = _
  unfold scratchLen usedAfterCompact capacity
  have : s.data.outbound.dropPingreq.armReplay.retained.map (·.len) = s.data.outbound.retained.map (·.len) := by
    have := congrArg (List.map (fun (t : Nat × Nat × Nat) => t.2.1)) hm
    simpa [List.map_map, Function.comp_def, Outbound.dropPingreq] using this
  rw [this, hbl]
  rfl

/-- For an encoder that does not read the scratch space: it is run on exactly `scratchLen` bytes
(capacity minus the retained packets); on success the bytes later read back from the arena at the
returned position are the encoder's packet. -/
theorem Session.encode_const {ε : Type} (s : Session) (f : Nat → Except ε (Nat × Bytes)) (hinv : s.data.outbound.ArenaInv)
    (he : EncOk (fun cap _ => f cap)) :
    (∀ e, f s.data.outbound.scratchLen = .error e → (s.encode (fun cap _ => f cap)).2 = .error e) ∧
    (∀ off pkt, f s.data.outbound.scratchLen = .ok (off, pkt) →
      ∃ pos, (s.encode (fun cap _ => f cap)).2 = .ok (pos, pkt.length) ∧
        (s.encode (fun cap _ => f cap)).1.data.outbound.retainedPacket pos pkt.length = pkt ∧ 0 < pkt.length) := by
  constructor
  · intro e hf
    rw [Session.encode_snd, encodeAt_eq _ _ hinv]
    simp only [hf]
  · intro off pkt hf
    obtain ⟨b1, _, b3, _, hp⟩ := encodeAt_bytes s.data.outbound _ hinv he off pkt hf
    exact ⟨_, by rw [Session.encode_snd]; exact b1, by rw [Session.encode_fst]; exact b3, hp⟩

theorem startConnect_spec (w : World) (hinv : w.sess.data.outbound.ArenaInv) :
    let s1 := w.sess.beginConnect
    let c := s1.connectPacket
    let room := w.sess.data.outbound.scratchLen
    let w2 : World := { w.connectStart with sess := (s1.encode (connEnc c)).1 }
    (∀ e, encodeConnect room c = .error e → w.startConnect = w2.finishErr "connect" (Err.ofSer e)) ∧
    (∀ off pkt, encodeConnect room c = .ok (off, pkt) → w.startConnect = doLocalWrite pollFuel w2 0 pkt ∧ 0 < pkt.length) := by
  intro s1 c room w2
  obtain ⟨hi, hsl⟩ := beginConnect_arena w.sess hinv
  have hs1 : w.connectStart.sess = s1 := (connectStart_spec w).1
  obtain ⟨e1, e2⟩ := Session.encode_const s1 (fun cap => encodeConnect cap c) hi (EncOk_encodeConnect c)
  rw [hsl] at e1 e2
  rw [startConnect_eq]
  simp only [hs1]
  unfold connEnc
  constructor
  · intro e he
    rw [e1 e he]
    rfl
  · intro off pkt he
    obtain ⟨pos, h1, h2, h3⟩ := e2 off pkt he
    refine ⟨?_, h3⟩
    rw [h1]
    simp only []
    rw [h2]
    rfl

/-- `w` has the transports of `w0`, and the current one has accepted `bs` more. -/
def Wrote (w0 w : World) (bs : Bytes) : Prop :=
  w.nets.length = w0.nets.length ∧ w.nets.dropLast = w0.nets.dropLast ∧ w.curNet.wire = w0.curNet.wire ++ bs

theorem Wrote.of_same {w0 w w' : World} {bs : Bytes} (h : Wrote w0 w bs) (h1 : w'.nets.length = w.nets.length)
    (h2 : w'.nets.dropLast = w.nets.dropLast) (h3 : w'.curNet.wire = w.curNet.wire) : Wrote w0 w' bs :=
  ⟨h1.trans h.1, h2.trans h.2.1, h3.trans h.2.2⟩

theorem Wrote.of_nets {w0 w w' : World} {bs : Bytes} (h : Wrote w0 w bs) (hn : w'.nets = w.nets) : Wrote w0 w' bs :=
  h.of_same (congrArg _ hn) (congrArg _ hn) (congrArg (fun l => (l.getLast?.getD {}).wire) hn)

theorem Wrote.nets {w0 w : World} {bs : Bytes} (h : Wrote w0 w bs) (hn : w0.nets ≠ []) : w.nets ≠ [] :=
  nets_ne_of_length hn h.1

theorem Wrote.reads {w0 w w1 : World} {bs : Bytes} {r : ReadRes} (h : Wrote w0 w bs) (hn : w0.nets ≠ [])
    (rd : Fuel.Reads w w1 r) : w1.fut = w.fut ∧ Wrote w0 w1 bs := by
  obtain @⟨s1, _, _, _, _, hio⟩ := rd
  obtain ⟨a, b, c, d⟩ := ioRead_net { w with sess := s1 } _ _ _ (h.nets hn) hio
  exact ⟨a, h.of_same b c d⟩

/-- Where CONNECT's `write_all`, its flush and the read of the CONNACK stand: nothing is suspended, and the
current transport has accepted a prefix of `bytes` — all of it once the write is over. -/
def ConnCall (w0 : World) (bytes : Bytes) : Fuel.Call → Prop
  | .DLW w which rest => which = 0 ∧ w.fut = none ∧ ∃ k, k ≤ bytes.length ∧ rest = bytes.drop k ∧ Wrote w0 w (bytes.take k)
  | .DLF w which => which = 0 ∧ w.fut = none ∧ Wrote w0 w bytes
  | .DCR w => w.fut = none ∧ Wrote w0 w bytes
  | _ => False

/-- How it ends: suspended in the write with exactly the rest, ended, or suspended behind the write. -/
def ConnDone (w0 : World) (bytes : Bytes) (r : World) : Prop :=
  ∃ k, k ≤ bytes.length ∧ Wrote w0 r (bytes.take k) ∧
    ((r.fut = some (.connWrite (bytes.drop k)) ∧ k < bytes.length) ∨ r.fut = none ∨
      (k = bytes.length ∧ (r.fut = some .connFlush ∨ r.fut = some .connRead)))

theorem ConnDone.whole {w0 r : World} {bytes : Bytes} (h : Wrote w0 r bytes)
    (hf : r.fut = none ∨ r.fut = some .connFlush ∨ r.fut = some .connRead) : ConnDone w0 bytes r :=
  ⟨bytes.length, Nat.le_refl _, by rw [List.take_length]; exact h, hf.elim (fun h => .inr (.inl h)) fun h => .inr (.inr ⟨rfl, h⟩)⟩

theorem conn_step {w0 : World} {bytes : Bytes} (hn : w0.nets ≠ []) {c : Fuel.Call} {n : Fuel.Next} (st : Fuel.Step c n)
    (h : ConnCall w0 bytes c) : n.Holds (ConnCall w0 bytes) (ConnDone w0 bytes) := by
  cases st with
  | DLW_empty he =>
    obtain ⟨rfl, hf, k, hk, e, hw⟩ := h
    have : k = bytes.length := by
      have := congrArg List.length (e.symm.trans (List.isEmpty_iff.1 he)); simp at this; omega
    subst this
    exact ⟨rfl, hf, by rw [List.take_length] at hw; exact hw⟩
  | DLW_pending he hio =>
    obtain ⟨rfl, hf, k, hk, rfl, hw⟩ := h
    obtain ⟨_, b, c, d⟩ := ioWrite_net _ _ _ _ (hw.nets hn) hio
    refine ⟨k, hk, hw.of_same b c d, .inl ⟨rfl, ?_⟩⟩
    have : (bytes.drop k).length ≠ 0 := fun h0 => by simp [List.length_eq_zero_iff.1 h0] at he
    rw [List.length_drop] at this; omega
  -- the one step that lengthens the prefix; every other I/O call hands `Wrote` on as it is
  | @DLW_part _ _ _ _ n he hio =>
    obtain ⟨rfl, hf, k, hk, rfl, hw⟩ := h
    obtain ⟨a, b, c, hle, d⟩ := ioWrite_net _ _ _ _ (hw.nets hn) hio
    rw [List.length_drop] at hle
    refine ⟨rfl, a.trans hf, k + n, by omega, by rw [List.drop_drop], b.trans hw.1, c.trans hw.2.1, ?_⟩
    rw [d, hw.2.2, List.append_assoc, List.take_add]
  | DLW_zero he hio | DLW_err he hio =>
    obtain ⟨rfl, hf, k, hk, rfl, hw⟩ := h
    obtain ⟨_, b, c, d⟩ := ioWrite_net _ _ _ _ (hw.nets hn) hio
    exact ⟨k, hk, hw.of_same b c d, .inr (.inl rfl)⟩
  | DLF_pending hio =>
    obtain ⟨rfl, hf, hw⟩ := h
    obtain ⟨_, b⟩ := ioFlush_net _ _ _ hio
    exact .whole (hw.of_nets b) (.inr (.inl rfl))
  | DLF_err hio =>
    obtain ⟨rfl, hf, hw⟩ := h
    obtain ⟨_, b⟩ := ioFlush_net _ _ _ hio
    exact .whole (hw.of_nets b) (.inl rfl)
  | DLF_conn hio =>
    obtain ⟨_, hf, hw⟩ := h
    obtain ⟨a, b⟩ := ioFlush_net _ _ _ hio
    exact ⟨a.trans hf, hw.of_nets b⟩
  | DLF_q0 => exact absurd h.1 (by decide)
  | DLF_disc _ h0 => exact absurd h.1 h0
  | DCR_packet | DCR_complete =>
    exact .whole (h.2.of_nets (connectGotPacket_net _).1) (.inl (connectGotPacket_net _).2)
  | DCR_noWindow => exact .whole h.2 (.inl rfl)
  | DCR_pending rd => obtain ⟨a, hw⟩ := h.2.reads hn rd; exact .whole hw (.inr (.inr rfl))
  | DCR_eof rd | DCR_err rd => obtain ⟨a, hw⟩ := h.2.reads hn rd; exact .whole hw (.inl rfl)
  | DCR_more rd => obtain ⟨a, hw⟩ := h.2.reads hn rd; exact ⟨a.trans h.1, hw⟩
  | _ => exact h.elim

end Minimq
