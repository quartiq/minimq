import Minimq.Proofs.OutFrame
import Minimq.Proofs.ReadMachine
/-
C15, read half: the result of reading a packet does not depend on how the read decisions cut the inbound bytes.

`readPacket ks w` is `(w.afterPacket …).addOld (io ++ w.out)`, where `afterPacket` does not mention `ks`
(`readPacket_eq`: the trace is write-only, `Proofs/OutFrame.lean`); two worlds that differ in their read lines
only (`Sim`) stay so under every directive; so programs that differ only in how each packet's reads are cut end
in such worlds (`Seg`, `Admissible`, `runSegs_sim`).
-/
namespace Minimq
open Gen World Fuel

/-- Where reading the next packet leaves the machine, with the trace started afresh: a function of
the world alone. What is in its trace is what the machine prints *after* the reads (the handling of
the packet: `msg` and `ret` lines, pending writes). -/
def World.afterPacket (W : World) (outer : Outer) (dl : Option Nat) : World :=
  W.clearOut.finalRead outer dl []

theorem withRead_eq_addOld (W : World) (rd : Reader) (rest : Bytes) (io : List String) (fut : Option Pc) :
    W.withRead rd rest io fut = (W.clearOut.withRead rd rest [] fut).addOld (io ++ W.out) := rfl

theorem finalRead_eq (W : World) (outer : Outer) (dl : Option Nat) (io : List String) :
    W.finalRead outer dl io = (W.afterPacket outer dl).addOld (io ++ W.out) := by
  unfold World.afterPacket World.finalRead
  show (match frame1 W.sess.reader.cap (W.sess.reader.data ++ W.curNet.rx) with
    | .packet pkt rest => _
    | .stop (.malformed held) => _
    | .stop (.exhausted held) => _) =
    World.addOld (match frame1 W.sess.reader.cap (W.sess.reader.data ++ W.curNet.rx) with
    | .packet pkt rest => _
    | .stop (.malformed held) => _
    | .stop (.exhausted held) => _) _
  cases frame1 W.sess.reader.cap (W.sess.reader.data ++ W.curNet.rx) with
  | packet pkt rest =>
    simp only []
    rw [withRead_eq_addOld, driveEnter_addOld]
    rfl
  | stop e => cases e <;> rfl

theorem readPacket_eq (ks : List Nat) (W : World) (outer : Outer) (dl : Option Nat) (y : Bool)
    (hfut : W.fut = some (.waitRead outer dl y)) (hdl : DeadlineOK W.now dl)
    (hwait : Waiting W.sess.reader W.curNet.rx) (hne : W.curNet.rx ≠ [])
    (hks : ∀ k ∈ ks, 1 ≤ k ∧ k ≤ 250) (hlen : W.curNet.rx.length ≤ ks.length) :
    ∃ io, IoLines W io ∧ readPacket ks W = (W.afterPacket outer dl).addOld (io ++ W.out) := by
  obtain ⟨io, hio, h⟩ := readPacket_final ks W outer dl y hfut hdl hwait hne hks hlen
  exact ⟨io, hio, by rw [h, finalRead_eq]⟩

def isReadLine (l : String) : Prop := ∃ i c : Nat, l = s!"rp {i}" ∨ l = s!"r {i} {c}"

theorem IoLines.isRead {W : World} {io : List String} (h : IoLines W io) : ∀ l ∈ io, isReadLine l := by
  intro l hl
  rcases h l hl with rfl | ⟨c, rfl⟩
  · exact ⟨W.netIdx, 0, Or.inl rfl⟩
  · exact ⟨W.netIdx, c, Or.inr rfl⟩

/-- Two traces that become equal when some read lines are deleted from each. -/
inductive OutSim : List String → List String → Prop where
  | nil : OutSim [] []
  | same (l : String) {a c : List String} : OutSim a c → OutSim (l :: a) (l :: c)
  | left (l : String) {a c : List String} : isReadLine l → OutSim a c → OutSim (l :: a) c
  | right (l : String) {a c : List String} : isReadLine l → OutSim a c → OutSim a (l :: c)

theorem OutSim.refl : ∀ a : List String, OutSim a a
  | [] => .nil
  | l :: a => .same l (OutSim.refl a)

theorem OutSim.prepend (x : List String) {a c : List String} (h : OutSim a c) : OutSim (x ++ a) (x ++ c) := by
  induction x with
  | nil => exact h
  | cons l x ih => exact .same l ih

theorem OutSim.reads {io₁ io₂ a c : List String} (h1 : ∀ l ∈ io₁, isReadLine l)
    (h2 : ∀ l ∈ io₂, isReadLine l) (h : OutSim a c) : OutSim (io₁ ++ a) (io₂ ++ c) := by
  induction io₁ with
  | cons l io₁ ih =>
    exact .left l (h1 l (by simp)) (ih (fun l' hl' => h1 l' (by simp [hl'])))
  | nil =>
    induction io₂ with
    | nil => exact h
    | cons l io₂ ih => exact .right l (h2 l (by simp)) (ih (fun l' hl' => h2 l' (by simp [hl'])))

theorem OutSim.filter {a c : List String} (h : OutSim a c) (p : String → Bool)
    (hp : ∀ l, isReadLine l → p l = false) : a.filter p = c.filter p := by
  induction h with
  | nil => rfl
  | same l _ ih => simp only [List.filter_cons, ih]
  | left l hl _ ih | right l hl _ ih => rw [List.filter_cons, hp l hl]; exact ih

structure Sim (a c : World) : Prop where
  state : a.clearOut = c.clearOut
  out : OutSim a.out c.out

theorem Sim.refl (a : World) : Sim a a := ⟨rfl, OutSim.refl _⟩

/-- Every program keeps the relation: both runs are the run from the common state with the empty trace, with
their old traces behind (the trace is write-only). -/
theorem Sim.run {a c : World} (h : Sim a c) (ds : List Directive) :
    Sim (ds.foldl World.execDirective a) (ds.foldl World.execDirective c) := by
  rw [run_clearOut ds a, run_clearOut ds c, h.state]
  exact ⟨rfl, OutSim.prepend _ h.out⟩

theorem Sim.fields {a c : World} (h : Sim a c) :
    a.sess = c.sess ∧ a.conn = c.conn ∧ a.nets = c.nets ∧ a.fut = c.fut ∧ a.now = c.now ∧
    a.slot = c.slot ∧ a.handles = c.handles ∧ a.lastIoStarved = c.lastIoStarved ∧ a.wakes = c.wakes ∧
    a.lastRes = c.lastRes ∧ a.tornNets = c.tornNets ∧ a.log = c.log := by
  have := h.state
  simp only [World.clearOut, World.mk.injEq] at this
  obtain ⟨h1, h2, h3, h4, h5, h6, h7, h8, h9, h10, _, h12, h13⟩ := this
  exact ⟨h1, h2, h3, h4, h5, h6, h7, h8, h9, h10, h12, h13⟩

def ReadsOK (w : World) (ks : List Nat) : Prop :=
  ∃ outer dl y, w.fut = some (.waitRead outer dl y) ∧ DeadlineOK w.now dl ∧
    Waiting w.sess.reader w.curNet.rx ∧ w.curNet.rx ≠ [] ∧
    (∀ k ∈ ks, 1 ≤ k ∧ k ≤ 250) ∧ w.curNet.rx.length ≤ ks.length

theorem Sim.reads {a c : World} (h : Sim a c) {ks₁ ks₂ : List Nat} (h1 : ReadsOK a ks₁)
    (hk2 : ∀ k ∈ ks₂, 1 ≤ k ∧ k ≤ 250) (hl2 : a.curNet.rx.length ≤ ks₂.length) :
    Sim (readPacket ks₁ a) (readPacket ks₂ c) := by
  obtain ⟨outer, dl, y, hfut, hdl, hwait, hne, hk1, hl1⟩ := h1
  obtain ⟨es, _, en, ef, enow, _⟩ := h.fields
  have ecur : c.curNet = a.curNet := curNet_congr en.symm
  obtain ⟨io₁, hio₁, e1⟩ := readPacket_eq ks₁ a outer dl y hfut hdl hwait hne hk1 hl1
  obtain ⟨io₂, hio₂, e2⟩ := readPacket_eq ks₂ c outer dl y (by rw [← ef]; exact hfut)
    (by rw [← enow]; exact hdl) (by rw [← es, ecur]; exact hwait) (by rw [ecur]; exact hne) hk2
    (by rw [ecur]; exact hl2)
  have eA : c.afterPacket outer dl = a.afterPacket outer dl := by
    unfold World.afterPacket; rw [h.state]
  rw [e1, e2, eA]
  refine ⟨rfl, ?_⟩
  exact OutSim.prepend _ (OutSim.reads hio₁.isRead hio₂.isRead h.out)

/-- A piece of a pair of programs: the same directive in both, or the reads of one packet cut in
two ways. -/
inductive Seg where
  | same (d : Directive)
  | reads (ks₁ ks₂ : List Nat)

/-- Run a piece: the left (`true`) or the right program. -/
def runSeg (left : Bool) (w : World) : Seg → World
  | .same d => w.execDirective d
  | .reads ks₁ ks₂ => readPacket (if left then ks₁ else ks₂) w

/-- Every `reads` piece is entered (in the left run) in a state where it reads one packet. -/
def Admissible : World → List Seg → Prop
  | _, [] => True
  | w, .same d :: segs => Admissible (w.execDirective d) segs
  | w, .reads ks₁ ks₂ :: segs =>
    ReadsOK w ks₁ ∧ (∀ k ∈ ks₂, 1 ≤ k ∧ k ≤ 250) ∧ w.curNet.rx.length ≤ ks₂.length ∧
      Admissible (readPacket ks₁ w) segs

theorem runSegs_sim : ∀ (segs : List Seg) (a c : World), Sim a c → Admissible a segs →
    Sim (segs.foldl (runSeg true) a) (segs.foldl (runSeg false) c) := by
  intro segs
  induction segs with
  | nil => intro a c h _; exact h
  | cons sg segs ih =>
    intro a c h hadm
    cases sg with
    | same d => exact ih _ _ (h.run [d]) hadm
    | reads ks₁ ks₂ =>
      obtain ⟨h1, hk2, hl2, hrest⟩ := hadm
      exact ih _ _ (h.reads h1 hk2 hl2) hrest

/-- `ReadsOK` without the reader hypothesis. -/
def ReadsOK' (w : World) (ks : List Nat) : Prop :=
  ∃ outer dl y, w.fut = some (.waitRead outer dl y) ∧ DeadlineOK w.now dl ∧ w.curNet.rx ≠ [] ∧
    (∀ k ∈ ks, 1 ≤ k ∧ k ≤ 250) ∧ w.curNet.rx.length ≤ ks.length

def readsOKb' (w : World) (ks : List Nat) : Bool :=
  (match w.fut with
   | some (.waitRead _ dl _) =>
     (match dl with
      | none => true
      | some d => decide (w.now < d))
   | _ => false) &&
  !w.curNet.rx.isEmpty && ks.all (fun k => decide (1 ≤ k) && decide (k ≤ 250)) &&
  decide (w.curNet.rx.length ≤ ks.length)

theorem readsOK'_of_b {w : World} {ks : List Nat} (h : readsOKb' w ks = true) : ReadsOK' w ks := by
  unfold readsOKb' at h
  simp only [Bool.and_eq_true, decide_eq_true_eq, Bool.not_eq_true', List.all_eq_true] at h
  obtain ⟨⟨⟨hf, hrx⟩, hks⟩, hlen⟩ := h
  split at hf
  next dl y hfut =>
    refine ⟨_, dl, y, hfut, ?_, fun h0 => (by rw [h0] at hrx; cases hrx), hks, hlen⟩
    cases dl with
    | none => trivial
    | some d => simpa [DeadlineOK] using hf
  · cases hf

/-- `readsOKb'` at a packet boundary (reader empty, room for a byte), where `Waiting_fresh` gives `Waiting`. -/
def readsOKb (w : World) (ks : List Nat) : Bool :=
  readsOKb' w ks && w.sess.reader.data.isEmpty && w.sess.reader.packetLength.isNone && decide (1 ≤ w.sess.reader.cap)

theorem readsOK_of_b {w : World} {ks : List Nat} (h : readsOKb w ks = true) : ReadsOK w ks := by
  simp only [readsOKb, Bool.and_eq_true, decide_eq_true_eq, List.isEmpty_iff, Option.isNone_iff_eq_none] at h
  obtain ⟨⟨⟨h', hd⟩, hp⟩, hc⟩ := h
  obtain ⟨outer, dl, y, hf, hdl, hne, hks, hlen⟩ := readsOK'_of_b h'
  exact ⟨outer, dl, y, hf, hdl, Waiting_fresh _ _ hd hp hc, hne, hks, hlen⟩

def admissibleb : World → List Seg → Bool
  | _, [] => true
  | w, .same d :: segs => admissibleb (w.execDirective d) segs
  | w, .reads ks₁ ks₂ :: segs =>
    readsOKb w ks₁ && ks₂.all (fun k => decide (1 ≤ k) && decide (k ≤ 250)) &&
      decide (w.curNet.rx.length ≤ ks₂.length) && admissibleb (readPacket ks₁ w) segs

theorem admissible_of_b : ∀ (segs : List Seg) (w : World), admissibleb w segs = true → Admissible w segs := by
  intro segs
  induction segs with
  | nil => intro w _; trivial
  | cons sg segs ih =>
    intro w h
    cases sg with
    | same d => exact ih _ h
    | reads ks₁ ks₂ =>
      simp only [admissibleb, Bool.and_eq_true, decide_eq_true_eq, List.all_eq_true] at h
      obtain ⟨⟨⟨h1, h2⟩, h3⟩, h4⟩ := h
      exact ⟨readsOK_of_b h1, h2, h3, ih _ h4⟩

end Minimq
