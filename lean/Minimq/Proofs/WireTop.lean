import Minimq.Proofs.Wire
import Minimq.Proofs.WireLift
/-
C01, whole machine: the wire invariant of `Proofs/WireInv.lean` from calls (`wire_call`, `Proofs/Wire.lean`) to `poll`, the directives and whole
programs (`WInv`, `exec_WInv`).
-/
namespace Minimq
open Gen World Outbound

theorem PcOK.resume {w : World} {pc : Pc} (h : PcOK w.view pc) : (Fuel.resumeCall w pc).Pre := by
  cases pc with
  | waitRead outer deadline yielded => exact ⟨h.1, h.2.2.2.1⟩
  | _ => exact h

theorem poll_post (w : World) (h : PhaseV w.view w.fut) : Post (World.poll w) :=
  Fuel.poll_ind w (fun _ => .of_phase h) (fun pc hf => wire_call _ (PcOK.resume (by rw [hf] at h; exact h)))

/-- The current transport carries the ghost mark "a packet may have been torn here". -/
def CurTorn (w : World) : Prop := w.nets.length ∈ w.tornNets

theorem cancelFut_view (w : World) : w.cancelFut.view = w.view := by
  unfold World.cancelFut; split <;> rfl

theorem PhaseV_none_cases {v : View} (h : PhaseV v none) : (v.live = true ∧ FlushPre v) ∨ (v.live = false ∧ DeadOK v) := by
  simp only [PhaseV] at h
  split at h
  · rename_i hl; exact Or.inl ⟨hl, h⟩
  · rename_i hl; exact Or.inr ⟨by simpa using hl, h⟩

/-- The await points by what the invariant says at them: between packets on a live connection; in the
handshake after the CONNECT; inside one of the three operation-local writes; at the flush of the DISCONNECT. -/
inductive PcKind (v : View) : Pc → Prop
  | flush {pc : Pc} (h : FlushPre v) (ht : tearsPacket (some pc) = false) : PcKind v pc
  | hand {pc : Pc} (h : LocalFlushPre v 0) (ht : tearsPacket (some pc) = false) : PcKind v pc
  | write {pc : Pc} (which : Nat) (bytes : Bytes) (h : LocalPre v which bytes) (ht : tearsPacket (some pc) = true)
      (hpc : (which = 0 ∧ pc = .connWrite bytes) ∨ (which ≠ 0 ∧ (pc = .q0Write bytes ∨ pc = .discWrite bytes))) : PcKind v pc
  | disc (h : DiscFlushPre v) : PcKind v .discFlush

theorem PcOK.kind {v : View} {pc : Pc} (h : PcOK v pc) : PcKind v pc := by
  cases pc with
  | stepWrite | stepFlush => obtain ⟨step, hp, _⟩ := h; exact .flush hp.flushPre rfl
  | connWrite bytes => exact .write 0 bytes h rfl (.inl ⟨rfl, rfl⟩)
  | connFlush => exact .hand h rfl
  | connRead => exact .hand h rfl
  | q0Write bytes => exact .write 1 bytes h rfl (.inr ⟨by decide, .inl rfl⟩)
  | q0Flush => exact .flush (LocalFlushPre.flushPre h (by decide)) rfl
  | discWrite bytes => exact .write 2 bytes h rfl (.inr ⟨by decide, .inr rfl⟩)
  | discFlush => exact .disc h
  | waitRead outer deadline yielded => exact .flush (h.1.1.flushPre h.2.1) rfl

theorem PhaseV_pfx {v : View} {fut : Option Pc} (h : PhaseV v fut) : DeadOK v := by
  cases fut with
  | none => exact (PhaseV_none_cases h).elim (fun hf => hf.2.pfx) fun hp => hp.2
  | some pc =>
    cases PcOK.kind h with
    | flush h => exact h.pfx
    | hand h => exact h.pfx
    | write _ _ h => exact h.pfx
    | disc h => exact h.2.2.1

/-- Dropping a future that is not inside an operation-local write leaves the invariant intact: the
queue entry it was working on records exactly how much of its packet is on the wire. -/
theorem cancel_phase {v : View} {fut : Option Pc} (h : PhaseV v fut) (hnt : tearsPacket fut = false) : PhaseV v none := by
  cases fut with
  | none => exact h
  | some pc =>
    cases PcOK.kind h with
    | flush h => exact .live h
    | hand h => exact .dead h.hand.dead h.pfx
    | write _ _ _ ht => rw [ht] at hnt; cases hnt
    | disc h => exact .dead h.2.1 h.2.2.1

theorem PhaseV_net {v : View} {pc : Pc} (h : PhaseV v (some pc)) : v.net = true := by
  cases PcOK.kind h with
  | flush h => obtain ⟨_, hl, _⟩ := h; exact hl.net
  | hand h => exact h.1
  | write _ _ h => exact h.1
  | disc h => exact h.1

theorem cancel_cases (w : World) (h : PhaseV w.view w.fut) :
    (w.nets ≠ [] ∧ CurTorn w.cancelFut) ∨ PhaseV w.cancelFut.view w.cancelFut.fut := by
  by_cases ht : tearsPacket w.fut = true
  · left
    have hnet : w.nets ≠ [] := by
      cases hf : w.fut with
      | none => rw [hf] at ht; cases ht
      | some pc => rw [hf] at h; exact nets_ne_of_view (PhaseV_net h)
    refine ⟨hnet, ?_⟩
    unfold CurTorn
    rw [cancelFut_nets, cancelFut_tornNets, if_pos ht]
    exact List.mem_cons_self
  · right
    rw [cancelFut_view, cancelFut_fut']
    exact cancel_phase h (by simpa using ht)

/-- The body of an operation is built from the machine functions: it preserves every stable predicate. -/
def Stab (body : World → World) : Prop := ∀ (Q : World → Prop), WStable Q → ∀ w', Q w' → Q (body w')

theorem CurTorn_of_stab {body : World → World} (hst : Stab body) (w : World) (hn : w.nets ≠ []) (h : CurTorn w) :
    CurTorn (body w) := by
  obtain ⟨_, h2, _, h4, _⟩ := hst _ (wstable_frame w) w (Frame.refl hn)
  unfold CurTorn
  rw [h2]; exact h4 _ h

/-- An operation's body run in `opStart`: the invariant is kept, or the future dropped was inside an
operation-local write (ghost mark). -/
theorem opStart_post (w : World) (body : World → World) (hst : Stab body) (h : PhaseV w.view w.fut)
    (hbody : PhaseV w.opStart.view none → Post (body w.opStart)) : CurTorn (body w.opStart) ∨ Post (body w.opStart) := by
  rcases cancel_cases w h with ⟨hn, ht⟩ | hp
  · exact .inl (CurTorn_of_stab hst w.opStart (by show w.cancelFut.nets ≠ []; rw [cancelFut_nets]; exact hn) ht)
  · rw [cancelFut_fut'] at hp
    exact .inr (hbody hp)

theorem stab_finishErr (n : String) (e : Err) : Stab (fun w => w.finishErr n e) := fun _ hq _ h => hq.finishErr _ _ _ h

theorem stab_flush (k : AfterFlush) : Stab (fun w => flushLoop pollFuel w k) := fun _ hq _ h => hq.call pollFuel (.FL _ k) h

theorem stab_drive (o : Outer) : Stab (fun w => driveEnter pollFuel w o) := by
  intro Q hq w' h
  exact hq.call pollFuel (.DE _ o) h

theorem flushOp_post (w : World) (k : AfterFlush) (h : PhaseV w.view none) (hl : w.live = true) :
    Post (flushLoop pollFuel w k) := by
  rcases PhaseV_none_cases h with ⟨_, hf⟩ | ⟨hd, _⟩
  · exact wire_call (.FL w k) hf
  · rw [view_live, hl] at hd; cases hd

theorem driveOp_post (w : World) (o : Outer) (h : PhaseV w.view none) : Post (driveEnter pollFuel w o) := by
  rcases PhaseV_none_cases h with ⟨_, hf⟩ | ⟨hd, hp⟩
  · exact wire_call (.DE w o) hf.drive
  · rw [driveEnter_dead w o (by rw [← view_live]; exact hd)]
    exact .of_phase h

theorem view_rx (w : World) (bytes : Bytes) (hn : w.nets ≠ []) :
    (w.setCurNet { w.curNet with rx := w.curNet.rx ++ bytes }).view = w.view := by
  obtain ⟨s1, s2, _, _⟩ := setCurNet_spec w { w.curNet with rx := w.curNet.rx ++ bytes } hn
  have hlog : (w.setCurNet { w.curNet with rx := w.curNet.rx ++ bytes }).log = w.log := rfl
  simp only [World.view, World.curLog, s1, s2, hlog, isEmpty_of_length s1]
  rfl

theorem FlushPre.setPid {v : View} (h : FlushPre v) (n : Nat) (h1 : 1 ≤ n) (h2 : n ≤ 65535) :
    FlushPre { v with sess := v.sess.setPid n } := by
  obtain ⟨part, hl, ho, ha⟩ := h
  exact ⟨part, hl.same (Prim.setPid _ _ h1 h2) rfl rfl rfl rfl, ho, ha⟩

theorem dropConn_eq (w : World) :
    w.dropConn = if w.cancelFut.conn.isSome then { (w.cancelFut.emit "drop") with conn := none } else w.cancelFut := rfl

theorem dropConn_tornNets (w : World) : w.dropConn.tornNets = w.cancelFut.tornNets := by
  rw [dropConn_eq]; split <;> rfl

theorem connectStart_log (w : World) : w.connectStart.log = w.log := by
  unfold World.connectStart World.dropConn World.cancelFut
  simp only []
  split <;> split <;> rfl

/-- The handshake from its first write on: a world without connection handle whose current transport is
fresh, with every queue entry waiting for its first byte; `p` is what encoding the CONNECT gave. -/
theorem handshake_post (w1 : World) (hsp : SP w1.sess) (hfresh : w1.sess.data.outbound.AllFresh) (hconn : w1.conn = none)
    (hnet : w1.nets ≠ []) (hwire : w1.curNet.wire = []) (hlog : w1.curLog = []) {p : Session × Except SerErr (Nat × Nat)}
    (he : w1.sess.encode (connEnc w1.sess.connectPacket) = p) :
    Post (match (generalizing := false) p.2 with
      | .error e => ({ w1 with sess := p.1 } : World).finishErr "connect" (Err.ofSer e)
      | .ok (off, len) => doLocalWrite pollFuel { w1 with sess := p.1 } 0 (p.1.data.outbound.retainedPacket off len)) := by
  have hE : EncOk (connEnc w1.sess.connectPacket) := EncOk_encodeConnect _
  have hv : ∀ S : Session, ({ w1 with sess := S } : World).view =
      { sess := S, conn := none, net := true, wire := [], ord := w1.nets.length, log := [] } := by
    intro S
    show View.mk S w1.conn (!w1.nets.isEmpty) w1.curNet.wire w1.nets.length w1.curLog = _
    rw [hconn, hwire, hlog, List.isEmpty_eq_false_iff.2 hnet]; rfl
  split
  · exact Post.dead_finishErr _ _ (by rw [hv]; rfl) (by rw [hv]; exact ⟨Pfx.nil, LogSorted.nil⟩)
  · rename_i off len hres
    refine wire_call (.DLW _ 0 _) ?_
    show LocalPre (World.view _) 0 _
    rw [hv]
    subst he
    have hfr := encode_packet_framed w1.sess _ hsp.arena hE hres
    have hcc := encode_packet_typ w1.sess _ hsp.arena hE (EncTyp_encodeWithOffset _ MT_Connect FLAGS_Connect (by decide)) hres
    have hfresh2 := (handshake_keeps_allFresh _ hfresh).1 w1.sess.connectPacket
    exact ⟨rfl, closed_SP.encodeConnect _ _ hsp, hfresh2.quiet,
      Or.inl ⟨rfl, ⟨rfl, rfl, hfresh2⟩, by simpa using hfr, by rw [List.nil_append]; exact hcc⟩⟩

/-- `connect` up to its first return: the new transport satisfies the invariant whatever came before. -/
theorem startConnect_post (w : World) (hsp : SP w.sess) (hlb : ∀ f ∈ w.log, f.net ≤ w.nets.length) : Post w.startConnect := by
  have hc := connectStart_spec w
  have hlog : w.connectStart.curLog = [] := by
    unfold World.curLog
    rw [connectStart_log, hc.2.1, List.filter_eq_nil_iff]
    intro f hf
    have := hlb f hf
    simp only [List.length_append, List.length_cons, List.length_nil, beq_iff_eq]
    omega
  rw [startConnect_eq]
  simp only []
  generalize he : w.connectStart.sess.encode (connEnc w.connectStart.sess.connectPacket) = p
  exact handshake_post w.connectStart (by rw [hc.1]; exact closed_SP.beginConnect _ hsp)
    (by rw [hc.1]; exact beginConnect_allFresh _) hc.2.2.2.2.2.1 (by rw [hc.2.1]; simp) hc.2.2.1 hlog he

/-- One directive: the invariant is kept, or the future dropped was inside an operation-local write
(ghost mark). -/
theorem exec_phase (w : World) (d : Directive) (hsp : SP w.sess) (hlb : ∀ f ∈ w.log, f.net ≤ w.nets.length)
    (h : PhaseV w.view w.fut) : CurTorn (w.execDirective d) ∨ Post (w.execDirective d) := by
  refine execDirective_ind (P := fun r => CurTorn r ∨ Post r) w d fun r ho => ?_
  cases ho with
  | badOp => exact .inr (.of_phase h)
  | decode bs => exact .inr (.of_phase h)
  | connect => exact .inr (startConnect_post w hsp hlb)
  | noConn name hc => exact .inr (.of_phase h)
  | dead k hd hc hl hk => exact opStart_post w _ (stab_finishErr _ _) h (Post.finishErr _ _)
  | discDead hc hl => exact opStart_post w (fun w => w.finish _) (fun _ hq _ hw => hq.finish _ _ hw) h (Post.finish _)
  | invalid k hd hc hl => exact opStart_post w _ (stab_finishErr _ _) h (Post.finishErr _ _)
  | request k hd hc hl => exact opStart_post w _ (stab_flush k) h fun hp => flushOp_post _ k hp hl
  | drive o hd hc => exact opStart_post w _ (stab_drive o) h fun hp => driveOp_post _ o hp
  | decision n hf => exact .inr ((poll_post { w with slot := some n } h).congr rfl rfl)
  | go hf =>
    exact .inr (goLoop_ind (P := Post) (fun w h => (poll_post { w with slot := some 250 } h.phase).congr rfl rfl)
      (fun _ h => h.congr rfl rfl) _ w (.of_phase h))
  | tick us hf => exact .inr (poll_post { w with now := w.now + us } h)
  | tickIdle us => exact .inr (.of_phase h)
  | rx bytes hn =>
    refine .inr (.of_phase ?_)
    show PhaseV (w.setCurNet { w.curNet with rx := w.curNet.rx ++ bytes }).view w.fut
    rw [view_rx w bytes (by simpa using hn)]; exact h
  | cancel =>
    rcases cancel_cases w h with ⟨_, ht⟩ | hp
    · exact .inl ht
    · exact .inr (.of_phase hp)
  | drop =>
    rw [dropConn_eq]
    rcases cancel_cases w h with ⟨_, ht⟩ | hp
    · exact .inl (ite_ind (P := CurTorn) (fun _ => ht) (fun _ => ht))
    · rw [cancelFut_fut'] at hp
      refine .inr (ite_ind (P := Post) (fun _ => .of_phase ?_) (fun _ => .of_phase ?_))
      · show PhaseV { w.cancelFut.view with conn := none } w.cancelFut.fut
        rw [cancelFut_fut']
        have hpf : DeadOK w.cancelFut.view := PhaseV_pfx hp
        exact PhaseV.dead rfl hpf
      · rw [cancelFut_fut']; exact hp
  | setpid n hf h1 h2 =>
    refine .inr (.of_phase ?_)
    show PhaseV { w.view with sess := w.sess.setPid n } w.fut
    rw [hf] at h ⊢
    rcases PhaseV_none_cases h with ⟨_, hfl⟩ | ⟨hdead, hp⟩
    · exact PhaseV.live (hfl.setPid n h1 h2)
    · exact PhaseV.dead hdead hp

/-- Before the first `connect` nothing can run. -/
theorem exec_netless (w : World) (d : Directive) (hd : d ≠ .connect) (hn : w.nets = []) (hc : w.conn = none) (hf : w.fut = none) :
    (w.execDirective d).nets = [] ∧ (w.execDirective d).conn = none ∧ (w.execDirective d).fut = none ∧
    (w.execDirective d).tornNets = w.tornNets ∧ (w.execDirective d).log = w.log := by
  cases d with
  | connect => exact (hd rfl).elim
  | tick us =>
    simp only [World.execDirective]
    split
    · exact ⟨hn, hc, hf, rfl, rfl⟩
    · rw [if_neg (by simp [hf])]
      exact ⟨hn, hc, hf, rfl, rfl⟩
  | setpid n =>
    simp only [World.execDirective]
    split <;> exact ⟨hn, hc, hf, rfl, rfl⟩
  | _ =>
    simp [World.execDirective, World.startOp, World.cancelFut, World.dropConn, World.emit, hc, hf, hn]

/-- The invariant of whole executions. Transports are numbered from 1 in `tornNets` and in the log (`f.net`):
`nets[i]` has ordinal `i + 1`, the current one `nets.length`. `old`: every transport that is no longer current,
and was never marked torn, carries whole packets and possibly the beginning of one more; `cur`: the current
transport is marked torn or satisfies the per-await-point invariant; `sp`: the session's part; `netless`,
`tornBound`, `logBound`: nothing refers to a transport that does not exist. -/
structure WInv (w : World) : Prop where
  sp : SP w.sess
  netless : w.nets = [] → w.conn = none ∧ w.fut = none ∧ w.log = []
  tornBound : ∀ i ∈ w.tornNets, i ≤ w.nets.length
  old : ∀ i net, i + 1 < w.nets.length → w.nets[i]? = some net → (i + 1) ∉ w.tornNets → Pfx net.wire
  cur : CurTorn w ∨ PhaseV w.view w.fut
  logBound : ∀ f ∈ w.log, f.net ≤ w.nets.length
  /-- On every earlier transport that is not marked torn, no retained packet and no PUBREL went out
  twice, and they went out in serial order. -/
  oldLog : ∀ k, 1 ≤ k → k < w.nets.length → k ∉ w.tornNets → LogSorted (w.log.filter (fun f => f.net == k))

theorem WInv_init (cfg : Cfg) : WInv { sess := Session.new cfg } where
  sp := SP_new cfg
  netless := fun _ => ⟨rfl, rfl, rfl⟩
  tornBound := by intro i hi; simp at hi
  old := by intro i net hi; simp at hi
  cur := Or.inr (PhaseV.dead rfl ⟨Pfx.nil, LogSorted.nil⟩)
  logBound := by intro f hf; simp at hf
  oldLog := by intro k _ hk; simp at hk

theorem WInv.phase {w : World} (h : WInv w) (hnt : w.nets.length ∉ w.tornNets) : PhaseV w.view w.fut :=
  h.cur.resolve_left hnt

theorem getElem?_of_dropLast_eq {l l' : List Net} (hl : l'.length = l.length) (hd : l'.dropLast = l.dropLast) (i : Nat)
    (hi : i + 1 < l.length) : l'[i]? = l[i]? := by
  have h1 := List.getElem?_dropLast (xs := l') (i := i)
  have h2 := List.getElem?_dropLast (xs := l) (i := i)
  rw [if_pos (by omega)] at h1 h2
  rw [← h1, ← h2, hd]

theorem curNet_of_last (w : World) (i : Nat) (net : Net) (hi : i + 1 = w.nets.length) (hg : w.nets[i]? = some net) :
    w.curNet = net := by
  unfold World.curNet
  rw [List.getLast?_eq_getElem?]
  have : w.nets.length - 1 = i := by omega
  rw [this, hg]; rfl

/-- What one directive does to the transports, the torn marks and the log. -/
structure DFrame (w : World) (d : Directive) (r : World) : Prop where
  lenC : d = .connect → r.nets.length = w.nets.length + 1
  lenN : d ≠ .connect → r.nets.length = w.nets.length
  older : ∀ i, i + 1 < r.nets.length → r.nets[i]? = w.nets[i]?
  torn : ∀ i ∈ w.tornNets, i ∈ r.tornNets
  tornNew : ∀ i ∈ r.tornNets, i ∈ w.tornNets ∨ i = w.nets.length
  log : ∃ l, r.log = w.log ++ l ∧ ∀ f ∈ l, f.net = r.nets.length
  netless : r.nets = [] → r.conn = none ∧ r.fut = none ∧ r.log = w.log

theorem exec_dframe (w : World) (d : Directive) (hnl : w.nets = [] → w.conn = none ∧ w.fut = none) :
    DFrame w d (w.execDirective d) := by
  by_cases hd : d = .connect
  · subst hd
    show DFrame w .connect w.startConnect
    obtain ⟨_, f2, f3, _, _, l, e, hl⟩ : Frame { w.dropConn with nets := w.dropConn.nets ++ [({ } : Net)] } w.startConnect :=
      wstartConnect (wstable_frame _) w (Frame.refl (by simp))
    have ht : w.startConnect.tornNets = w.cancelFut.tornNets :=
      (wstartConnect (wstable_tornEq _) w rfl).trans (dropConn_tornNets w)
    obtain ⟨t1, t2⟩ := cancel_torn w
    have hlen : w.startConnect.nets.length = w.nets.length + 1 := by rw [f2]; simp [dropConn_nets]
    have hdl : w.startConnect.nets.dropLast = w.nets := by rw [f3]; simp [dropConn_nets]
    have hlog : w.dropConn.log = w.log := by rw [dropConn_eq]; split <;> exact cancelFut_log w
    refine ⟨fun _ => hlen, fun hd => absurd rfl hd, fun i hi => ?_, fun i hi => by rw [ht]; exact t1 i hi, fun i hi => t2 i (by rw [← ht]; exact hi), ?_,
      fun h0 => by rw [h0] at hlen; simp at hlen⟩
    · have h1 := List.getElem?_dropLast (xs := w.startConnect.nets) (i := i)
      rw [if_pos (by omega), hdl] at h1
      exact h1.symm
    · exact ⟨l, e.trans (by rw [← hlog]), fun f hm => (hl f hm).trans f2.symm⟩
  · by_cases hn : w.nets = []
    · obtain ⟨e1, e2, e3, e4, e5⟩ := exec_netless w d hd hn (hnl hn).1 (hnl hn).2
      exact ⟨fun h => absurd h hd, fun _ => by rw [e1, hn], fun i hi => by rw [e1] at hi; simp at hi, fun i hi => e4 ▸ hi,
        fun i hi => .inl (e4 ▸ hi), ⟨[], by rw [e5, List.append_nil], nofun⟩, fun _ => ⟨e2, e3, e5⟩⟩
    · obtain ⟨g1, g2, g3, g4, g5, g6⟩ : Frame w (w.execDirective d) :=
        wexec_noconnect (wstable_frame w) w (frame_cancel w w) (fun _ _ h => h) d (fun he => hd he) (Frame.refl hn)
      exact ⟨fun h => absurd h hd, fun _ => g2, fun i hi => getElem?_of_dropLast_eq g2 g3 i (g2 ▸ hi), g4, g5,
        by rw [g2]; exact g6, fun h0 => absurd h0 g1⟩

theorem WInv.all_wires {w : World} (h : WInv w) (i : Nat) (net : Net) (hg : w.nets[i]? = some net)
    (hnt : (i + 1) ∉ w.tornNets) : Pfx net.wire := by
  have hlt : i < w.nets.length := by
    rcases Nat.lt_or_ge i w.nets.length with h1 | h1
    · exact h1
    · rw [List.getElem?_eq_none h1] at hg; cases hg
  by_cases hlast : i + 1 < w.nets.length
  · exact h.old i net hlast hg hnt
  · have heq : i + 1 = w.nets.length := by omega
    rw [← curNet_of_last w i net heq hg]
    exact (PhaseV_pfx (h.phase (heq ▸ hnt))).1

theorem WInv.log_sorted {w : World} (h : WInv w) (k : Nat) (hk1 : 1 ≤ k) (hk : k ≤ w.nets.length) (hnt : k ∉ w.tornNets) :
    LogSorted (w.log.filter (fun f => f.net == k)) := by
  by_cases hlt : k < w.nets.length
  · exact h.oldLog k hk1 hlt hnt
  · have heq : k = w.nets.length := by omega
    subst heq
    exact (PhaseV_pfx (h.phase hnt)).2

theorem exec_WInv (w : World) (d : Directive) (h : WInv w) : WInv (w.execDirective d) := by
  have hf := exec_dframe w d (fun hn => ⟨(h.netless hn).1, (h.netless hn).2.1⟩)
  obtain ⟨l, hl, hnet⟩ := hf.log
  have hlen : (w.execDirective d).nets.length = w.nets.length ∨ (w.execDirective d).nets.length = w.nets.length + 1 :=
    Classical.byCases (fun hd : d = .connect => .inr (hf.lenC hd)) (fun hd => .inl (hf.lenN hd))
  have hle : w.nets.length ≤ (w.execDirective d).nets.length := by omega
  refine ⟨execDirective_inv closed_SP w d h.sp, fun h0 => ?_, fun i hi => ?_, fun i net hi hg hnt => ?_, ?_, fun f hm => ?_,
    fun k hk1 hk hnt => ?_⟩
  · have hw : w.nets = [] := List.eq_nil_of_length_eq_zero (by rw [h0] at hle; exact Nat.le_zero.mp hle)
    obtain ⟨e2, e3, e5⟩ := hf.netless h0
    exact ⟨e2, e3, e5.trans (h.netless hw).2.2⟩
  · rcases hf.tornNew i hi with hm | rfl
    · exact Nat.le_trans (h.tornBound i hm) hle
    · exact hle
  · rw [hf.older i hi] at hg
    exact h.all_wires i net hg (fun hm => hnt (hf.torn _ hm))
  · by_cases hd : d = .connect
    · subst hd
      exact (Or.inr (startConnect_post w h.sp h.logBound) : CurTorn w.startConnect ∨ _).imp_right Post.phase
    · rcases h.cur with ht | hp
      · left
        unfold CurTorn
        rw [hf.lenN hd]; exact hf.torn _ ht
      · exact (exec_phase w d h.sp h.logBound hp).imp_right Post.phase
  · rw [hl] at hm
    rcases List.mem_append.mp hm with hm | hm
    · exact Nat.le_trans (h.logBound f hm) hle
    · exact Nat.le_of_eq (hnet f hm)
  · have hl0 : l.filter (fun f => f.net == k) = [] :=
      List.filter_eq_nil_iff.2 (fun f hm => by rw [hnet f hm]; simp; omega)
    rw [hl, List.filter_append, hl0, List.append_nil]
    exact h.log_sorted k hk1 (by omega) (fun hm => hnt (hf.torn _ hm))

theorem Quiesce.Produced.winv {W : World} (h : Quiesce.Produced W) : WInv W := h.ind WInv_init exec_WInv

theorem WireIs.unpack {lim : Option Nat} {wire part : Bytes} {logb : List Bytes} (h : WireIs lim wire logb part) :
    ∃ frames : List Bytes, wire = frames.flatten ++ part ∧ (∀ f ∈ frames, Framed f) ∧ (∀ f ∈ frames.head?, IsConnect f) ∧
      (∀ f ∈ frames.drop 1, Fits lim f.length) ∧ frames ≠ [] ∧ logb.Sublist (frames.drop 1) := by
  obtain ⟨c, fs, hc, hcc, hf, hl, hw⟩ := h
  refine ⟨c :: fs, by simp [hw], ?_, by simpa using hcc, fun f hm => (hf f (by simpa using hm)).2, by simp, by simpa using hl⟩
  intro f hm
  rcases List.mem_cons.mp hm with rfl | hm
  · exact hc
  · exact (hf f hm).1

def Outbound.NoPartial (o : Outbound) : Prop :=
  ∀ n, (∀ e ∈ o.control, e.state ≠ .write (n + 1)) ∧ (∀ e ∈ o.release, e.state ≠ .write (n + 1)) ∧
    (∀ e ∈ o.retained, e.state ≠ .write (n + 1))

def Outbound.NoneInProgress (o : Outbound) : Prop :=
  (∀ e ∈ o.control, e.state.isInProgress = false) ∧ (∀ e ∈ o.release, e.state.isInProgress = false) ∧
    (∀ e ∈ o.retained, e.state.isInProgress = false)

/-- Exactly one entry of the three outbound queues is in progress: `n + 1` bytes of its packet `bytes`
have been written (an owed acknowledgement / PINGREQ and a PUBREL are encoded afresh from the entry, a
retained packet lies in the arena), and every other entry is neither partially written nor waiting for
its flush. -/
inductive Outbound.OnePartial (o : Outbound) (n : Nat) (bytes : Bytes) : Prop
  | control (pre post : List PendingControl) (e : PendingControl) (h : o.control = pre ++ e :: post)
      (hst : e.state = .write (n + 1)) (hb : encodeControl e.action = .ok bytes)
      (hoth : ∀ x ∈ pre ++ post, x.state.isInProgress = false)
      (hrel : ∀ x ∈ o.release, x.state.isInProgress = false) (hret : ∀ x ∈ o.retained, x.state.isInProgress = false)
  | release (pre post : List PendingRelease) (e : PendingRelease) (h : o.release = pre ++ e :: post)
      (hst : e.state = .write (n + 1)) (hb : encodePubrel e.id e.rc = .ok bytes)
      (hoth : ∀ x ∈ pre ++ post, x.state.isInProgress = false)
      (hctl : ∀ x ∈ o.control, x.state.isInProgress = false) (hret : ∀ x ∈ o.retained, x.state.isInProgress = false)
  | retained (pre post : List RetainedPacket) (e : RetainedPacket) (h : o.retained = pre ++ e :: post)
      (hst : e.state = .write (n + 1)) (hb : bytes = slice o.buf e.offset e.len)
      (hoth : ∀ x ∈ pre ++ post, x.state.isInProgress = false)
      (hctl : ∀ x ∈ o.control, x.state.isInProgress = false) (hrel : ∀ x ∈ o.release, x.state.isInProgress = false)

theorem Outbound.Quiet.noneInProgress {o : Outbound} (h : o.Quiet) : o.NoneInProgress :=
  ⟨fun e he => fresh_not_inProgress _ (h.control e he), h.release, h.retained⟩

theorem not_partial_of_not_inProgress {st : SendState} (h : st.isInProgress = false) (n : Nat) : st ≠ .write (n + 1) := by
  intro hs; rw [hs] at h; simp [SendState.isInProgress] at h

theorem Outbound.NoneInProgress.noPartial {o : Outbound} (h : o.NoneInProgress) : o.NoPartial :=
  fun n => ⟨fun e he => not_partial_of_not_inProgress (h.1 e he) n, fun e he => not_partial_of_not_inProgress (h.2.1 e he) n,
    fun e he => not_partial_of_not_inProgress (h.2.2 e he) n⟩

theorem Outbound.Slot.noPartial {o : Outbound} {step : Outbound.Step} (h : o.Slot step) (hst : step.state = .flush) : o.NoPartial := by
  intro n
  obtain ⟨h1, h2, h3⟩ := h.others
  have hcur : ∀ s : SendState, s = step.state → s ≠ .write (n + 1) := by intro s e1 e2; rw [e1, hst] at e2; cases e2
  exact ⟨fun e he => (h1 e he).elim (fun e1 e2 => by rw [e1] at e2; cases e2) (hcur _),
    fun e he => (h2 e he).elim (not_partial_of_not_inProgress · n) (hcur _),
    fun e he => (h3 e he).elim (not_partial_of_not_inProgress · n) (hcur _)⟩

theorem Outbound.Slot.onePartial {o : Outbound} {step : Outbound.Step} {n : Nat} {bytes : Bytes} (h : o.Slot step)
    (hst : step.state = .write (n + 1)) (hb : o.StepBytes step bytes) : o.OnePartial n bytes := by
  cases h with
  | control a st rest hc hrest hrel hret =>
    simp only [Outbound.Step.state] at hst
    exact .control [] rest ⟨a, st⟩ (by simpa using hc) hst hb
      (fun x hx => fresh_not_inProgress _ (hrest x (by simpa using hx))) hrel hret
  | release pre id rc st rs ps post hr hpre hpost hctl hret =>
    simp only [Outbound.Step.state] at hst
    exact .release pre post ⟨id, rc, st, rs, ps⟩ hr hst hb (List.forall_mem_append.mpr ⟨fun x hx => (hpre x hx).2, hpost⟩)
      (fun x hx => fresh_not_inProgress _ (hctl x hx)) hret
  | retained pre e post hr hpre hpost hctl hrel =>
    simp only [Outbound.Step.state] at hst
    exact .retained pre post e hr hst hb.1 (List.forall_mem_append.mpr ⟨fun x hx => (hpre x hx).2, hpost⟩)
      (fun x hx => fresh_not_inProgress _ (hctl x hx)) hrel

/-- What the invariant says about the wire of the current transport while the connection is live or
the handshake is running; the last conjunct accounts for `part`: nothing in progress, the one entry in
progress, or the suspended operation-local write. -/
def WireFacts (v : View) (fut : Option Pc) : Prop :=
  ∃ (frames : List Bytes) (part : Bytes), v.wire = frames.flatten ++ part ∧ (∀ f ∈ frames, Framed f) ∧
    (∀ f ∈ frames.head?, IsConnect f) ∧ (∀ f ∈ frames.drop 1, Fits v.lim f.length) ∧ (v.live = true → frames ≠ []) ∧
    ((part = [] ∧ tearsPacket fut = false ∧ v.o.NoPartial) ∨
     (∃ n bytes, part = bytes.take (n + 1) ∧ n + 1 < bytes.length ∧ Framed bytes ∧ Fits v.lim bytes.length ∧
        tearsPacket fut = false ∧ v.o.OnePartial n bytes) ∨
     (∃ rest, (fut = some (.connWrite rest) ∨ fut = some (.q0Write rest) ∨ fut = some (.discWrite rest)) ∧
        Framed (part ++ rest) ∧ v.o.NoneInProgress ∧ (v.live = true → Fits v.lim (part ++ rest).length) ∧
        (fut = some (.connWrite rest) → IsConnect (part ++ rest) ∧ frames = [])))

theorem FlushPre.wireFacts {v : View} {fut : Option Pc} (hf : tearsPacket fut = false) (h : FlushPre v) : WireFacts v fut := by
  obtain ⟨part, hl, ho, _⟩ := h
  obtain ⟨frames, e1, e2, e3, e4, e5, _⟩ := hl.wire.unpack
  refine ⟨frames, part, e1, e2, e3, e4, fun _ => e5, ?_⟩
  cases ho with
  | quiet hq => exact .inl ⟨rfl, hf, hq.noneInProgress.noPartial⟩
  | flushing step hs hst => exact .inl ⟨rfl, hf, hs.noPartial hst⟩
  | writing step n bytes hs hst hb hn hfb hok => exact .inr (.inl ⟨n, bytes, rfl, hn, hfb, hok, hf, hs.onePartial hst hb⟩)

theorem PhaseV_wire {v : View} {fut : Option Pc} (h : PhaseV v fut)
    (hact : v.live = true ∨ (v.conn = none ∧ fut.isSome = true)) : WireFacts v fut := by
  cases fut with
  | none =>
    rcases PhaseV_none_cases h with ⟨_, hf⟩ | ⟨hd, _⟩
    · exact hf.wireFacts rfl
    · rcases hact with hl | ⟨_, hs⟩
      · rw [hl] at hd; cases hd
      · cases hs
  | some pc =>
    cases PcOK.kind h with
    | flush hf ht => exact hf.wireFacts ht
    | hand hh ht =>
      -- the handshake after the CONNECT: the wire is the CONNECT
      obtain ⟨_, _, hq, h4⟩ := hh
      rcases h4 with ⟨_, hc, hfr, hcc⟩ | ⟨h0, _⟩
      · exact ⟨[v.wire], [], by simp, by simpa using hfr, by simpa using hcc, by simp, fun _ => by simp,
          .inl ⟨rfl, ht, hq.noneInProgress.noPartial⟩⟩
      · exact (h0 rfl).elim
    | write which bytes hw _ hpc =>
      obtain ⟨_, _, hq, h4⟩ := hw
      rcases h4 with ⟨h0, hc, hfr, hcc⟩ | ⟨h0, _, pre, hl, hfr, hfit⟩
      · -- inside the CONNECT: nothing whole is on the wire yet
        have hnl : v.live = true → False := fun hl => by simp [View.live, hc.conn] at hl
        obtain ⟨_, rfl⟩ | ⟨h1, _⟩ := hpc
        · exact ⟨[], v.wire, by simp, by simp, by simp, by simp, fun hl => (hnl hl).elim,
            .inr (.inr ⟨bytes, Or.inl rfl, hfr, hq.noneInProgress, fun hl => (hnl hl).elim, fun _ => ⟨hcc, rfl⟩⟩)⟩
        · exact (h1 h0).elim
      · obtain ⟨h1, _⟩ | ⟨_, hpc⟩ := hpc
        · exact (h0 h1).elim
        · obtain ⟨frames, e1, e2, e3, e4, e5, _⟩ := hl.wire.unpack
          refine ⟨frames, pre, e1, e2, e3, e4, fun _ => e5,
            .inr (.inr ⟨bytes, .inr (hpc.imp (congrArg some) (congrArg some)), hfr, hq.noneInProgress, fun _ => hfit, fun hc => ?_⟩)⟩
          rcases hpc with rfl | rfl <;> cases hc
    | disc hd =>
      -- the handle is dead and exists: the theorem's premise excludes this state
      rcases hact with hl | ⟨hn, _⟩
      · have := hd.2.1; rw [hl] at this; cases this
      · have := hd.2.2.2; rw [hn] at this; cases this

theorem PhaseV_lv {v : View} {fut : Option Pc} (h : PhaseV v fut) (hlive : v.live = true) : ∃ part, Lv v part := by
  have ofFlush : FlushPre v → ∃ part, Lv v part := fun ⟨part, hl, _⟩ => ⟨part, hl⟩
  cases fut with
  | none =>
    rcases PhaseV_none_cases h with ⟨_, hf⟩ | ⟨hd, _⟩
    · exact ofFlush hf
    · rw [hlive] at hd; cases hd
  | some pc =>
    cases PcOK.kind h with
    | flush hf => exact ofFlush hf
    | hand hh => have := hh.hand.dead; rw [hlive] at this; cases this
    | write which bytes hw =>
      rcases hw.2.2.2 with ⟨_, hc, _⟩ | ⟨_, _, pre, hl, _⟩
      · have := hc.dead; rw [hlive] at this; cases this
      · exact ⟨pre, hl⟩
    | disc hd => have := hd.2.1; rw [hlive] at this; cases this

theorem cancelFut_tornNets_of (w : World) (h : tearsPacket w.fut = false) : w.cancelFut.tornNets = w.tornNets := by
  rw [cancelFut_tornNets, if_neg (by simp [h])]

theorem exec_tornNets (w : World) (d : Directive) (h : tearsPacket w.fut = false) :
    (w.execDirective d).tornNets = w.tornNets := by
  by_cases hd : d = .connect
  · subst hd
    exact wstartConnect (wstable_tornEq w.tornNets) w ((dropConn_tornNets w).trans (cancelFut_tornNets_of w h))
  · exact wexec_noconnect (wstable_tornEq w.tornNets) w (fun _ => cancelFut_tornNets_of w h) (fun _ _ h => h) d
      (fun he => hd he) rfl

theorem WInv.wireFacts {w : World} (h : WInv w) (hnt : w.nets.length ∉ w.tornNets)
    (hact : w.live = true ∨ (w.conn = none ∧ w.fut.isSome = true)) : WireFacts w.view w.fut :=
  PhaseV_wire (h.phase hnt) hact

theorem WInv.lv {w : World} (h : WInv w) (hnt : w.nets.length ∉ w.tornNets) (hl : w.live = true) : ∃ part, Lv w.view part :=
  PhaseV_lv (h.phase hnt) hl

theorem WInv.curLog {w : World} (h : WInv w) (hnt : w.nets.length ∉ w.tornNets) (hl : w.live = true) :
    (∃ (frames : List Bytes) (part : Bytes), w.curNet.wire = frames.flatten ++ part ∧ (∀ f ∈ frames, Framed f) ∧
        (w.curLog.map (·.bytes)).Sublist (frames.drop 1)) ∧
    w.sess.data.outbound.Log w.nets.length w.curLog := by
  obtain ⟨part, hlv⟩ := h.lv hnt hl
  obtain ⟨frames, hw, hfr, _, _, _, hsub⟩ := hlv.wire.unpack
  exact ⟨⟨frames, part, hw, hfr, hsub⟩, hlv.log⟩

theorem WInv.accepted {w : World} (h : WInv w) (hnt : w.nets.length ∉ w.tornNets) (hl : w.live = true) :
    w.sess.data.everAccepted = true :=
  (h.lv hnt hl).elim fun _ h => h.acc

theorem WInv.acks {w : World} (h : WInv w) (hnt : w.nets.length ∉ w.tornNets) (hl : w.live = true) :
    AckEq w.sess w.curLog :=
  (h.lv hnt hl).elim fun _ h => h.acks

theorem WInv.relpub {w : World} (h : WInv w) (hnt : w.nets.length ∉ w.tornNets) (hl : w.live = true) :
    RelPub w.sess w.curLog :=
  (h.lv hnt hl).elim fun _ h => h.relpub

theorem sublist_pair_of_sorted {l : List LogEntry} (hs : (sers l).Pairwise (· < ·)) {f g : LogEntry} {s t : Nat}
    (hf : f ∈ l) (hg : g ∈ l) (hfs : f.ser? = some s) (hgt : g.ser? = some t) (hlt : s < t) : [f, g].Sublist l := by
  obtain ⟨l1, l2, rfl⟩ := List.append_of_mem hg
  rcases List.mem_append.mp hf with h1 | h1
  · exact (List.singleton_sublist.mpr h1).append (List.singleton_sublist.mpr List.mem_cons_self)
  · -- `f` is not `g`, and it cannot be behind it
    exfalso
    rcases List.mem_cons.mp h1 with rfl | h2
    · rw [hfs] at hgt; cases hgt; omega
    · have := pairwise_split hs (by simp only [sers, List.filterMap_append, List.filterMap_cons, hgt]; rfl) s
        (List.mem_filterMap.mpr ⟨f, h2, hfs⟩)
      omega

end Minimq
