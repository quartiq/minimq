import Minimq.Proofs.OutOps
/-
What a primitive can change at all (`Prim.frame`; with CONNACK processing by cases, `Prim.kinds`), and what it
does to the identity of the session and to its ghost history (`Prim.history`): nothing, unless it is the
processing of a CONNACK. `EstInv`, the invariant behind "after the first accepted CONNACK every CONNECT asks
to resume" (C05), is closed because of that.
-/
namespace Minimq
open Gen World Outbound

/-- **What the primitives other than CONNACK processing can change**: the reader, the part of the
session data that belongs to the packet exchange (identifier counter, outbound queues, inbound QoS 2
identifiers), four fields of the runtime, and the ghost log. -/
theorem Prim.frame {s s' : Session} (h : Prim s s') :
    (∃ sp block now, s' = (s.activate sp block now).1) ∨
    ∃ rd pid o ids sr q np pt il, s' =
      { s with reader := rd, data := { s.data with packetId := pid, outbound := o, pendingServerIds := ids },
               rt := { s.rt with sessionResumed := sr, sendQuota := q, nextPing := np, pingTimeout := pt },
               inlog := il } := by
  rcases h.shape with ⟨p, rfl⟩ | ha | ⟨_, _, _, _, _, _, _, _, rfl⟩
  · right
    obtain ⟨il, h1⟩ := s.handle_fst p
    obtain ⟨o, ids, h2⟩ := handlePacket_data s.data s.rt p
    rw [h1, h2]
    rcases handlePacket_rt s.data s.rt p with h3 | h3 | h3 <;> rw [h3] <;> exact ⟨_, _, _, _, _, _, _, _, _, rfl⟩
  · exact .inl ha
  · exact .inr ⟨_, _, _, _, _, _, _, _, _, rfl⟩

/-- `Prim.frame` with CONNACK processing split into its two outcomes, each with the session it yields. -/
theorem Prim.kinds {s s' : Session} (h : Prim s s') :
    (∃ rd pid o ids sr q np pt il, s' =
      { s with reader := rd, data := { s.data with packetId := pid, outbound := o, pendingServerIds := ids },
               rt := { s.rt with sessionResumed := sr, sendQuota := q, nextPing := np, pingTimeout := pt },
               inlog := il }) ∨
    (∃ sp block now, s' = (s.activate sp block now).1 ∧ (s.activate sp block now).2 = .ok () ∧ connackBlockOk block ∧
      s' = s.activated sp block now) ∨
    (∃ sp block now, s' = (s.activate sp block now).1 ∧ (s.activate sp block now).2 = .error .peerInvalid ∧
      ¬ connackBlockOk block ∧ s' = s.rejected sp) := by
  rcases h.frame with ⟨sp, block, now, rfl⟩ | hf
  · rcases s.activate_kinds sp block now with ⟨hb, e⟩ | ⟨hb, e⟩
    · exact .inr (.inl ⟨sp, block, now, rfl, by rw [e], hb, by rw [e]⟩)
    · exact .inr (.inr ⟨sp, block, now, rfl, by rw [e], hb, by rw [e]⟩)
  · exact .inl hf

/-- The part of the session that identifies it towards the broker and the application. -/
structure SameIdentity (s s' : Session) : Prop where
  sessionPresent : s'.data.sessionPresent = s.data.sessionPresent
  clientId : s'.clientId = s.clientId
  generation : s'.data.generation = s.data.generation
  configuredKeepaliveMs : s'.rt.configuredKeepaliveMs = s.rt.configuredKeepaliveMs
  will : s'.will = s.will
  auth : s'.auth = s.auth
  expiry : s'.expiry = s.expiry

theorem Prim.identity {s s' : Session} (h : Prim s s') :
    (∃ sp block now, s' = (s.activate sp block now).1) ∨ SameIdentity s s' := by
  rcases h.frame with ha | ⟨_, _, _, _, _, _, _, _, _, rfl⟩
  · exact .inl ha
  · exact .inr ⟨rfl, rfl, rfl, rfl, rfl, rfl, rfl⟩

/-- The three ghost fields of `SessionData` are unchanged. -/
structure SameGhost (s s' : Session) : Prop where
  everAccepted : s'.data.everAccepted = s.data.everAccepted
  halfReset : s'.data.halfReset = s.data.halfReset
  assignedId : s'.data.assignedId = s.data.assignedId

/-- **What a step does to the identity of the session and to its ghost history.** Nothing; or it is an
accepted CONNACK; or a rejected one — which with Session Present = 0 has reset the session before
looking at the properties (finding F19): `sessionPresent` falls and `halfReset` is raised. -/
theorem Prim.history {s s' : Session} (h : Prim s s') :
    (SameGhost s s' ∧ SameIdentity s s') ∨
    (∃ sp block now, s' = (s.activate sp block now).1 ∧ (s.activate sp block now).2 = .ok () ∧ connackBlockOk block ∧
      s'.data.everAccepted = true ∧ s'.data.halfReset = false ∧ s'.data.sessionPresent = true ∧
      s'.data.assignedId = (lastStr .AssignedClientIdentifier (iterEncoded block)).or s.data.assignedId ∧
      s'.clientId = (lastStr .AssignedClientIdentifier (iterEncoded block)).getD s.clientId) ∨
    (∃ sp block now, s' = (s.activate sp block now).1 ∧ (s.activate sp block now).2 = .error .peerInvalid ∧
      ¬ connackBlockOk block ∧ s'.data.everAccepted = s.data.everAccepted ∧ s'.data.assignedId = s.data.assignedId ∧
      s'.clientId = s.clientId ∧ s'.data.halfReset = (s.data.halfReset || !sp) ∧
      s'.data.sessionPresent = (sp && s.data.sessionPresent)) := by
  rcases h.kinds with ⟨_, _, _, _, _, _, _, _, _, rfl⟩ | ⟨sp, block, now, e, hok, hb, he⟩ | ⟨sp, block, now, e, herr, hb, he⟩
  · exact .inl ⟨⟨rfl, rfl, rfl⟩, ⟨rfl, rfl, rfl, rfl, rfl, rfl, rfl⟩⟩
  · exact .inr (.inl ⟨sp, block, now, e, hok, hb, by rw [he]; cases sp <;> exact ⟨rfl, rfl, rfl, rfl, rfl⟩⟩)
  · exact .inr (.inr ⟨sp, block, now, e, herr, hb, by rw [he]; cases sp <;> exact ⟨rfl, rfl, rfl, rfl, rfl⟩⟩)

theorem Prim.sessionPresent_stays {s s' : Session} (h : Prim s s') (hp : s.data.sessionPresent = true) :
    s'.data.sessionPresent = true ∨ ∃ block now, s' = (s.activate false block now).1 := by
  rcases h.history with ⟨_, hid⟩ | ⟨_, _, _, _, _, _, _, _, h3, _⟩ | ⟨sp, block, now, rfl, _, _, _, _, _, _, h5⟩
  · exact .inl (hid.sessionPresent.trans hp)
  · exact .inl h3
  · cases sp
    · exact .inr ⟨block, now, rfl⟩
    · exact .inl (h5.trans hp)

/-- A run of primitives in which no CONNACK reporting "no session" is processed. -/
inductive ResumingRun : Session → Session → Prop
  | refl (s : Session) : ResumingRun s s
  | step {s s1 s2 : Session} (h : ResumingRun s s1) (p : Prim s1 s2)
      (hno : ¬ ∃ block now, s2 = (s1.activate false block now).1) : ResumingRun s s2

theorem ResumingRun.sessionPresent {s s' : Session} (h : ResumingRun s s') (hp : s.data.sessionPresent = true) :
    s'.data.sessionPresent = true := by
  induction h with
  | refl => exact hp
  | step _ p hno ih =>
    rcases p.sessionPresent_stays ih with h1 | h1
    · exact h1
    · exact absurd h1 hno

/-- **The invariant behind "after the first accepted CONNACK every CONNECT asks to resume".**
`cfgId` is the configured client identifier. -/
structure EstInv (cfgId : Bytes) (s : Session) : Prop where
  /-- before the first accepted CONNACK the session is not established … -/
  notYet : s.data.everAccepted = false → s.data.sessionPresent = false
  /-- … afterwards it is, unless finding F19 has struck since the last accepted CONNACK -/
  est : s.data.everAccepted = true → s.data.halfReset = false → s.data.sessionPresent = true
  /-- a half-reset session is not established -/
  half : s.data.halfReset = true → s.data.sessionPresent = false
  /-- the client identifier is the last assigned one, or the configured one if none was ever assigned -/
  cid : s.clientId = s.data.assignedId.getD cfgId
  cidLen : ∀ bs, s.data.assignedId = some bs → bs.length ≤ CLIENT_ID_CAPACITY
  /-- an identifier can only have been assigned by an accepted CONNACK -/
  assignedLate : s.data.everAccepted = false → s.data.assignedId = none

theorem EstInv_new (cfg : Cfg) : EstInv cfg.clientId (Session.new cfg) :=
  ⟨fun _ => rfl, nofun, nofun, rfl, nofun, fun _ => rfl⟩

theorem closed_EstInv (cfgId : Bytes) : Closed (EstInv cfgId) := (closed_iff_prim _).2 fun s s' p h => by
  -- nothing of what `EstInv` reads has changed; or an accepted CONNACK; or a rejected one
  rcases p.history with ⟨hg, hid⟩ | ⟨sp, block, now, rfl, _, hb, a1, a2, a3, a4, a5⟩ |
    ⟨sp, block, now, rfl, _, _, f1, f4, f5, f2, f3⟩
  · exact ⟨hg.everAccepted ▸ hid.sessionPresent ▸ h.notYet,
      hg.everAccepted ▸ hg.halfReset ▸ hid.sessionPresent ▸ h.est, hg.halfReset ▸ hid.sessionPresent ▸ h.half,
      hid.clientId ▸ hg.assignedId ▸ h.cid, hg.assignedId ▸ h.cidLen, hg.everAccepted ▸ hg.assignedId ▸ h.assignedLate⟩
  · refine ⟨fun h0 => ?_, fun _ _ => a3, fun h0 => ?_, ?_, fun bs hbs => ?_, fun h0 => ?_⟩
    · rw [a1] at h0; cases h0
    · rw [a2] at h0; cases h0
    · rw [a5, a4, h.cid]
      cases lastStr .AssignedClientIdentifier (iterEncoded block) <;> rfl
    · rw [a4] at hbs
      cases hl : lastStr .AssignedClientIdentifier (iterEncoded block) with
      | none => rw [hl] at hbs; exact h.cidLen bs hbs
      | some c =>
        rw [hl] at hbs
        cases hbs
        obtain ⟨it, hit, hs⟩ := lastStr_mem hl
        exact (hb it hit).2.1 _ hs
    · rw [a1] at h0; cases h0
  · refine ⟨?_, ?_, ?_, ?_, ?_, ?_⟩
    · rw [f1, f3]; intro h0; rw [h.notYet h0, Bool.and_false]
    · rw [f1, f2, f3]
      cases sp
      · intro _ h0; rw [Bool.not_false, Bool.or_true] at h0; cases h0
      · intro h0 h1; rw [Bool.not_true, Bool.or_false] at h1; exact h.est h0 h1
    · rw [f2, f3]
      cases sp
      · intro _; rfl
      · intro h0; rw [Bool.not_true, Bool.or_false] at h0; exact h.half h0
    · rw [f5, f4]; exact h.cid
    · rw [f4]; exact h.cidLen
    · rw [f1, f4]; exact h.assignedLate

theorem Prim.everAccepted_changes {s s' : Session} (h : Prim s s') :
    (s.data.everAccepted = true → s'.data.everAccepted = true) ∧
    (s.data.everAccepted = false → s'.data.everAccepted = true →
      ∃ sp block now, s' = (s.activate sp block now).1 ∧ (s.activate sp block now).2 = .ok ()) := by
  rcases h.history with ⟨hg, _⟩ | ⟨sp, block, now, rfl, hok, _, a1, _⟩ | ⟨_, _, _, _, _, _, f1, _⟩
  · exact ⟨fun h0 => hg.everAccepted.trans h0, fun h0 h1 => by rw [hg.everAccepted, h0] at h1; cases h1⟩
  · exact ⟨fun _ => a1, fun _ _ => ⟨sp, block, now, rfl, hok⟩⟩
  · exact ⟨fun h0 => f1.trans h0, fun h0 h1 => by rw [f1, h0] at h1; cases h1⟩

end Minimq
