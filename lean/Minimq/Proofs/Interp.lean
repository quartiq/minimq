import Minimq.Proofs.Machine
import Minimq.Proofs.DirOut
import Minimq.Proofs.Program
/-
The interpreter between runs of the machine.

A directive changes the world in two ways: by updates the interpreter makes itself (`IStep`: a trace line of
its own, the decision slot, the clock, inbound bytes, dropping the suspended operation or the handle, the
refusals at the door of an operation, the preparations of `connect`), and by running a call of the machine
with the fuel of a POLL, entered at one of four places (`Entry`: the `flush_outbound` of a sending operation,
`drive_packet`, the `write_all` of CONNECT, the await point that a POLL resumes). `exec_interp` says that
`w.execDirective d` is reached from `w` by a chain of these two (`Interp`: `Steps` of `ILink`), and so is the world
after a program.

So a property `I` of worlds whose machine half is "every run of a call that satisfies `Pre` ends in `I`" holds
after every program as soon as each `IStep` keeps it and at each `Entry` it gives `Pre` (`Interp.inv`): the
counterpart, for the interpreter, of `Fuel.Step` and `Fuel.run_ind` for the machine.
-/
namespace Minimq
open Gen World

/-- An update of the world that the interpreter makes itself, with what it has checked before. -/
inductive IStep : World → World → Prop
  | badOp (w : World) : IStep w (w.emit "bad-op")
  | decode (w : World) (bs : Bytes) : IStep w (w.emit (decodeLine bs))
  | noConn (w : World) (name : String) (hc : w.conn.isNone = true) : IStep w (w.emit s!"ret {name} err NoConnection")
  /-- `go` gives up after its last round -/
  | spin (w : World) : IStep w (w.emit "spin")
  | slot (w : World) (a : Option Nat) : IStep w { w with slot := a }
  | tick (w : World) (us : Nat) : IStep w { w with now := w.now + us }
  | rx (w : World) (bytes : Bytes) (hn : w.nets.isEmpty = false) :
      IStep w (w.setCurNet { w.curNet with rx := w.curNet.rx ++ bytes })
  | setpid (w : World) (n : Nat) (hf : w.fut = none) (h1 : 1 ≤ n) (h2 : n ≤ 65535) : IStep w { w with sess := w.sess.setPid n }
  | cancel (w : World) (hf : w.fut.isSome = true) :
      IStep w { (w.emit "cancel") with fut := none, tornNets := w.tornAfterDrop }
  | drop (w : World) (hf : w.fut = none) (hc : w.conn.isSome = true) : IStep w { (w.emit "drop") with conn := none }
  /-- the counters of a POLL are cleared: by a POLL, and before an operation starts -/
  | counters (w : World) : IStep w { w with wakes := 0, lastIoStarved := false }
  | dead (w : World) (k : AfterFlush) (hf : w.fut = none) (hl : w.live = false) (hk : ∀ x, k ≠ .discPre x) :
      IStep w (w.finishErr (afterFlushName k) .disconnected)
  | discDead (w : World) (hf : w.fut = none) (hl : w.live = false) : IStep w (w.finish "ret disconnect ok")
  | invalid (w : World) (k : AfterFlush) (hf : w.fut = none) (hl : w.live = true) :
      IStep w (w.finishErr (afterFlushName k) .invalidRequest)
  /-- the preparations of `connect`, in this order: a new transport, the three resets, CONNECT encoded into the
  arena; when the encoder fails, `connect` is over (`connectErr`) -/
  | openNet (w : World) (hf : w.fut = none) (hc : w.conn = none) :
      IStep w (let w1 : World := { w with nets := w.nets ++ [({ } : Net)] }; w1.emit s!"net {w1.netIdx} open")
  | beginConnect (w : World) (hf : w.fut = none) (hc : w.conn = none) : IStep w { w with sess := w.sess.beginConnect }
  | encodeConnect (w : World) (hf : w.fut = none) (hc : w.conn = none) :
      IStep w { w with sess := (w.sess.encode (connEnc w.sess.connectPacket)).1 }
  | connectErr (w : World) (e : SerErr) (hf : w.fut = none) (hc : w.conn = none) :
      IStep w (w.finishErr "connect" (Err.ofSer e))

/-- A call the interpreter makes, in the world it makes it in. Nothing is suspended then and the counters of
the POLL are cleared; a sending operation has found its handle live, `drive_packet` has a handle, `connect`
has none. -/
inductive Entry : World → Fuel.Call → Prop
  | request (w : World) (k : AfterFlush) (hf : w.fut = none) (hw : w.wakes = 0) (hl : w.live = true) : Entry w (.FL w k)
  | drive (w : World) (o : Outer) (hf : w.fut = none) (hw : w.wakes = 0) (hc : w.conn.isNone = false) : Entry w (.DE w o)
  | connect (w : World) (bytes : Bytes) (hf : w.fut = none) (hw : w.wakes = 0) (hc : w.conn = none) :
      Entry w (.DLW w 0 bytes)
  /-- a POLL of a suspended operation; `w` is the world before the POLL -/
  | resume (w : World) (pc : Pc) (hf : w.fut = some pc) :
      Entry w (Fuel.resumeCall { w with wakes := 0, lastIoStarved := false, fut := none } pc)

inductive ILink : World → World → Prop
  | step {a b : World} (s : IStep a b) : ILink a b
  | run {a : World} {c : Fuel.Call} (e : Entry a c) : ILink a (c.run pollFuel)

abbrev Interp := Steps ILink

namespace Interp
variable {w a : World}

theorem step {b : World} (h : Interp w a) (s : IStep a b) : Interp w b := h.tail (.step s)

theorem run {c : Fuel.Call} (h : Interp w a) (e : Entry a c) : Interp w (c.run pollFuel) := h.tail (.run e)

theorem inv {I : World → Prop} {Pre : Fuel.Call → Prop} (run : ∀ c, Pre c → I (c.run pollFuel))
    (step : ∀ a b, IStep a b → I a → I b) (entry : ∀ a c, Entry a c → I a → Pre c) (h : Interp w a) (hw : I w) : I a :=
  Steps.inv (fun a _ l ha => by
    cases l with
    | step s => exact step _ _ s ha
    | run e => exact run _ (entry a _ e ha)) h hw

theorem cancelFut (h : Interp w a) : Interp w a.cancelFut := by
  unfold World.cancelFut
  exact ite_ind (fun hf => h.step (.cancel a hf)) (fun _ => h)

theorem dropConn (h : Interp w a) : Interp w a.dropConn :=
  ite_ind (P := Interp w) (fun hc => h.cancelFut.step (.drop _ (cancelFut_fut' a) hc)) (fun _ => h.cancelFut)

theorem opStart (h : Interp w a) : Interp w a.opStart := h.cancelFut.step (.counters _)

theorem poll (h : Interp w a) : Interp w (World.poll a) :=
  Fuel.poll_ind a (fun _ => h.step (.counters a)) (fun pc hf => h.run (.resume a pc hf))

theorem goLoop (n : Nat) (h : Interp w a) : Interp w (World.goLoop n a) :=
  goLoop_ind (P := Interp w) (fun _ h => ((h.step (.slot _ _)).poll).step (.slot _ _)) (fun _ h => h.step (.spin _)) n a h

end Interp

theorem Interp.connectStart {w a : World} (h : Interp w a) : Interp w a.connectStart :=
  have ⟨hf, hc⟩ := dropConn_none a
  ((h.dropConn.step (.openNet _ hf hc)).step (.beginConnect _ hf hc)).step (.counters _)

theorem connectStart_entry (w : World) :
    w.connectStart.fut = none ∧ w.connectStart.wakes = 0 ∧ w.connectStart.conn = none :=
  ⟨(dropConn_none w).1, rfl, (dropConn_none w).2⟩

theorem Interp.startConnect {w a : World} (h : Interp w a) : Interp w a.startConnect :=
  have ⟨hf, hw, hc⟩ := connectStart_entry a
  have h2 := h.connectStart.step (.encodeConnect _ hf hc)
  startConnect_ind a (fun e => h2.step (.connectErr _ e hf hc)) fun _ => h2.run (.connect _ _ hf hw hc)

theorem exec_interp (w : World) (d : Directive) : Interp w (w.execDirective d) := by
  have h : Interp w w := .refl w
  have hf : w.opStart.fut = none := cancelFut_fut' w
  refine execDirective_ind w d fun r ho => ?_
  cases ho with
  | badOp => exact h.step (.badOp w)
  | decode bs => exact h.step (.decode w bs)
  | noConn name hc => exact h.step (.noConn w name hc)
  | connect => exact h.startConnect
  | dead k _ _ hl hk => exact h.opStart.step (.dead _ k hf hl hk)
  | discDead _ hl => exact h.opStart.step (.discDead _ hf hl)
  | invalid k _ _ hl => exact h.opStart.step (.invalid _ k hf hl)
  | request k _ _ hl => exact h.opStart.run (.request _ k hf rfl hl)
  | drive o _ hc => exact h.opStart.run (.drive _ o hf rfl (by rw [← hc]; unfold World.opStart World.cancelFut; split <;> rfl))
  | decision n => exact ((h.step (.slot w (some n))).poll).step (.slot _ none)
  | go => exact h.goLoop _
  | tick us => exact (h.step (.tick w us)).poll
  | tickIdle us => exact h.step (.tick w us)
  | rx bytes hn => exact h.step (.rx w bytes hn)
  | cancel => exact h.cancelFut
  | drop => exact h.dropConn
  | setpid n hf h1 h2 => exact h.step (.setpid w n hf h1 h2)

theorem run_interp (ds : List Directive) (w : World) : Interp w (ds.foldl World.execDirective w) :=
  program_ind (P := Interp w) (fun r d h => h.trans (exec_interp r d)) ds (.refl w)

end Minimq
