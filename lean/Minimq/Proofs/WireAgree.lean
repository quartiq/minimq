import Minimq.Proofs.PrimFrame
import Minimq.Proofs.QueueWalk
import Minimq.Proofs.WireAck
import Minimq.Proofs.WireRelPub
/-
The session's account of the log of one transport (`Agree`): the part of the wire invariant `Lv`
(`Proofs/WireInv.lean`) that speaks of the session and the log only. One lemma for each primitive that runs on a
live connection. Three come with a condition: `set_written` (where the log may grow) and `complete_flush` act on
the current entry, `handle_packet` runs only when nothing is left to send; an accepted CONNACK on a fresh
transport starts the account.
-/
namespace Minimq
open Gen World Outbound

/-- Arena layout, whole framed packets in the arena, distinct in-flight identifiers, release serials
increasing below their counter (`RelP` says nothing of the retained queue): invariants of every execution (`closed_FramedP`, `closed_IdInv`, `closed_RelP`)
that the wire argument relies on. -/
def SP (s : Session) : Prop := (FramedP s ∧ s.data.IdInv) ∧ RelP s

theorem closed_SP : Closed SP := (closed_FramedP.and closed_IdInv).and closed_RelP

theorem SP_new (cfg : Cfg) : SP (Session.new cfg) :=
  ⟨⟨⟨arena_init cfg,
     by intro bs hbs; simp [Session.new, Outbound.new, Outbound.contents, contents] at hbs⟩,
   IdInv_init cfg.tx⟩, RelP_new cfg⟩

theorem SP.arena {s : Session} (h : SP s) : s.data.outbound.ArenaInv := h.1.1.1.1
theorem SP.ser {s : Session} (h : SP s) : s.data.outbound.SerInv := h.1.1.1.2
theorem SP.framed {s : Session} (h : SP s) : s.data.outbound.FramedInv := h.1.1.2
theorem SP.ids {s : Session} (h : SP s) : s.data.outbound.IdInv := h.1.2.out
theorem SP.rel {s : Session} (h : SP s) : s.data.outbound.RelInv := h.2

/-- The session `s` accounts for the log `l` of the transport with ordinal `k`. -/
structure Agree (s : Session) (k : Nat) (l : List LogEntry) : Prop where
  sp : SP s
  log : s.data.outbound.Log k l
  acc : s.data.everAccepted = true
  acks : AckEq s l
  relpub : RelPub s l

section
variable {s s' : Session} {k : Nat} {l : List LogEntry} (h : Agree s k l)
include h

theorem Agree.same (hp : Prim s s') (ho : s'.data.outbound = s.data.outbound) (hi : s'.inlog = s.inlog)
    (hr : s'.rmark = s.rmark) : Agree s' k l :=
  ⟨closed_SP.prim hp h.sp, ho ▸ h.log, hp.everAccepted_changes.1 h.acc, h.acks.same (by rw [ho]) hi, h.relpub.same (by rw [ho]) hr⟩

theorem Agree.queuePing {now : Nat} (hq : s.queuePing now = .ok s') : Agree s' k l := by
  have hsp := closed_SP.queuePing _ _ _ h.sp hq
  rcases Session.queuePing_ok hq with rfl | ⟨o, ho, rfl⟩
  · exact h
  · exact ⟨hsp, ⟨h.log.p.queueControl ho, h.log.r.queueControl ho⟩, h.acc, h.acks.queuePing hq,
      by obtain ⟨_, rfl⟩ := queueControl_some ho; exact h.relpub.same rfl rfl⟩

theorem Agree.alloc : Agree s.alloc.1 k l :=
  h.same (.alloc _) (Session.alloc_outbound _) (alloc_ctl _).2 (by rw [Session.alloc_fst])

theorem Agree.encode {ε : Type} (enc : Nat → (Nat → Nat → Bytes) → Except ε (Nat × Bytes)) (he : EncOk enc) :
    Agree (s.encode enc).1 k l :=
  ⟨closed_SP.encodeScratch _ enc he h.sp, Log_encode _ enc h.sp.arena he h.log,
    (Prim.encodeScratch _ enc he).everAccepted_changes.1 h.acc, h.acks.encode enc, h.relpub.encode enc⟩

theorem Agree.enqueue {ε : Type} {enc : Nat → (Nat → Nat → Bytes) → Except ε (Nat × Bytes)} {off len typ : Nat} {isPub : Bool}
    (he : EncOk enc) (ht : EncTyp enc typ) (hp : isPub = true ↔ typ = MT_Publish) (hq : isPub = true → s.rt.sendQuota ≠ 0)
    (hres : (s.alloc.1.encode enc).2 = .ok (off, len)) (hr : (s.alloc.1.encode enc).1.retain s.alloc.2 off len isPub = some s') :
    Agree s' k l :=
  have h2 := h.alloc.encode enc he
  have hp' := Prim.enqueue s enc off len isPub s' typ he ht hp hq hres hr
  ⟨closed_SP.prim hp' h.sp, Log_retain _ _ enc h.alloc.sp.arena he h.alloc.log _ _ _ _ hres hr,
    hp'.everAccepted_changes.1 h.acc, h2.acks.retain hr, h2.relpub.retain hr⟩

theorem Agree.setWritten {step : Outbound.Step} {j : Nat} (hs : s.data.outbound.Slot step) (hst : step.state = .write j)
    (wr len : Nat) :
    (wr < len → Agree (s.setWritten step.flushed wr len) k l) ∧
    (len ≤ wr → Agree (s.setWritten step.flushed wr len) k (l ++ [s.data.outbound.done k step.flushed])) := by
  have hsp := closed_SP.setWritten s step.flushed wr len h.sp
  have hacc := (Prim.setWritten s step.flushed wr len).everAccepted_changes.1 h.acc
  have hlog := h.log.setWritten h.sp.ser h.sp.rel hs hst wr len
  rw [← Session.setWritten_outbound] at hlog
  have hack := AckEq.setWritten k h.acks hs hst wr len
  have hrp := RelPub.setWritten k h.relpub step.flushed wr len
  exact ⟨fun hlt => ⟨hsp, hlog.1 hlt, hacc, hack.1 hlt, hrp.1⟩, fun hge => ⟨hsp, hlog.2 hge, hacc, hack.2 hge, hrp.2⟩⟩

theorem Agree.completeFlush {step : Outbound.Step} (hs : s.data.outbound.Slot step) (hst : step.state = .flush) (now : Nat) :
    Agree (s.completeFlush step.flushed now) k l :=
  ⟨closed_SP.completeFlush _ _ _ h.sp, by rw [Session.completeFlush_outbound]; exact h.log.completeFlush hs hst,
    (Prim.completeFlush _ _ _).everAccepted_changes.1 h.acc, h.acks.completeFlush hs hst now, h.relpub.completeFlush _ now⟩

theorem Agree.handle (hidle : s.data.outbound.nextStep = none) (p : Recv) : Agree (s.handle p).1 k l :=
  ⟨closed_SP.handle _ p h.sp, Log_handle _ _ _ _ h.sp.arena h.log, (Prim.handle _ p).everAccepted_changes.1 h.acc,
    h.acks.handle p, h.relpub.handle h.log.p hidle p⟩
end

theorem allFresh_activate (s : Session) (sp : Bool) (block : Bytes) (now : Nat) (h : s.data.outbound.AllFresh) :
    (s.activate sp block now).1.data.outbound.AllFresh := by
  rcases activate_outbound_cases s sp block now with e | e | ⟨o, e⟩ <;> rw [e]
  · exact h
  · constructor <;> simp [Outbound.clear]
  · exact armReplay_allFresh _

theorem Agree.activate {s : Session} (k : Nat) {sp : Bool} {block : Bytes} {now : Nat} (hsp : SP s)
    (hfresh : s.data.outbound.AllFresh) (hok : (s.activate sp block now).2 = .ok ()) : Agree (s.activate sp block now).1 k [] :=
  have hf := allFresh_activate s sp block now hfresh
  have hsp' := closed_SP.activate s sp block now hsp
  ⟨hsp', Log_of_allFresh _ _ hf.retained hf.release, activate_everAccepted hok,
    AckEq.activate _ _ _ _ hok hf.control, RelPub.activate _ _ _ _ hok hsp'.rel⟩

end Minimq
