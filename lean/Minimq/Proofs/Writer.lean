import Minimq.Proofs.Props
/-
The serializer with a bounded buffer (`ser/mod.rs`) against the unbounded concatenation of chunks, and what
a successful encoder returns (`Encoded`; `encodeWithOffset_ok`, `encodePublish_ok`). Nothing here speaks of the
reference parser: the arena and the machine above it rest on this module, the round trips on `Proofs/Packets.lean`.
-/
namespace Minimq
open Gen

theorem push_fit (w : W) (x : Bytes) (h : MAX_FIXED_HEADER_SIZE + w.body.length + x.length ≤ w.cap) :
    w.push x = .ok { w with body := w.body ++ x } := by
  unfold W.push W.index
  split
  · omega
  · rfl

/-- The disjunct `x = []`: `push_bytes` compares with a saturating (here: truncated) subtraction, so an empty push
succeeds also where the buffer is shorter than the bytes reserved for the fixed header. -/
theorem push_inv {w w' : W} {x : Bytes} (h : w.push x = .ok w') :
    w' = { w with body := w.body ++ x } ∧ (x = [] ∨ MAX_FIXED_HEADER_SIZE + w.body.length + x.length ≤ w.cap) := by
  unfold W.push W.index at h
  split at h
  · simp at h
  · rename_i hh
    simp at h
    refine ⟨h.symm, ?_⟩
    by_cases hx : x = []
    · exact Or.inl hx
    · right
      have : 0 < x.length := List.length_pos_iff.mpr hx
      omega

theorem push_nil (w : W) : w.push [] = .ok w := by
  rw [W.push, List.length_nil, if_neg (Nat.not_lt_zero _), List.append_nil]

/-- Exact although the buffer may already be full: `push_bytes` compares with what is left of the buffer,
so a chunk that does not fit fails, and so does every non-empty chunk after it, as for the bytes in one piece. -/
theorem pushAll_eq_push {w : W} {cs : List (Except SerErr Bytes)} {bs : Bytes} (h : catChunks cs = .ok bs) :
    w.pushAll cs = w.push bs := by
  induction cs generalizing w bs with
  | nil =>
    cases catChunks_nil h
    exact (push_nil w).symm
  | cons c cs ih =>
    obtain ⟨x, r, rfl, hr, rfl⟩ := catChunks_cons h
    rw [W.pushAll, W.pushE, W.push, W.push, List.length_append]
    by_cases hx : w.cap - w.index < x.length
    · rw [if_pos hx, if_pos (by omega)]
    · rw [if_neg hx]
      dsimp only
      rw [ih hr, W.push, W.index, W.index, List.length_append, List.append_assoc]
      unfold W.index at hx
      by_cases hr' : w.cap - (MAX_FIXED_HEADER_SIZE + (w.body.length + x.length)) < r.length
      · rw [if_pos hr', if_pos (by omega)]
      · rw [if_neg hr', if_neg (by omega)]

theorem pushAll_error_of_chunk_error {w : W} {cs : List (Except SerErr Bytes)} {e : SerErr}
    (h : catChunks cs = .error e) : ∃ e', w.pushAll cs = .error e' := by
  induction cs generalizing w e with
  | nil => simp [catChunks] at h
  | cons c cs ih =>
    cases c with
    | error e0 => exact ⟨e0, by simp [W.pushAll, W.pushE]⟩
    | ok x =>
      simp only [catChunks] at h
      split at h
      · simp at h
      · rename_i e1 he1
        simp only [W.pushAll, W.pushE]
        cases hp : w.push x with
        | error e2 => exact ⟨e2, rfl⟩
        | ok w1 => exact ih he1

theorem pushAll_ok {w w' : W} {cs : List (Except SerErr Bytes)} (h : w.pushAll cs = .ok w') :
    ∃ bs, catChunks cs = .ok bs ∧ w'.body = w.body ++ bs ∧ w'.cap = w.cap ∧
      (bs = [] ∨ MAX_FIXED_HEADER_SIZE + w'.body.length ≤ w.cap) := by
  cases hc : catChunks cs with
  | error e =>
    obtain ⟨e', he⟩ := pushAll_error_of_chunk_error (w := w) hc
    cases he.symm.trans h
  | ok bs =>
    rw [pushAll_eq_push hc] at h
    obtain ⟨rfl, hfit⟩ := push_inv h
    exact ⟨bs, rfl, rfl, rfl, hfit.imp_right fun hf => by rw [List.length_append]; omega⟩

theorem pushAll_complete {w : W} {cs : List (Except SerErr Bytes)} {bs : Bytes}
    (h : catChunks cs = .ok bs) (hfit : MAX_FIXED_HEADER_SIZE + w.body.length + bs.length ≤ w.cap) :
    w.pushAll cs = .ok { w with body := w.body ++ bs } :=
  (pushAll_eq_push h).trans (push_fit w bs hfit)

/-- What a serializer returns for `body`: first byte, canonical remaining length, body; `off` is where
the packet starts within the five header bytes reserved at the front of the buffer. That the body fits
the buffer is said beside it: for a PUBLISH whose payload lies about its length it holds only of a
well-behaved `fill` (`encodePublish_ok`), the shape of the packet always. -/
structure Encoded (typ flags : Nat) (body : Bytes) (off : Nat) (pkt : Bytes) : Prop where
  pkt_eq : pkt = b (typ * 16 + flags % 16) :: (encodeVarint body.length ++ body)
  max : body.length ≤ MQTT_VARINT_MAX
  off_eq : off = MAX_FIXED_HEADER_SIZE - varintLen body.length - 1

theorem Encoded.layout {typ flags off : Nat} {body pkt : Bytes} (e : Encoded typ flags body off pkt) :
    off + pkt.length = MAX_FIXED_HEADER_SIZE + body.length := by
  have := varintLen_bounds body.length
  have : MAX_FIXED_HEADER_SIZE = 5 := rfl
  rw [e.pkt_eq, e.off_eq, List.length_cons, List.length_append, encodeVarint_length]
  omega

/-- `finalize` itself checks only that the header fits; that the body fits is what the pushes before
it have established. -/
theorem finalize_ok {w : W} {typ flags off : Nat} {pkt : Bytes} (h : w.finalize typ flags = .ok (off, pkt)) :
    Encoded typ flags w.body off pkt ∧ MAX_FIXED_HEADER_SIZE ≤ w.cap := by
  unfold W.finalize writeVarint at h
  by_cases hmax : w.body.length > MQTT_VARINT_MAX
  · rw [if_pos hmax] at h; cases h
  · rw [if_neg hmax] at h
    by_cases hc : w.cap < MAX_FIXED_HEADER_SIZE
    · simp only [if_pos hc] at h; cases h
    · simp only [if_neg hc] at h
      cases h
      exact ⟨⟨rfl, Nat.le_of_not_lt hmax, by rw [encodeVarint_length]⟩, Nat.le_of_not_lt hc⟩

theorem finalize_complete {w : W} (typ flags : Nat) (hmax : w.body.length ≤ MQTT_VARINT_MAX)
    (hc : MAX_FIXED_HEADER_SIZE ≤ w.cap) :
    w.finalize typ flags = .ok (MAX_FIXED_HEADER_SIZE - varintLen w.body.length - 1,
      b (typ * 16 + flags % 16) :: (encodeVarint w.body.length ++ w.body)) := by
  rw [W.finalize, writeVarint, if_neg (Nat.not_lt.2 hmax)]
  dsimp only
  rw [if_neg (Nat.not_lt.2 hc), encodeVarint_length]
  rfl

theorem encodeWithOffset_ok {cap : Nat} {cs : List (Except SerErr Bytes)} {typ flags off : Nat} {pkt : Bytes}
    (h : encodeWithOffset cap cs typ flags = .ok (off, pkt)) :
    ∃ body, catChunks cs = .ok body ∧ Encoded typ flags body off pkt ∧
      MAX_FIXED_HEADER_SIZE + body.length ≤ cap := by
  unfold encodeWithOffset at h
  cases hw : (W.new cap).pushAll cs with
  | error e => rw [hw] at h; cases h
  | ok w =>
    rw [hw] at h
    obtain ⟨body, hbs, hbody, hcap, hfits⟩ := pushAll_ok hw
    obtain ⟨e, h5⟩ := finalize_ok h
    rw [show w.body = body from hbody] at e hfits
    rw [show w.cap = cap from hcap] at h5
    exact ⟨body, hbs, e, hfits.elim (fun h0 => h0 ▸ h5) id⟩

theorem encodeWithOffset_complete {cap : Nat} {cs : List (Except SerErr Bytes)} {typ flags : Nat} {body : Bytes}
    (hb : catChunks cs = .ok body) (hfit : MAX_FIXED_HEADER_SIZE + body.length ≤ cap)
    (hmax : body.length ≤ MQTT_VARINT_MAX) :
    encodeWithOffset cap cs typ flags =
      .ok (MAX_FIXED_HEADER_SIZE - varintLen body.length - 1,
           b (typ * 16 + flags % 16) :: (encodeVarint body.length ++ body)) := by
  rw [encodeWithOffset,
    pushAll_complete (w := W.new cap) hb (show MAX_FIXED_HEADER_SIZE + 0 + body.length ≤ cap by omega)]
  exact finalize_complete typ flags hmax (Nat.le_trans (Nat.le_add_right ..) hfit)

/-- `InsufficientMemory` reaches the caller as `BufferTooSmall`. -/
theorem encodeWithOffset_too_small {cap : Nat} {cs : List (Except SerErr Bytes)} {typ flags : Nat} {body : Bytes}
    (hb : catChunks cs = .ok body) (hsmall : cap < MAX_FIXED_HEADER_SIZE + body.length) :
    encodeWithOffset cap cs typ flags = .error .insufficientMemory := by
  rw [encodeWithOffset, pushAll_eq_push hb]
  cases body with
  | nil =>
    -- the empty push succeeds; `finalize` finds no room for the header
    rw [push_nil]
    exact if_pos hsmall
  | cons y ys =>
    have hfull : (W.new cap).cap - (W.new cap).index < (y :: ys).length :=
      show cap - (MAX_FIXED_HEADER_SIZE + 0) < (y :: ys).length by rw [List.length_cons] at hsmall ⊢; omega
    rw [W.push, if_pos hfull]

theorem encodeWithOffset_ok_iff {cap : Nat} {cs : List (Except SerErr Bytes)} {typ flags : Nat} {body : Bytes}
    (hb : catChunks cs = .ok body) (hmax : body.length ≤ MQTT_VARINT_MAX) :
    ((∃ r, encodeWithOffset cap cs typ flags = .ok r) ↔ MAX_FIXED_HEADER_SIZE + body.length ≤ cap) ∧
    (¬ MAX_FIXED_HEADER_SIZE + body.length ≤ cap → encodeWithOffset cap cs typ flags = .error .insufficientMemory) := by
  refine ⟨⟨?_, ?_⟩, ?_⟩
  · rintro ⟨r, hr⟩
    rcases Nat.lt_or_ge cap (MAX_FIXED_HEADER_SIZE + body.length) with hlt | hge
    · rw [encodeWithOffset_too_small hb hlt] at hr; cases hr
    · exact hge
  · intro hfit
    exact ⟨_, encodeWithOffset_complete hb hfit hmax⟩
  · intro hn
    exact encodeWithOffset_too_small hb (by omega)

theorem hdr_byte (t f : Nat) (ht : t < 16) :
    (b (t * 16 + f % 16)).toNat / 16 = t ∧ (f < 16 → (b (t * 16 + f % 16)).toNat % 16 = f) := by
  rw [b_toNat]; omega

theorem Encoded.head {typ flags off : Nat} {body pkt : Bytes} (e : Encoded typ flags body off pkt) (ht : typ < 16) :
    ∃ x rest, pkt = x :: rest ∧ x.toNat / 16 = typ :=
  ⟨_, _, e.pkt_eq, (hdr_byte typ flags ht).1⟩

/-- A successful `encode_publish_with_offset`: the header chunks, then the payload `pl` — the given
bytes, or what `fill` supplies for a payload that lies about its length; the whole fits when `fill`
supplies no more than it is asked for. -/
theorem encodePublish_ok {cap : Nat} {h : PublishHeader} {payload : Payload} {fill : Nat → Nat → Bytes}
    {off : Nat} {pkt : Bytes} (he : encodePublishWithOffset cap h payload fill = .ok (off, pkt)) :
    ∃ hdr pl, catChunks h.chunks = .ok hdr ∧
      (payload = .bytes pl ∨ ∃ n, payload = .lie n ∧ pl = fill (MAX_FIXED_HEADER_SIZE + hdr.length) n) ∧
      Encoded MT_Publish h.flags (hdr ++ pl) off pkt ∧
      ((∀ i n, (fill i n).length ≤ n) → MAX_FIXED_HEADER_SIZE + (hdr ++ pl).length ≤ cap) := by
  unfold encodePublishWithOffset at he
  cases hw : (W.new cap).pushAll h.chunks with
  | error e => rw [hw] at he; cases he
  | ok w =>
    rw [hw] at he
    obtain ⟨hdr, hhdr, hbody, hcap, hfits⟩ := pushAll_ok hw
    have hb : w.body = hdr := hbody
    have hc : w.cap = cap := hcap
    -- both kinds of payload end in `finalize` of the header followed by some `pl`, after a check that `n`
    -- bytes have room
    have key : ∀ pl n, ¬ w.cap - w.index < n →
        ({ w with body := w.body ++ pl } : W).finalize MT_Publish h.flags = .ok (off, pkt) →
        Encoded MT_Publish h.flags (hdr ++ pl) off pkt ∧
          (pl.length ≤ n → MAX_FIXED_HEADER_SIZE + (hdr ++ pl).length ≤ cap) := by
      intro pl n hroom hf
      obtain ⟨e, h5⟩ := finalize_ok hf
      simp only [W.index, hb, hc] at e h5 hroom hfits
      refine ⟨e, fun hl => ?_⟩
      rw [List.length_append]
      rcases hfits with rfl | hfits
      · rw [List.length_nil] at hroom ⊢; omega
      · omega
    cases payload with
    | fail => cases he
    | bytes bs =>
      dsimp only at he
      split at he
      · cases he
      · cases hf : ({ w with body := w.body ++ bs } : W).finalize MT_Publish h.flags with
        | error e => rw [hf] at he; cases he
        | ok r =>
          rw [hf] at he; cases he
          obtain ⟨e, hfit⟩ := key bs bs.length ‹_› hf
          exact ⟨hdr, bs, hhdr, .inl rfl, e, fun _ => hfit (Nat.le_refl _)⟩
    | lie n =>
      dsimp only at he
      split at he
      · cases he
      · cases hf : ({ w with body := w.body ++ fill w.index n } : W).finalize MT_Publish h.flags with
        | error e => rw [hf] at he; cases he
        | ok r =>
          rw [hf] at he; cases he
          obtain ⟨e, hfit⟩ := key _ n ‹_› hf
          rw [W.index, hb] at e hfit
          exact ⟨hdr, _, hhdr, .inr ⟨n, rfl, rfl⟩, e, fun hv => hfit (hv _ n)⟩

end Minimq
