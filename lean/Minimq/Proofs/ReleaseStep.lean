import Minimq.Proofs.Exchange
/-
What one primitive step does to the release queue, and what a PUBREC that creates a release entry is.
-/
namespace Minimq
open Gen World Outbound

/-- **What one step does to the release queue.** The counter does not decrease, and every release entry
after the step is an entry from before (up to its send state) or was created by this step, the handling of a
PUBREC that met the conditions for creating one (`pubrecCreates`). -/
theorem SessStep.relStep {s s' : Session} (st : SessStep s s') :
    s.data.outbound.nextRser ≤ s'.data.outbound.nextRser ∧
    ∀ e' ∈ s'.data.outbound.release,
      (∃ e ∈ s.data.outbound.release, e.rser = e'.rser ∧ e.pser = e'.pser ∧ e.id = e'.id ∧ e.rc = e'.rc) ∨
      (∃ id rs, s' = (s.handle (.pubRec id rs)).1 ∧ s.data.pubrecCreates s.rt id rs = true ∧
         e' = ⟨id, RC_Success, .write 0, s.data.outbound.nextRser, s.data.outbound.ackedSer id .pubRec⟩ ∧
         s'.data.outbound.nextRser = s.data.outbound.nextRser + 1) := by
  rcases st.outChange with ⟨_, _, hc⟩ | ⟨p, rfl⟩ | ⟨block, now, rfl⟩
  · have hs := hc.relSame
    exact ⟨by rw [hs.next]; exact Nat.le_refl _, fun e' he' => Or.inl
      (forall_of_map_eq (fun t => ∃ e ∈ s.data.outbound.release, e.rser = t.1 ∧ e.pser = t.2.1 ∧ e.id = t.2.2.1 ∧ e.rc = t.2.2.2)
        hs.tags (fun e he => ⟨e, he, rfl, rfl, rfl, rfl⟩) e' he')⟩
  · have hrel := (handlePacket_frame s.data s.rt p).release
    have hnext := (handlePacket_frame s.data s.rt p).nextRser
    rw [Session.handle_fst_data]
    have same : (handlePacket s.data s.rt p).1.outbound.release = s.data.outbound.release →
        (handlePacket s.data s.rt p).1.outbound.nextRser = s.data.outbound.nextRser →
        s.data.outbound.nextRser ≤ (handlePacket s.data s.rt p).1.outbound.nextRser ∧
        ∀ e' ∈ (handlePacket s.data s.rt p).1.outbound.release,
          (∃ e ∈ s.data.outbound.release, e.rser = e'.rser ∧ e.pser = e'.pser ∧ e.id = e'.id ∧ e.rc = e'.rc) ∨
          (∃ id rs, (s.handle p).1 = (s.handle (.pubRec id rs)).1 ∧ s.data.pubrecCreates s.rt id rs = true ∧
             e' = ⟨id, RC_Success, .write 0, s.data.outbound.nextRser, s.data.outbound.ackedSer id .pubRec⟩ ∧
             (handlePacket s.data s.rt p).1.outbound.nextRser = s.data.outbound.nextRser + 1) := by
      intro h1 h2
      rw [h1, h2]
      exact ⟨Nat.le_refl _, fun e' he' => Or.inl ⟨e', he', rfl, rfl, rfl, rfl⟩⟩
    cases p with
    | pubRec id rs =>
      simp only [] at hrel hnext
      cases hcr : s.data.pubrecCreates s.rt id rs with
      | false =>
        rw [hcr] at hrel hnext
        simp only [Bool.false_eq_true, if_false] at hrel hnext
        exact same hrel hnext
      | true =>
        rw [hcr] at hrel hnext
        simp only [if_true] at hrel hnext
        refine ⟨by rw [hnext]; exact Nat.le_succ _, fun e' he' => ?_⟩
        rw [hrel] at he'
        rcases List.mem_append.mp he' with hm | hm
        · exact Or.inl ⟨e', hm, rfl, rfl, rfl, rfl⟩
        · exact Or.inr ⟨id, rs, rfl, hcr, List.mem_singleton.mp hm, hnext⟩
    | pubComp id rs =>
      simp only [] at hrel hnext
      refine ⟨by rw [hnext]; exact Nat.le_refl _, fun e' he' => Or.inl ⟨e', ?_, rfl, rfl, rfl, rfl⟩⟩
      rw [hrel] at he'
      exact (removeFirst_sublist _ _).subset he'
    | _ => exact same hrel hnext
  · have hd := activate_false_data s block now
    simp only [] at hd
    refine ⟨by rw [hd.2.2.2.2.2.2]; exact Nat.le_refl _, fun e' he' => ?_⟩
    rw [hd.2.2.2.1] at he'; simp at he'

/-- `relStep` as an induction principle, for what does not look at the send states: a property of serial, origin,
identifier and reason code holds of every release entry after a step if it held of every entry before it and
holds of the entry that a PUBREC creates. -/
theorem SessStep.release_ind {s s' : Session} (st : SessStep s s') {P : Nat → Nat → Nat → Nat → Prop}
    (old : ∀ e ∈ s.data.outbound.release, P e.rser e.pser e.id e.rc)
    (new : ∀ id rs, s' = (s.handle (.pubRec id rs)).1 → s.data.pubrecCreates s.rt id rs = true →
      P s.data.outbound.nextRser (s.data.outbound.ackedSer id .pubRec) id RC_Success) :
    ∀ e' ∈ s'.data.outbound.release, P e'.rser e'.pser e'.id e'.rc := by
  intro e' he'
  rcases st.relStep.2 e' he' with ⟨e, he, t1, t2, t3, t4⟩ | ⟨id, rs, hs', hc, rfl, _⟩
  · rw [← t1, ← t2, ← t3, ← t4]; exact old e he
  · exact new id rs hs' hc

theorem ackedSer_of_split {o : Outbound} {id : Nat} {k : AckKind} {l₁ l₂ : List RetainedPacket} {e : RetainedPacket}
    (hr : o.retained = l₁ ++ e :: l₂) (h1 : ∀ x ∈ l₁, ackPred o id k x = false) (he : ackPred o id k e = true) :
    o.ackedSer id k = e.ser := by
  unfold Outbound.ackedSer
  have : o.retained.find? (fun e => e.id == id && k.acknowledges (o.headerAt e.offset)) = some e := by
    rw [hr]; exact find?_hit _ l₁ _ l₂ (fun x hx => by have := h1 x hx; simpa [ackPred] using this) (by simpa [ackPred] using he)
  rw [this]; rfl

/-- `pubrecCreates`, spelled out; `e` is the retained entry that the same step removes, and `e.ser` is what the
new release entry records as its origin. -/
theorem pubrecCreates_spec {d : SessionData} {r : Runtime} {id : Nat} {rs : ReasonIn} (h : d.pubrecCreates r id rs = true) :
    reasonSuccess rs.rc = true ∧ r.packetTooLarge 5 = false ∧ d.outbound.release.length < MAX_PENDING_RELEASE ∧
    ∃ l₁ e l₂, d.outbound.retained = l₁ ++ e :: l₂ ∧ (∀ x ∈ l₁, ackPred d.outbound id .pubRec x = false) ∧
      e.id = id ∧ AckKind.pubRec.acknowledges (d.outbound.headerAt e.offset) = true ∧
      d.outbound.ackedSer id .pubRec = e.ser ∧
      (handlePacket d r (.pubRec id rs)).1.outbound.keys = (l₁ ++ l₂).map RetainedPacket.key := by
  simp only [SessionData.pubrecCreates, Bool.and_eq_true, Bool.not_eq_true', decide_eq_true_eq] at h
  obtain ⟨⟨⟨h1, h2⟩, h3⟩, h4⟩ := h
  refine ⟨h2, h3, h4, ?_⟩
  obtain ⟨l₁, e, l₂, e1, e2, e3, e4⟩ := removeFirst_split h1
  have e3' := e3
  simp only [ackPred, Bool.and_eq_true, beq_iff_eq] at e3'
  refine ⟨l₁, e, l₂, e1, e2, e3'.1, e3'.2, ackedSer_of_split e1 e2 e3, ?_⟩
  have hk := (handlePacket_frame d r (.pubRec id rs)).keys
  simp only [Recv.ackOf] at hk
  rw [hk, e4]

end Minimq
