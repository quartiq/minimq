import Minimq.Proofs.WireLog
import Minimq.Proofs.ReleaseStep
/-
A PUBREL created on the current connection has a transmission of its PUBLISH in the log of this
transport: `drive_packet` handles an inbound packet only when `next_step` has nothing left to do, so when
a PUBREC is handled every retained entry is `Sent`, hence (`PLog.written`) in the log.

"Created on the current connection" is read off the ghost mark `Session.rmark`, the value of the
release-serial counter when the CONNACK of this connection was accepted.
-/
namespace Minimq
open Gen World Outbound

def PubLogged (l : List LogEntry) (t id : Nat) : Prop := ∃ f ∈ l, f.tag = .retained t id

theorem PubLogged.mono {l : List LogEntry} {t id : Nat} (h : PubLogged l t id) (f : LogEntry) : PubLogged (l ++ [f]) t id := by
  obtain ⟨g, hg, ht⟩ := h
  exact ⟨g, List.mem_append_left _ hg, ht⟩

structure RelPub (s : Session) (l : List LogEntry) : Prop where
  queue : ∀ e ∈ s.data.outbound.release, s.rmark ≤ e.rser → PubLogged l e.pser e.id
  logged : ∀ g ∈ l, ∀ r t id rc, g.tag = .release r t id rc → s.rmark ≤ r → PubLogged l t id

theorem RelPub.same {s s' : Session} {l : List LogEntry} (h : RelPub s l)
    (ht : s'.data.outbound.relTags = s.data.outbound.relTags) (hm : s'.rmark = s.rmark) : RelPub s' l := by
  exact ⟨forall_of_map_eq (fun t => s'.rmark ≤ t.1 → PubLogged l t.2.1 t.2.2.1) ht (hm ▸ h.queue), by rw [hm]; exact h.logged⟩

theorem RelPub.append {s : Session} {l : List LogEntry} (h : RelPub s l) (f : LogEntry)
    (hf : ∀ r t id rc, f.tag = .release r t id rc → s.rmark ≤ r → PubLogged l t id) : RelPub s (l ++ [f]) := by
  exact ⟨fun e he hr => (h.queue e he hr).mono f,
    List.forall_mem_append.mpr ⟨fun g hg r t id rc ht hr => (h.logged g hg r t id rc ht hr).mono f,
      List.forall_mem_singleton.mpr fun r t id rc ht hr => (hf r t id rc ht hr).mono f⟩⟩

theorem RelPub.setWritten {s : Session} {l : List LogEntry} (k : Nat) (h : RelPub s l) (pkt : Flushed) (wr len : Nat) :
    RelPub (s.setWritten pkt wr len) l ∧ RelPub (s.setWritten pkt wr len) (l ++ [s.data.outbound.done k pkt]) := by
  have h1 : RelPub (s.setWritten pkt wr len) l :=
    h.same (s.setWritten_states pkt wr len).relTags rfl
  refine ⟨h1, h1.append _ fun r t i c ht hm => ?_⟩
  obtain ⟨e, he, rfl, rfl, rfl, _⟩ := (s.data.outbound.done_is k pkt).of_release ht
  exact h.queue e he hm

theorem RelPub.completeFlush {s : Session} {l : List LogEntry} (h : RelPub s l) (pkt : Flushed) (now : Nat) :
    RelPub (s.completeFlush pkt now) l :=
  h.same (s.completeFlush_states pkt now).relTags rfl

theorem RelPub.encode {ε : Type} {s : Session} {l : List LogEntry} (h : RelPub s l)
    (enc : Nat → (Nat → Nat → Bytes) → Except ε (Nat × Bytes)) : RelPub (s.encode enc).1 l := by
  rw [Session.encode_fst]
  exact h.same (RelSame.encodeAt _ enc).tags rfl

theorem RelPub.retain {s s3 : Session} {l : List LogEntry} {id off len : Nat} {isPub : Bool} (h : RelPub s l)
    (hr : s.retain id off len isPub = some s3) : RelPub s3 l := by
  obtain ⟨o, ho, rfl⟩ := Session.retain_some hr
  exact h.same (RelSame.retainPacket ho).tags rfl

/-- An inbound packet is handled while nothing is unsent: a release entry created by a PUBREC has its
PUBLISH in the log. -/
theorem RelPub.handle {s : Session} {l : List LogEntry} {k : Nat} (h : RelPub s l) (hlog : s.data.outbound.PLog k l)
    (hidle : s.data.outbound.nextStep = none) (p : Recv) : RelPub (s.handle p).1 l := by
  refine ⟨(SessStep.handle s p).release_ind (P := fun r t id _ => s.rmark ≤ r → PubLogged l t id) h.queue
    fun id rs _ hc _ => ?_, h.logged⟩
  obtain ⟨_, _, _, l₁, x, l₂, hret, _, hid, _, hser, _⟩ := pubrecCreates_spec hc
  have hx : x ∈ s.data.outbound.retained := by rw [hret]; simp
  have hsent := (nextStep_none_sent _ hidle).2.2 x hx
  have := hlog.written_entry hx (Or.inl hsent)
  rw [hser, ← hid]
  exact ⟨_, this, rfl⟩

/-- An accepted CONNACK sets the mark to the counter: nothing has been created on this connection yet. -/
theorem RelPub.activate (s : Session) (sp : Bool) (block : Bytes) (now : Nat) (hok : (s.activate sp block now).2 = .ok ())
    (hrel : (s.activate sp block now).1.data.outbound.RelInv) : RelPub (s.activate sp block now).1 [] := by
  have hm : (s.activate sp block now).1.rmark = (s.activate sp block now).1.data.outbound.nextRser := by
    rw [activate_fst_of_ok hok]; rfl
  refine ⟨?_, by intro g hg; simp at hg⟩
  intro e he' hr
  have := hrel.lt e he'
  rw [hm] at hr
  omega

end Minimq
