import Minimq.SessOps
import Minimq.Proofs.Scheduler
/-
CONNACK processing (`Session.activate`, the second half of `connect_handshake`).

The property loop succeeds exactly on an acceptable block, and then the last property of each kind wins
(`connackFold_spec`). So `activate` yields `Session.activated` or `Session.rejected`, spelled out below
(`activate_eq`; by cases: `Session.activate_kinds`), and what a CONNACK leaves behind — a fresh or a resumed
session, the negotiated send quota, the effective keep-alive, the ghost flags — is read off these two.
-/
namespace Minimq
open Gen Outbound

def numOf (k : PropKind) : Option Property → Option Nat
  | some ⟨k', .n v⟩ => if k' = k then some v else none
  | _ => none

def strOf (k : PropKind) : Option Property → Option Bytes
  | some ⟨k', .s bs⟩ => if k' = k then some bs else none
  | _ => none

/-- The value of the last property of kind `k` in the block. -/
def lastNum (k : PropKind) (items : List (Option Property)) : Option Nat := items.reverse.findSome? (numOf k)
def lastStr (k : PropKind) (items : List (Option Property)) : Option Bytes := items.reverse.findSome? (strOf k)

/-- What the loop accepts: a decodable property; an assigned client identifier of at most
`CLIENT_ID_CAPACITY` bytes; a non-zero Receive Maximum; a Maximum QoS of at most 2. -/
def connackItemOk (item : Option Property) : Prop :=
  item ≠ none ∧ (∀ bs, strOf .AssignedClientIdentifier item = some bs → bs.length ≤ CLIENT_ID_CAPACITY) ∧
  (∀ v, numOf .ReceiveMaximum item = some v → v ≠ 0) ∧ (∀ v, numOf .MaximumQoS item = some v → v ≤ 2)

theorem connackStep_error (q : Nat) (e : Err) (item : Option Property) : Session.connackStep q (.error e) item = .error e := rfl

theorem foldl_connackStep_error (q : Nat) (e : Err) (items : List (Option Property)) :
    items.foldl (Session.connackStep q) (.error e) = .error e := by
  induction items with
  | nil => rfl
  | cons x xs ih => simp only [List.foldl_cons, connackStep_error, ih]

theorem numOf_none {k k' : PropKind} {v : PVal} (h : ∀ n, k' = k → v = .n n → False) :
    numOf k (some ⟨k', v⟩) = none := by
  cases v with
  | n x => exact if_neg fun hk => h x hk rfl
  | _ => rfl

theorem strOf_none {k k' : PropKind} {v : PVal} (h : ∀ bs, k' = k → v = .s bs → False) :
    strOf k (some ⟨k', v⟩) = none := by
  cases v with
  | s x => exact if_neg fun hk => h x hk rfl
  | _ => rfl

/-- One iteration: it succeeds exactly on acceptable items, and then each component is updated by the
property it belongs to and left alone by all others. -/
theorem connackStep_ok (q : Nat) (acc : Session.ConnackAcc) (item : Option Property) :
    (connackItemOk item →
      Session.connackStep q (.ok acc) item = .ok
        (((numOf .ReceiveMaximum item).map (min · q)).getD acc.1,
         ((numOf .ReceiveMaximum item).map (min · q)).getD acc.2.1,
         (numOf .MaximumQoS item).or acc.2.2.1,
         (numOf .MaximumPacketSize item).or acc.2.2.2.1,
         ((numOf .ServerKeepAlive item).map (· * 1000)).getD acc.2.2.2.2.1,
         (strOf .AssignedClientIdentifier item).or acc.2.2.2.2.2)) ∧
    (¬ connackItemOk item → Session.connackStep q (.ok acc) item = .error .peerInvalid) := by
  obtain ⟨sq, msq, mq, mps, ka, cid⟩ := acc
  cases item with
  | none => exact ⟨fun h => absurd rfl h.1, fun _ => rfl⟩
  | some p =>
    obtain ⟨k, v⟩ := p
    unfold Session.connackStep
    dsimp only
    -- the five arms of the loop and the rest; in an arm the lookups compute, in the rest they find nothing
    split
    · exact ⟨fun _ => rfl, fun h => absurd ⟨nofun, (fun _ h => nomatch h), (fun _ h => nomatch h), (fun _ h => nomatch h)⟩ h⟩
    · rename_i bs
      by_cases hl : bs.length > CLIENT_ID_CAPACITY
      · rw [if_pos hl]
        exact ⟨fun h => absurd (h.2.1 bs rfl) (Nat.not_le_of_gt hl), fun _ => rfl⟩
      · rw [if_neg hl]
        refine ⟨fun _ => rfl, fun h => absurd ⟨nofun, (fun _ h => ?_), (fun _ h => nomatch h), (fun _ h => nomatch h)⟩ h⟩
        cases h; exact Nat.le_of_not_gt hl
    · exact ⟨fun _ => rfl, fun h => absurd ⟨nofun, (fun _ h => nomatch h), (fun _ h => nomatch h), (fun _ h => nomatch h)⟩ h⟩
    · rename_i n
      by_cases h0 : n = 0
      · rw [if_pos h0]
        exact ⟨fun h => absurd h0 (h.2.2.1 n rfl), fun _ => rfl⟩
      · rw [if_neg h0]
        refine ⟨fun _ => rfl, fun h => absurd ⟨nofun, (fun _ h => nomatch h), (fun _ h => ?_), (fun _ h => nomatch h)⟩ h⟩
        cases h; exact h0
    · rename_i n
      by_cases h2 : n > 2
      · rw [if_pos h2]
        exact ⟨fun h => absurd (h.2.2.2 n rfl) (Nat.not_le_of_gt h2), fun _ => rfl⟩
      · rw [if_neg h2]
        refine ⟨fun _ => rfl, fun h => absurd ⟨nofun, (fun _ h => nomatch h), (fun _ h => nomatch h), (fun _ h => ?_)⟩ h⟩
        cases h; exact Nat.le_of_not_gt h2
    · rename_i h1 h2 h3 h4 h5
      have e1 := numOf_none h1
      have e2 := strOf_none h2
      have e3 := numOf_none h3
      have e4 := numOf_none h4
      have e5 := numOf_none h5
      refine ⟨fun _ => ?_, fun h => absurd ⟨nofun, (fun _ h => ?_), (fun _ h => ?_), (fun _ h => ?_)⟩ h⟩
      · rw [e1, e2, e3, e4, e5]; rfl
      · rw [e2] at h; cases h
      · rw [e4] at h; cases h
      · rw [e5] at h; cases h

theorem lastNum_cons (k : PropKind) (x : Option Property) (xs : List (Option Property)) :
    lastNum k (x :: xs) = (lastNum k xs).or (numOf k x) := by
  simp [lastNum, List.findSome?_append, List.findSome?_cons]
  cases numOf k x <;> simp

theorem lastStr_cons (k : PropKind) (x : Option Property) (xs : List (Option Property)) :
    lastStr k (x :: xs) = (lastStr k xs).or (strOf k x) := by
  simp [lastStr, List.findSome?_append, List.findSome?_cons]
  cases strOf k x <;> simp

theorem map_or_getD {α β} (a b : Option α) (f : α → β) (c : β) :
    ((a.or b).map f).getD c = (a.map f).getD ((b.map f).getD c) := by
  cases a <;> cases b <;> rfl

/-- **The CONNACK property loop.** It succeeds exactly when every item is acceptable; then, for each
setting, the last property of its kind wins and a missing property leaves the initial value. -/
theorem connackFold_spec (q : Nat) (acc : Session.ConnackAcc) (items : List (Option Property)) :
    ((∀ it ∈ items, connackItemOk it) →
      items.foldl (Session.connackStep q) (.ok acc) = .ok
        (((lastNum .ReceiveMaximum items).map (min · q)).getD acc.1,
         ((lastNum .ReceiveMaximum items).map (min · q)).getD acc.2.1,
         (lastNum .MaximumQoS items).or acc.2.2.1,
         (lastNum .MaximumPacketSize items).or acc.2.2.2.1,
         ((lastNum .ServerKeepAlive items).map (· * 1000)).getD acc.2.2.2.2.1,
         (lastStr .AssignedClientIdentifier items).or acc.2.2.2.2.2)) ∧
    (¬ (∀ it ∈ items, connackItemOk it) →
      items.foldl (Session.connackStep q) (.ok acc) = .error .peerInvalid) := by
  induction items generalizing acc with
  | nil =>
    obtain ⟨sq, msq, mq, mps, ka, cid⟩ := acc
    constructor
    · intro _; simp [lastNum, lastStr]
    · intro h; exact absurd (by simp) h
  | cons x xs ih =>
    obtain ⟨hok, herr⟩ := connackStep_ok q acc x
    by_cases hx : connackItemOk x
    · -- the accumulator after `x` is the initial one for the rest; "last of `x :: xs`" is "last of `xs`, else `x`"
      simp only [List.foldl_cons, hok hx]
      obtain ⟨i1, i2⟩ := ih (((numOf .ReceiveMaximum x).map (min · q)).getD acc.1,
         ((numOf .ReceiveMaximum x).map (min · q)).getD acc.2.1,
         (numOf .MaximumQoS x).or acc.2.2.1,
         (numOf .MaximumPacketSize x).or acc.2.2.2.1,
         ((numOf .ServerKeepAlive x).map (· * 1000)).getD acc.2.2.2.2.1,
         (strOf .AssignedClientIdentifier x).or acc.2.2.2.2.2)
      constructor
      · intro hall
        rw [i1 (fun it hit => hall it (List.mem_cons_of_mem _ hit))]
        simp only [lastNum_cons, lastStr_cons, map_or_getD, Option.or_assoc]
      · intro hall
        apply i2
        intro h; apply hall
        intro it hit
        rcases List.mem_cons.mp hit with rfl | hit
        · exact hx
        · exact h it hit
    · simp only [List.foldl_cons, herr hx, foldl_connackStep_error]
      constructor
      · intro hall; exact absurd (hall x (List.mem_cons_self ..)) hx
      · intro _; first | rfl | trivial

theorem lastStr_mem {k : PropKind} {items : List (Option Property)} {bs : Bytes} (h : lastStr k items = some bs) :
    ∃ it ∈ items, strOf k it = some bs := by
  unfold lastStr at h
  obtain ⟨it, hit, hs⟩ := List.exists_of_findSome?_eq_some h
  exact ⟨it, List.mem_reverse.mp hit, hs⟩

theorem lastNum_mem {k : PropKind} {items : List (Option Property)} {v : Nat} (h : lastNum k items = some v) :
    ∃ it ∈ items, numOf k it = some v := by
  unfold lastNum at h
  obtain ⟨it, hit, hs⟩ := List.exists_of_findSome?_eq_some h
  exact ⟨it, List.mem_reverse.mp hit, hs⟩

theorem lastNum_none {k : PropKind} {items : List (Option Property)} (h : ∀ it ∈ items, numOf k it = none) :
    lastNum k items = none := by
  unfold lastNum
  rw [List.findSome?_eq_none_iff]
  intro it hit; exact h it (List.mem_reverse.mp hit)

theorem lastNum_append (k : PropKind) (pre post : List (Option Property)) (x : Option Property) (v : Nat)
    (hx : numOf k x = some v) (hpost : ∀ it ∈ post, numOf k it = none) : lastNum k (pre ++ x :: post) = some v := by
  have : post.reverse.findSome? (numOf k) = none := lastNum_none hpost
  simp [lastNum, List.findSome?_append, this, hx]

/-- The block is acceptable: what `connect_handshake` requires of the CONNACK properties. -/
def connackBlockOk (block : Bytes) : Prop := ∀ it ∈ iterEncoded block, connackItemOk it

/-- The settings negotiated by an acceptable block, given the configured keep-alive. -/
def connackSettings (kaCfg : Nat) (block : Bytes) : Session.ConnackAcc :=
  (((lastNum .ReceiveMaximum (iterEncoded block)).map (min · Outbound.maxInflight)).getD Outbound.maxInflight,
   ((lastNum .ReceiveMaximum (iterEncoded block)).map (min · Outbound.maxInflight)).getD Outbound.maxInflight,
   lastNum .MaximumQoS (iterEncoded block),
   lastNum .MaximumPacketSize (iterEncoded block),
   ((lastNum .ServerKeepAlive (iterEncoded block)).map (· * 1000)).getD kaCfg,
   lastStr .AssignedClientIdentifier (iterEncoded block))

/-- The session after the fresh-session reset that `activate` performs first when `sp = false`. -/
def Session.preActivate (s : Session) (sp : Bool) : Session := if !sp then { s with data := s.data.reset } else s

/-- The session after a successful CONNACK, spelled out, ghost fields included (`inlog`, `rmark`, `everAccepted`,
`halfReset`, `assignedId`: as `Session.activate` of `SessOps.lean` sets them). The two `* 1000`: Server Keep Alive
comes in seconds and is kept in ms (`connackSettings`); the clock `now` counts µs. -/
def Session.activated (s : Session) (sp : Bool) (block : Bytes) (now : Nat) : Session :=
  let s1 := s.preActivate sp
  let c := connackSettings s1.rt.configuredKeepaliveMs block
  let rt : Runtime :=
    { s1.rt with sessionResumed := sp, keepaliveMs := c.2.2.2.2.1, sendQuota := c.1 - s1.data.outbound.inflightPublishes, maxSendQuota := c.2.1, maxQos := c.2.2.1, maximumPacketSize := c.2.2.2.1, deficit := decide (c.1 < s1.data.outbound.inflightPublishes) }
  let rt2 : Runtime := { rt with nextPing := rt.keepaliveSendInterval.map (fun i => now + i * 1000), pingTimeout := none }
  { s1 with rt := rt2, clientId := c.2.2.2.2.2.getD s1.clientId, data := { s1.data with sessionPresent := true, everAccepted := true, halfReset := false, assignedId := c.2.2.2.2.2.or s1.data.assignedId }, inlog := [{ pkt := none, acks := s1.data.outbound.control.map PendingControl.action }], rmark := s1.data.outbound.nextRser }

/-- The session after a rejected CONNACK: the reset (if `sp = false`) stays, the ghost flag `halfReset`
records it, and the session is disconnected. -/
def Session.rejected (s : Session) (sp : Bool) : Session :=
  let s1 := s.preActivate sp
  ({ s1 with data := { s1.data with halfReset := s1.data.halfReset || !sp } } : Session).handleDisconnect

theorem activate_eq (s : Session) (sp : Bool) (block : Bytes) (now : Nat) :
    (connackBlockOk block → s.activate sp block now = (s.activated sp block now, .ok ())) ∧
    (¬ connackBlockOk block → s.activate sp block now = (s.rejected sp, .error .peerInvalid)) := by
  unfold Session.activate
  dsimp only
  constructor
  · intro h
    rw [(connackFold_spec _ _ _).1 h]
    simp only [Session.activated, Session.preActivate, connackSettings, Runtime.noteOutboundActivity, Option.or_none]
    rfl
  · intro h
    rw [(connackFold_spec _ _ _).2 h]
    rfl

theorem Session.activate_kinds (s : Session) (sp : Bool) (block : Bytes) (now : Nat) :
    connackBlockOk block ∧ s.activate sp block now = (s.activated sp block now, .ok ()) ∨
    ¬ connackBlockOk block ∧ s.activate sp block now = (s.rejected sp, .error .peerInvalid) :=
  (Classical.em _).imp (fun h => ⟨h, (activate_eq s sp block now).1 h⟩) fun h => ⟨h, (activate_eq s sp block now).2 h⟩

theorem activate_ok_iff (s : Session) (sp : Bool) (block : Bytes) (now : Nat) :
    (s.activate sp block now).2 = .ok () ↔ connackBlockOk block := by
  rcases s.activate_kinds sp block now with ⟨h, e⟩ | ⟨h, e⟩ <;> rw [e] <;> simp [h]

theorem activate_fst_of_ok {s : Session} {sp : Bool} {block : Bytes} {now : Nat}
    (hok : (s.activate sp block now).2 = .ok ()) : (s.activate sp block now).1 = s.activated sp block now := by
  rw [(activate_eq s sp block now).1 ((activate_ok_iff s sp block now).1 hok)]

theorem activate_everAccepted {s : Session} {sp : Bool} {block : Bytes} {now : Nat}
    (hok : (s.activate sp block now).2 = .ok ()) : (s.activate sp block now).1.data.everAccepted = true := by
  rw [activate_fst_of_ok hok]; rfl

theorem Session.activate_cases (s : Session) (sp : Bool) (block : Bytes) (now : Nat) :
    (s.activate sp block now).1 = s.activated sp block now ∨ (s.activate sp block now).1 = s.rejected sp :=
  (s.activate_kinds sp block now).imp (fun h => by rw [h.2]) fun h => by rw [h.2]

theorem preActivate_true (s : Session) : s.preActivate true = s := rfl
theorem preActivate_false (s : Session) : s.preActivate false = { s with data := s.data.reset } := rfl

theorem preActivate_cfgKa (s : Session) (sp : Bool) :
    (s.preActivate sp).rt.configuredKeepaliveMs = s.rt.configuredKeepaliveMs := by cases sp <;> rfl

/-- The negotiated send quota: min(Receive Maximum, local limit), or the local limit without one. -/
def negotiatedQuota (block : Bytes) : Nat :=
  match lastNum .ReceiveMaximum (iterEncoded block) with
  | some v => min v Outbound.maxInflight
  | none => Outbound.maxInflight

theorem negotiatedQuota_le (block : Bytes) : negotiatedQuota block ≤ maxInflight := by
  unfold negotiatedQuota
  split
  · exact Nat.min_le_right _ _
  · exact Nat.le_refl _

theorem connackSettings_quota (ka : Nat) (block : Bytes) :
    (connackSettings ka block).1 = negotiatedQuota block ∧ (connackSettings ka block).2.1 = negotiatedQuota block := by
  unfold connackSettings negotiatedQuota
  cases lastNum .ReceiveMaximum (iterEncoded block) <;> exact ⟨rfl, rfl⟩

def effectiveKeepaliveMs (cfgMs : Nat) (block : Bytes) : Nat :=
  match lastNum .ServerKeepAlive (iterEncoded block) with
  | some v => v * 1000
  | none => cfgMs

theorem generation_bump_ne (g : Nat) : (g + 1) % 4294967296 ≠ g := by omega

theorem activated_fresh (s : Session) (block : Bytes) (now : Nat) :
    let s' := s.activated false block now
    s'.data.outbound.control = [] ∧ s'.data.outbound.retained = [] ∧ s'.data.outbound.release = [] ∧
    s'.data.pendingServerIds = [] ∧ s'.data.packetId = 1 ∧
    s'.data.generation = (s.data.generation + 1) % 4294967296 ∧ s'.data.generation ≠ s.data.generation ∧
    (∀ op : Op, op.generation = s.data.generation → s'.data.status op = .invalidated) ∧
    s'.rt.sendQuota = negotiatedQuota block ∧ s'.rt.maxSendQuota = negotiatedQuota block ∧
    s'.rt.sessionResumed = false ∧ s'.data.sessionPresent = true ∧ s'.data.outbound.nextStep = none := by
  intro s'
  have hq := connackSettings_quota s.rt.configuredKeepaliveMs block
  refine ⟨rfl, rfl, rfl, rfl, rfl, rfl, generation_bump_ne _, ?_, ?_, hq.2, rfl, rfl, rfl⟩
  · intro op hop
    unfold SessionData.status
    have : op.generation ≠ s'.data.generation := by
      rw [hop]; exact (generation_bump_ne _).symm
    simp [this]
  · show (connackSettings s.rt.configuredKeepaliveMs block).1 - s.data.outbound.clear.inflightPublishes = _
    rw [show s.data.outbound.clear.inflightPublishes = 0 from rfl, hq.1]; rfl

theorem activated_resumed (s : Session) (block : Bytes) (now : Nat) :
    let s' := s.activated true block now
    s'.data.outbound = s.data.outbound ∧ s'.data.pendingServerIds = s.data.pendingServerIds ∧
    s'.data.generation = s.data.generation ∧ s'.data.packetId = s.data.packetId ∧
    (∀ op : Op, s'.data.status op = s.data.status op) ∧
    s'.rt.sessionResumed = true ∧ s'.data.sessionPresent = true ∧
    s'.rt.sendQuota = negotiatedQuota block - s.data.outbound.inflightPublishes ∧
    s'.rt.maxSendQuota = negotiatedQuota block := by
  intro s'
  have hq := connackSettings_quota s.rt.configuredKeepaliveMs block
  refine ⟨rfl, rfl, rfl, rfl, fun op => rfl, rfl, rfl, ?_, hq.2⟩
  show (connackSettings s.rt.configuredKeepaliveMs block).1 - s.data.outbound.inflightPublishes = _
  rw [hq.1]

theorem activated_keepalive (s : Session) (sp : Bool) (block : Bytes) (now : Nat) :
    (s.activated sp block now).rt.keepaliveMs = effectiveKeepaliveMs s.rt.configuredKeepaliveMs block ∧
    (s.activated sp block now).rt.configuredKeepaliveMs = s.rt.configuredKeepaliveMs ∧
    (s.activated sp block now).rt.nextPing =
      (s.activated sp block now).rt.keepaliveSendInterval.map (fun i => now + i * 1000) ∧
    (s.activated sp block now).rt.pingTimeout = none := by
  refine ⟨?_, preActivate_cfgKa s sp, rfl, rfl⟩
  show (connackSettings (s.preActivate sp).rt.configuredKeepaliveMs block).2.2.2.2.1 = _
  rw [preActivate_cfgKa]
  unfold connackSettings effectiveKeepaliveMs
  cases lastNum .ServerKeepAlive (iterEncoded block) <;> rfl

/-- The F19 step always raises the flag, an accepted CONNACK always clears it. -/
theorem activate_halfReset (s : Session) (sp : Bool) (block : Bytes) (now : Nat) :
    (¬ connackBlockOk block → sp = false → (s.activate sp block now).1.data.halfReset = true) ∧
    (¬ connackBlockOk block → sp = true → (s.activate sp block now).1.data.halfReset = s.data.halfReset) ∧
    (connackBlockOk block → (s.activate sp block now).1.data.halfReset = false ∧
      (s.activate sp block now).1.data.everAccepted = true) := by
  rcases s.activate_kinds sp block now with ⟨hb, e⟩ | ⟨hb, e⟩ <;> rw [e]
  · exact ⟨fun h => absurd hb h, fun h => absurd hb h, fun _ => by cases sp <;> exact ⟨rfl, rfl⟩⟩
  · exact ⟨fun _ hsp => hsp ▸ Bool.or_true _, fun _ hsp => hsp ▸ Bool.or_false _, fun h => absurd h hb⟩

theorem activate_false_data (s : Session) (block : Bytes) (now : Nat) :
    let d' := (s.activate false block now).1.data
    d'.generation = (s.data.generation + 1) % 4294967296 ∧ d'.pendingServerIds = [] ∧
    d'.outbound.retained = [] ∧ d'.outbound.release = [] ∧ d'.outbound.control = [] ∧
    d'.outbound.nextSer = s.data.outbound.nextSer ∧ d'.outbound.nextRser = s.data.outbound.nextRser := by
  rcases s.activate_cases false block now with e | e <;> rw [e]
  · exact ⟨rfl, rfl, rfl, rfl, rfl, rfl, rfl⟩
  · have := armReplay_queues s.data.reset.outbound.dropPingreq
    exact ⟨rfl, rfl, this.1, this.2.1, this.2.2.1, this.2.2.2.1, this.2.2.2.2⟩

end Minimq
