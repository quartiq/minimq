import Minimq.Proofs.PollSteps
/-
Bounded quiescence (C16, liveness half): the machine, one POLL at a time.

A `poll()` whose every I/O call gets the decision 250 ("everything"): what one POLL does at each of
its three await points (`stepWrite`, `stepFlush`, `waitRead`), in closed form up to the trace — the
POLL lemmas of `Proofs/PollSteps.lean` at the decision 250, for a connection on which no keep-alive event is
due (`KaCalm`). `w.settle .poll adv` (`Proofs/Ev.lean`) is where the drive loop comes to rest from `w` when no
I/O decision is left: suspended in the write or the flush of the next outbound step, or — nothing to send —
returned `Ok(None)` (if the round advanced) or suspended in `wait_for_progress`.
-/
namespace Minimq
open Gen World Fuel Outbound
namespace Quiesce

/-- One POLL with the decision 250, as `d 250` and each round of `go` perform it. -/
def step (W : World) : World := { World.poll { W with slot := some 250 } with slot := none }

theorem execDirective_d250 (W : World) (h : W.fut.isSome = true) : W.execDirective (.d 250) = step W := by
  obtain ⟨pc, hf⟩ := Option.isSome_iff_exists.mp h
  rw [exec_d hf]
  exact (clearSlot_congr (poll_ev (w := { W with slot := some 250 }) hf)).symm

theorem goLoop_succ (n : Nat) (W : World) :
    World.goLoop (n + 1) W =
      if (step W).fut.isNone then step W else if (step W).wakes ≥ 64 then step W
      else if (step W).lastIoStarved then step W else World.goLoop n (step W) := by
  rw [World.goLoop]
  rfl

theorem wcount_all (n : Nat) : wcount 250 n = n := by simp [wcount]

/-- **The write decision.** Everything that is left of the packet is accepted: the entry moves to
`Flush`, the packet is logged, and the operation suspends in the flush. -/
theorem step_write (W : World) (ctx : StepCtx) (pkt : Flushed) (bytes : Bytes) (wr len now : Nat)
    (h : W.fut = some (.stepWrite ctx pkt bytes wr len now)) (hlen : len ≤ wr + (bytes.drop wr).length)
    (hnets : W.nets ≠ []) :
    (step W).sess = W.sess.setWritten pkt (wr + (bytes.drop wr).length) len ∧
    (step W).fut = some (.stepFlush ctx pkt now) ∧
    (step W).nets = W.nets.dropLast ++ [{ W.curNet with wire := W.curNet.wire ++ bytes.drop wr }] ∧
    (step W).log = W.log ++ [W.doneFrame pkt] ∧
    (step W).conn = W.conn ∧ (step W).now = W.now ∧ (step W).slot = none ∧ (step W).wakes = 0 ∧
    (step W).lastIoStarved = false := by
  obtain ⟨o, e⟩ := d_write_all h (Nat.le_refl 250) (by rw [wcount_all]; exact hlen) hnets
  rw [← execDirective_d250 W (by rw [h]; rfl), e, wcount_all, List.take_length]
  exact ⟨rfl, rfl, rfl, rfl, rfl, rfl, rfl, rfl, rfl⟩

/-- **The flush decision.** The flush completes: the entry is `Sent` (a control entry leaves its
queue), and the drive loop goes on to where it comes to rest next. (A flush succeeds under every decision up to
251, so under the 250 of a round.) -/
theorem step_flush (W : World) (adv : Bool) (pkt : Flushed) (now : Nat)
    (h : W.fut = some (.stepFlush (.drive adv .poll) pkt now)) (hl : W.live = true)
    (hw : Waiting W.sess.reader W.curNet.rx) (hc : KaCalm (W.sess.completeFlush pkt now).rt W.now) :
    ∃ o, step W = (W.afterFlushOk pkt now o).settle .poll true := by
  obtain ⟨o, e⟩ := d_flush h (by omega : 250 ≤ 251) hl hw.win hc.2 hc.queuePing
  exact ⟨o, by rw [← execDirective_d250 W (by rw [h]; rfl), e]⟩

/-- **Nothing to read.** The transport has delivered everything: the read is starved and the operation
stays suspended where it was (this is what stops `go`). -/
theorem step_starved (W : World) (outer : Outer) (dl : Option Nat) (y : Bool)
    (h : W.fut = some (.waitRead outer dl y)) (hw : Waiting W.sess.reader W.curNet.rx)
    (hrx : W.curNet.rx = []) (hdl : DeadlineOK W.now dl) :
    ∃ o, step W = { W with fut := some (.waitRead outer dl true), out := o, slot := none, wakes := 0,
                           lastIoStarved := true } :=
  ⟨s!"rs {W.netIdx}" :: W.out, by
    rw [← execDirective_d250 W (by rw [h]; rfl), exec_d h]
    exact clearSlot_congr
      (ev_DWR_pending (w := ({ W with slot := some 250 } : World).pollBase) outer y hw.win
        (fun n _ => ioRead_starved rfl (Nat.le_refl _) (by show takeCount 250 n W.curNet.rx.length = 0; rw [hrx]; exact takeCount_nil 250 n)) hdl)⟩

/-- The world in which the drive loop goes on after an inbound packet has been handled: session `S`, `rest` left
in the transport, trace `o`. -/
def _root_.Minimq.World.recvW (W : World) (S : Session) (rest : Bytes) (o : List String) : World :=
  { W with sess := S, nets := W.nets.dropLast ++ [{ W.curNet with rx := rest }], fut := none, out := o,
           slot := none, wakes := 0, lastIoStarved := false }

theorem handle_reader' (s : Session) (p : Recv) : (s.handle p).1.reader = s.reader := handle_reader s p

/-- **The read decision completes a packet**, the next one of the stream. If it is `pkt`, leaving `rest` in the
transport, it is decoded and handled; `handle_packet` has nothing to deliver (an acknowledgement), so the round has
advanced and the drive loop goes on to where it comes to rest next. -/
theorem step_packet (W : World) (dl : Option Nat) (y : Bool)
    (h : W.fut = some (.waitRead .poll dl y)) (hw : Waiting W.sess.reader W.curNet.rx) (hne : W.curNet.rx ≠ [])
    (hkind : readKind W.sess.reader W.curNet.rx (W.readCount 250) = .packet) (hl : W.live = true)
    (hcap : 1 ≤ W.sess.reader.cap) :
    frame1 W.sess.reader.cap (W.sess.reader.data ++ W.curNet.rx) =
      .packet (W.sess.reader.data ++ W.curNet.rx.take (W.readCount 250)) (W.curNet.rx.drop (W.readCount 250)) ∧
    ∀ (pkt rest : Bytes), W.sess.reader.data ++ W.curNet.rx.take (W.readCount 250) = pkt →
      W.curNet.rx.drop (W.readCount 250) = rest → ∀ p : Recv, fromBuffer pkt = some p →
      ((took W.sess pkt).handle p).2 = .ok false → KaCalm ((took W.sess pkt).handle p).1.rt W.now →
      ∃ o, step W = (W.recvW ((took W.sess pkt).handle p).1 rest o).settle .poll true := by
  obtain ⟨hfr, hd⟩ := (waitReadLoop .poll dl y).packet W 250 h hw hne (by omega) (Nat.le_refl _) hkind
  refine ⟨hfr, fun pkt rest hpkt hrest p hp hres hc => ⟨[W.rLine (W.readCount 250)] ++ W.out, ?_⟩⟩
  rw [hpkt, hrest] at hd
  rw [← execDirective_d250 W (by rw [h]; rfl), hd,
    ev_DE_handled (X := W.withRead (W.sess.reader.packetOf pkt) rest [W.rLine (W.readCount 250)] none) .poll rfl hp hres hl rfl
      hcap hc.2 hc.queuePing]
  exact settle_clearSlot rfl .poll true

/-- The world `poll()` starts in: a suspended operation is dropped (trace `o`, ghost marks `t`). -/
def startW (W : World) (o : List String) (t : List Nat) : World :=
  { W with fut := none, out := o, tornNets := t, wakes := 0, lastIoStarved := false }

/-- **`poll()` is called** on a live connection with no decision at hand: whatever was suspended is
dropped, and the new operation comes to rest at its first I/O call. -/
theorem poll_start (W : World) (hl : W.live = true) (hs : W.slot = none)
    (hw : Waiting W.sess.reader W.curNet.rx) (hc : KaCalm W.sess.rt W.now) :
    ∃ o t, W.execDirective .poll = (startW W o t).settle .poll false := by
  refine ⟨W.opStart.out, W.opStart.tornNets, ?_⟩
  rw [exec_drive_settle .poll .poll rfl hl hs hw.notAvail (fun _ => hw.win) hc.2 hc.queuePing]
  congr 1
  unfold World.opStart World.cancelFut startW
  split
  · rfl
  · rename_i hf
    have hfn : W.fut = none := by cases hfu : W.fut <;> simp_all
    rw [← hfn]

end Quiesce
end Minimq
