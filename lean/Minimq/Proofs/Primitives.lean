import Minimq.Proofs.Arena
import Minimq.Proofs.Connack
import Minimq.Proofs.Ids
import Minimq.Proofs.Ops
/-
The session primitives in terms of the operations on the outbound queues and the reader. `handlePacket` is unfolded
only here, in one equation per packet kind (`handlePacket_publish0` … `handlePacket_other`); `HandleOutcome`, read off
them, is what the `handle` cases of the invariants are proved from (the `activate` cases from
`Session.activate_cases`, `Proofs/Connack.lean`).

The primitives are listed three times. `Closed`, defined here, is a structure of obligations: what an invariant
proof fills in. `Prim` is the same list as a relation, to do `cases` on (`closed_iff_prim`).
`SessStep` (`Proofs/Exchange.lean`) is that relation as the exchange theorems C02–C04 and C18 see the steps of
an execution; `Prim.step` and `SessStep.prim` say that the two relations are the same, and what is known of a
`SessStep` is read off `Prim.shape` (`Proofs/OutOps.lean`).
-/
namespace Minimq
open Gen World Outbound

theorem setOutbound_data (s : Session) (o : Outbound) : (s.setOutbound o).data = { s.data with outbound := o } := rfl

theorem Session.encode_fst {ε : Type} (s : Session) (enc : Nat → (Nat → Nat → Bytes) → Except ε (Nat × Bytes)) :
    (s.encode enc).1 = s.setOutbound (s.data.outbound.encodeAt enc).1 := by
  unfold Session.encode
  cases s.data.outbound.encodeAt enc; rfl

theorem Session.encode_snd {ε : Type} (s : Session) (enc : Nat → (Nat → Nat → Bytes) → Except ε (Nat × Bytes)) :
    (s.encode enc).2 = (s.data.outbound.encodeAt enc).2 := by
  unfold Session.encode
  cases s.data.outbound.encodeAt enc; rfl

theorem encode_rt {ε : Type} (s : Session) (enc : Nat → (Nat → Nat → Bytes) → Except ε (Nat × Bytes)) :
    (s.encode enc).1.rt = s.rt := by
  rw [Session.encode_fst]; rfl

theorem Session.alloc_encode_fst {ε : Type} (s : Session) (enc : Nat → (Nat → Nat → Bytes) → Except ε (Nat × Bytes)) :
    (s.alloc.1.encode enc).1 =
      { s with data := { s.data.nextPacketId.1 with outbound := (s.data.outbound.encodeAt enc).1 } } := by
  rw [Session.encode_fst, Session.alloc_fst, ← nextPacketId_outbound s.data]
  rfl

theorem alloc_encode_rt {ε : Type} (s : Session) (enc : Nat → (Nat → Nat → Bytes) → Except ε (Nat × Bytes)) :
    (s.alloc.1.encode enc).1.rt = s.rt := by
  rw [Session.encode_fst, Session.alloc_fst]; rfl

/-- The enqueue step in terms of the arena: encode behind the retained packets, retain under the
identifier just allocated; a PUBLISH takes one unit of send quota. -/
theorem Session.enqueue_some {ε : Type} {s s3 : Session} {enc : Nat → (Nat → Nat → Bytes) → Except ε (Nat × Bytes)}
    {off len : Nat} {isPub : Bool} (hres : (s.alloc.1.encode enc).2 = .ok (off, len))
    (hr : (s.alloc.1.encode enc).1.retain s.alloc.2 off len isPub = some s3) :
    ∃ o, (s.data.outbound.encodeAt enc).2 = .ok (off, len) ∧
      (s.data.outbound.encodeAt enc).1.retainPacket s.data.nextPacketId.2 off len = some o ∧
      s3 = { s with data := { s.data.nextPacketId.1 with outbound := o },
                    rt := if isPub then { s.rt with sendQuota := s.rt.sendQuota - 1 } else s.rt } := by
  rw [Session.encode_snd, Session.alloc_fst] at hres
  rw [Session.alloc_encode_fst, Session.alloc_snd] at hr
  simp only [nextPacketId_outbound] at hres
  obtain ⟨o, ho, rfl⟩ := Session.retain_some hr
  exact ⟨o, hres, ho, by cases isPub <;> rfl⟩

theorem Session.handle_fst (s : Session) (p : Recv) :
    ∃ il, (s.handle p).1 =
      { s with data := (handlePacket s.data s.rt p).1, rt := (handlePacket s.data s.rt p).2.1, inlog := il } :=
  ⟨_, rfl⟩

theorem Session.handle_fst_data (s : Session) (p : Recv) : (s.handle p).1.data = (handlePacket s.data s.rt p).1 := rfl

theorem Session.handle_fst_rt (s : Session) (p : Recv) : (s.handle p).1.rt = (handlePacket s.data s.rt p).2.1 := rfl

theorem Session.takePkt_fst (s : Session) : s.takePkt.1 = { s with reader := s.reader.takePacket.1 } := by
  unfold Session.takePkt
  cases s.reader.takePacket; rfl

theorem Session.takePkt_data (s : Session) : s.takePkt.1.data = s.data ∧ s.takePkt.1.rt = s.rt := by
  rw [Session.takePkt_fst]; exact ⟨rfl, rfl⟩

/-- What it takes for a predicate on the session to be an invariant of every execution: it is
preserved by each primitive through which the operations change the session. -/
structure Closed (P : Session → Prop) : Prop where
  queuePing : ∀ s now s', P s → s.queuePing now = .ok s' → P s'
  completeFlush : ∀ s pkt now, P s → P (s.completeFlush pkt now)
  setWritten : ∀ s pkt a c, P s → P (s.setWritten pkt a c)
  takePkt : ∀ s, P s → P s.takePkt.1
  handle : ∀ s p, P s → P (s.handle p).1
  handleDisconnect : ∀ s, P s → P s.handleDisconnect
  activate : ∀ s sp block now, P s → P (s.activate sp block now).1
  alloc : ∀ s, P s → P s.alloc.1
  encodeConnect : ∀ s c, P s → P (s.encode (ε := SerErr) (fun cap _ => encodeConnect cap c)).1
  encodeAfterAlloc : ∀ {ε : Type} s (enc : Nat → (Nat → Nat → Bytes) → Except ε (Nat × Bytes)), EncOk enc → P s →
    P (s.alloc.1.encode enc).1
  encodeScratch : ∀ {ε : Type} s (enc : Nat → (Nat → Nat → Bytes) → Except ε (Nat × Bytes)), EncOk enc → P s →
    P (s.encode enc).1
  enqueue : ∀ {ε : Type} s (enc : Nat → (Nat → Nat → Bytes) → Except ε (Nat × Bytes)) off len isPub s3 typ, EncOk enc →
    EncTyp enc typ → (isPub = true ↔ typ = MT_Publish) → P s →
    (isPub = true → s.rt.sendQuota ≠ 0) → (s.alloc.1.encode enc).2 = .ok (off, len) →
    (s.alloc.1.encode enc).1.retain s.alloc.2 off len isPub = some s3 → P s3
  clearPing : ∀ s, P s → P s.clearPing
  noteActivity : ∀ s now, P s → P (s.noteActivity now)
  window : ∀ s s' n, P s → s.window = some (s', n) → P s'
  commit : ∀ s bytes, P s → P (s.commit bytes)
  beginConnect : ∀ s, P s → P s.beginConnect
  setPid : ∀ s n, 1 ≤ n → n ≤ 65535 → P s → P (s.setPid n)

theorem closed_true : Closed (fun _ => True) := by constructor <;> intros <;> trivial

/-- One step of a session primitive — exactly the steps over which `Closed` quantifies. -/
inductive Prim : Session → Session → Prop
  | queuePing (s : Session) (now : Nat) (s' : Session) (h : s.queuePing now = .ok s') : Prim s s'
  | completeFlush (s : Session) (pkt : Flushed) (now : Nat) : Prim s (s.completeFlush pkt now)
  | setWritten (s : Session) (pkt : Flushed) (a c : Nat) : Prim s (s.setWritten pkt a c)
  | takePkt (s : Session) : Prim s s.takePkt.1
  | handle (s : Session) (p : Recv) : Prim s (s.handle p).1
  | handleDisconnect (s : Session) : Prim s s.handleDisconnect
  | activate (s : Session) (sp : Bool) (block : Bytes) (now : Nat) : Prim s (s.activate sp block now).1
  | alloc (s : Session) : Prim s s.alloc.1
  | encodeConnect (s : Session) (c : Connect) : Prim s (s.encode (ε := SerErr) (fun cap _ => encodeConnect cap c)).1
  | encodeAfterAlloc {ε : Type} (s : Session) (enc : Nat → (Nat → Nat → Bytes) → Except ε (Nat × Bytes)) (he : EncOk enc) :
      Prim s (s.alloc.1.encode enc).1
  | encodeScratch {ε : Type} (s : Session) (enc : Nat → (Nat → Nat → Bytes) → Except ε (Nat × Bytes)) (he : EncOk enc) :
      Prim s (s.encode enc).1
  | enqueue {ε : Type} (s : Session) (enc : Nat → (Nat → Nat → Bytes) → Except ε (Nat × Bytes)) (off len : Nat)
      (isPub : Bool) (s3 : Session) (typ : Nat) (he : EncOk enc) (ht : EncTyp enc typ) (hp : isPub = true ↔ typ = MT_Publish)
      (hq : isPub = true → s.rt.sendQuota ≠ 0) (hres : (s.alloc.1.encode enc).2 = .ok (off, len))
      (hr : (s.alloc.1.encode enc).1.retain s.alloc.2 off len isPub = some s3) : Prim s s3
  | clearPing (s : Session) : Prim s s.clearPing
  | noteActivity (s : Session) (now : Nat) : Prim s (s.noteActivity now)
  | window (s s' : Session) (n : Nat) (h : s.window = some (s', n)) : Prim s s'
  | commit (s : Session) (bytes : Bytes) : Prim s (s.commit bytes)
  | beginConnect (s : Session) : Prim s s.beginConnect
  | setPid (s : Session) (n : Nat) (h1 : 1 ≤ n) (h2 : n ≤ 65535) : Prim s (s.setPid n)

theorem Closed.prim {P : Session → Prop} (hc : Closed P) {s s' : Session} (hp : Prim s s') : P s → P s' := by
  cases hp with
  | queuePing _ t _ hq => exact fun h => hc.queuePing _ _ _ h hq
  | completeFlush => exact fun h => hc.completeFlush _ _ _ h
  | setWritten => exact fun h => hc.setWritten _ _ _ _ h
  | takePkt => exact fun h => hc.takePkt _ h
  | handle => exact fun h => hc.handle _ _ h
  | handleDisconnect => exact fun h => hc.handleDisconnect _ h
  | activate => exact fun h => hc.activate _ _ _ _ h
  | alloc => exact fun h => hc.alloc _ h
  | encodeConnect => exact fun h => hc.encodeConnect _ _ h
  | encodeAfterAlloc _ enc he => exact fun h => hc.encodeAfterAlloc _ _ he h
  | encodeScratch _ enc he => exact fun h => hc.encodeScratch _ _ he h
  | enqueue _ enc off len isPub _ typ he ht hp hq hres hr => exact fun h => hc.enqueue _ _ _ _ _ _ _ he ht hp h hq hres hr
  | clearPing => exact fun h => hc.clearPing _ h
  | noteActivity => exact fun h => hc.noteActivity _ _ h
  | window _ _ n hw => exact fun h => hc.window _ _ _ h hw
  | commit => exact fun h => hc.commit _ _ h
  | beginConnect => exact fun h => hc.beginConnect _ h
  | setPid _ n h1 h2 => exact fun h => hc.setPid _ _ h1 h2 h

theorem closed_iff_prim (P : Session → Prop) : Closed P ↔ ∀ s s', Prim s s' → P s → P s' := by
  constructor
  · intro hc s s' hp
    exact hc.prim hp
  · intro hp
    exact {
      queuePing := fun s now s' h hq => hp _ _ (.queuePing s now s' hq) h
      completeFlush := fun s pkt now h => hp _ _ (.completeFlush s pkt now) h
      setWritten := fun s pkt a c h => hp _ _ (.setWritten s pkt a c) h
      takePkt := fun s h => hp _ _ (.takePkt s) h
      handle := fun s p h => hp _ _ (.handle s p) h
      handleDisconnect := fun s h => hp _ _ (.handleDisconnect s) h
      activate := fun s sp block now h => hp _ _ (.activate s sp block now) h
      alloc := fun s h => hp _ _ (.alloc s) h
      encodeConnect := fun s c h => hp _ _ (.encodeConnect s c) h
      encodeAfterAlloc := fun s enc he h => hp _ _ (.encodeAfterAlloc s enc he) h
      encodeScratch := fun s enc he h => hp _ _ (.encodeScratch s enc he) h
      enqueue := fun s enc off len isPub s3 typ he ht hpub h hq hres hr =>
        hp _ _ (.enqueue s enc off len isPub s3 typ he ht hpub hq hres hr) h
      clearPing := fun s h => hp _ _ (.clearPing s) h
      noteActivity := fun s now h => hp _ _ (.noteActivity s now) h
      window := fun s s' n h hw => hp _ _ (.window s s' n hw) h
      commit := fun s bytes h => hp _ _ (.commit s bytes) h
      beginConnect := fun s h => hp _ _ (.beginConnect s) h
      setPid := fun s n h1 h2 h => hp _ _ (.setPid s n h1 h2) h }

theorem Closed.and_of {P Q : Session → Prop} (hP : Closed P) (hQ : ∀ s s', Prim s s' → P s → Q s → Q s') :
    Closed (fun s => P s ∧ Q s) :=
  (closed_iff_prim _).2 fun s s' p h => ⟨hP.prim p h.1, hQ s s' p h.1 h.2⟩

theorem Closed.and {P Q : Session → Prop} (hp : Closed P) (hq : Closed Q) : Closed (fun s => P s ∧ Q s) :=
  hp.and_of fun _ _ p _ h => hq.prim p h

theorem catChunks_ackChunks (id rc : Nat) : catChunks (ackChunks id rc) = .ok (u16be id ++ [b rc]) := rfl

/-- An acknowledgement as `encodeWithOffset` writes it into the nine-byte stack buffer. -/
theorem ackChunks_encode (typ flags id rc : Nat) :
    encodeWithOffset CONTROL_PACKET_LEN (ackChunks id rc) typ flags =
      .ok (MAX_FIXED_HEADER_SIZE - varintLen 3 - 1, b (typ * 16 + flags % 16) :: b 3 :: (u16be id ++ [b rc])) :=
  encodeWithOffset_complete (catChunks_ackChunks id rc) (show MAX_FIXED_HEADER_SIZE + 3 ≤ CONTROL_PACKET_LEN by decide)
    (show 3 ≤ MQTT_VARINT_MAX by decide)

/-- The packet written for a PUBACK / PUBREC / PUBCOMP control action. -/
def controlBytes (a : ControlAction) : Bytes :=
  b (a.typ * 16) :: b 3 :: (u16be a.id ++ [b a.rc])

/-- The PUBREL the client writes for a release entry. -/
def pubrelBytes (id rc : Nat) : Bytes := b (MT_PubRel * 16 + 2) :: b 3 :: (u16be id ++ [b rc])

theorem encodeControl_ack (a : ControlAction) (h : a.typ = MT_PubAck ∨ a.typ = MT_PubRec ∨ a.typ = MT_PubComp) :
    encodeControl a = .ok (controlBytes a) := by
  unfold encodeControl
  rw [if_neg (by rcases h with h | h | h <;> rw [h] <;> decide)]
  simp only [ackChunks_encode]
  unfold controlBytes
  rcases h with h | h | h <;> rw [h] <;> rfl

theorem encodePubrel_eq (id rc : Nat) : encodePubrel id rc = .ok (pubrelBytes id rc) := by
  unfold encodePubrel
  rw [ackChunks_encode]; rfl

theorem encodePubrel_len (id rc : Nat) : ∃ bs, encodePubrel id rc = .ok bs ∧ bs.length = 5 :=
  ⟨_, encodePubrel_eq id rc, rfl⟩

theorem packetTooLarge_false_iff (r : Runtime) (len : Nat) :
    r.packetTooLarge len = false ↔ ∀ m, r.maximumPacketSize = some m → len ≤ m := by
  unfold Runtime.packetTooLarge
  cases r.maximumPacketSize with
  | none => simp
  | some m => simp

theorem packetTooLarge_true_iff (r : Runtime) (len : Nat) :
    r.packetTooLarge len = true ↔ ∃ m, r.maximumPacketSize = some m ∧ m < len := by
  unfold Runtime.packetTooLarge
  cases r.maximumPacketSize with
  | none => simp
  | some m => simp

theorem packetTooLarge_mono (r : Runtime) {a c : Nat} (h : a ≤ c) (hc : r.packetTooLarge c = false) :
    r.packetTooLarge a = false := by
  rw [packetTooLarge_false_iff] at hc ⊢
  intro m hm; have := hc m hm; omega

theorem checkSize_ok_iff (r : Runtime) (enc : Except SerErr Bytes) :
    checkSize r enc = .ok () ↔ ∃ bs, enc = .ok bs ∧ r.packetTooLarge bs.length = false := by
  unfold checkSize
  cases enc with
  | error e => simp
  | ok bs =>
    simp only [Except.ok.injEq, exists_eq_left']
    split <;> simp_all

theorem quotaInc_mps (r : Runtime) : (quotaInc r).maximumPacketSize = r.maximumPacketSize := rfl

/-- PUBACK, PUBREC, PUBREL and PUBCOMP as the client writes them are five bytes (fixed header 2, identifier 2, reason
code 1): where `handle_packet` checks the size of one it has just encoded, the check is `packetTooLarge 5`, and
that is how the statements about acknowledgements and PUBREL write it. -/
theorem checkSize_five (r : Runtime) {enc : Except SerErr Bytes} (h : ∃ bs, enc = .ok bs ∧ bs.length = 5) :
    checkSize r enc = if r.packetTooLarge 5 then .error .packetTooLarge else .ok () := by
  obtain ⟨bs, rfl, hl⟩ := h
  simp only [checkSize, hl]

/-- The tail shared by PUBLISH (QoS 1, 2) and PUBREL, which owe the broker an acknowledgement `a`: size check, then
`queue_control`. `f` builds the error exits, `k` the result once `a` is queued. -/
theorem owe_eq {α : Type} (r : Runtime) (o : Outbound) (a : ControlAction)
    (ha : a.typ = MT_PubAck ∨ a.typ = MT_PubRec ∨ a.typ = MT_PubComp) (f : Err → α) (k : Outbound → α) :
    (match checkSize r (encodeControl a) with
      | .error e => f e
      | .ok () =>
        match o.queueControl a with
        | none => f .inflightExhausted
        | some o' => k o') =
    if r.packetTooLarge 5 then f .packetTooLarge
    else if o.control.length < MAX_PENDING_CONTROL then
      k { o with control := o.control ++ [{ action := a, state := .write 0 }] }
    else f .inflightExhausted := by
  rw [checkSize_five r ⟨_, encodeControl_ack a ha, rfl⟩, queueControl_eq]
  cases r.packetTooLarge 5
  · by_cases h2 : o.control.length < MAX_PENDING_CONTROL
    · simp only [if_pos h2]; rfl
    · simp only [if_neg h2]; rfl
  · rfl

/-- The state after an acknowledgement `a` was queued. -/
def SessionData.withControl (d : SessionData) (a : ControlAction) : SessionData :=
  { d with outbound := { d.outbound with control := d.outbound.control ++ [{ action := a, state := .write 0 }] } }

/-- Common tail of the three inbound cases that owe the broker an acknowledgement: size check,
then `queue_control`. -/
def ackOutcome (d : SessionData) (r : Runtime) (a : ControlAction) (deliver : Bool) :
    SessionData × Runtime × Except Err Bool :=
  if r.packetTooLarge 5 then (d, r, .error .packetTooLarge)
  else if d.outbound.control.length < MAX_PENDING_CONTROL then (d.withControl a, r, .ok deliver)
  else (d, r, .error .inflightExhausted)

theorem handlePacket_publish0 (d : SessionData) (r : Runtime) (t : Bytes) (id : Option Nat) (pr pl : Bytes)
    (rt dup : Bool) : handlePacket d r (.publish t id pr pl rt 0 dup) = (d, r, .ok true) := rfl

theorem handlePacket_publish_noid (d : SessionData) (r : Runtime) (t : Bytes) (pr pl : Bytes)
    (rt dup : Bool) (qos : Nat) (hq : qos ≠ 0) :
    handlePacket d r (.publish t none pr pl rt qos dup) = (d, r, .error .peerInvalid) ∧
    handlePacket d r (.publish t (some 0) pr pl rt qos dup) = (d, r, .error .peerInvalid) := by
  simp only [handlePacket, hq, if_false, if_true, and_self]

/-- The reason code of the PUBACK for an inbound QoS 1 PUBLISH `id`. -/
def qos1Rc (l : List Nat) (id : Nat) : Nat := if l.contains id then RC_PacketIdInUse else RC_Success

theorem handlePacket_publish1 (d : SessionData) (r : Runtime) (t : Bytes) (id : Nat) (pr pl : Bytes)
    (rt dup : Bool) (hid : id ≠ 0) :
    handlePacket d r (.publish t (some id) pr pl rt 1 dup) =
      ackOutcome d r { typ := MT_PubAck, id := id, rc := qos1Rc d.pendingServerIds id } true := by
  simp only [qos1Rc, handlePacket, show ((1 : Nat) = 0) = False by simp, if_false, hid, if_true]
  exact owe_eq r d.outbound _ (.inl rfl) _ _

/-- The list of inbound QoS 2 identifiers and the PUBREC reason after a QoS 2 PUBLISH `id`. -/
def qos2Ids (l : List Nat) (id : Nat) : List Nat × Nat :=
  if l.contains id then (l, RC_Success)
  else if l.length < MAX_INBOUND_QOS2 then (l ++ [id], RC_Success) else (l, RC_ReceiveMaxExceeded)

/-- The outcome of owing the PUBREC for an inbound QoS 2 PUBLISH: as `ackOutcome`, and the list of
inbound QoS 2 identifiers becomes `ids` only if the PUBREC was queued (repair of F24). -/
def ackOutcome2 (d : SessionData) (r : Runtime) (a : ControlAction) (deliver : Bool) (ids : List Nat) :
    SessionData × Runtime × Except Err Bool :=
  if r.packetTooLarge 5 then (d, r, .error .packetTooLarge)
  else if d.outbound.control.length < MAX_PENDING_CONTROL then
    ({ d.withControl a with pendingServerIds := ids }, r, .ok deliver)
  else (d, r, .error .inflightExhausted)

theorem handlePacket_publish2 (d : SessionData) (r : Runtime) (t : Bytes) (id : Nat) (pr pl : Bytes)
    (rt dup : Bool) (qos : Nat) (hid : id ≠ 0) (hq0 : qos ≠ 0) (hq1 : qos ≠ 1) :
    handlePacket d r (.publish t (some id) pr pl rt qos dup) =
      ackOutcome2 d r { typ := MT_PubRec, id := id, rc := (qos2Ids d.pendingServerIds id).2 }
        (!d.pendingServerIds.contains id && decide (d.pendingServerIds.length < MAX_INBOUND_QOS2))
        (qos2Ids d.pendingServerIds id).1 := by
  simp only [handlePacket, hq0, hq1, if_false, hid]
  refine (owe_eq r d.outbound _ (.inr (.inl rfl)) _ _).trans ?_
  unfold ackOutcome2 qos2Ids SessionData.withControl
  -- the three cases of `qos2Ids`: a duplicate, a new identifier with room for it, one too many
  cases hc : d.pendingServerIds.contains id
  · by_cases hl : d.pendingServerIds.length < MAX_INBOUND_QOS2
    · simp only [hl, if_true, decide_true]; rfl
    · simp only [hl, if_false, decide_false]; rfl
  · rfl

theorem handlePacket_pubRel0 (d : SessionData) (r : Runtime) (rs : ReasonIn) :
    handlePacket d r (.pubRel 0 rs) = (d, r, .error .peerInvalid) := rfl

theorem handlePacket_pubRel (d : SessionData) (r : Runtime) (id : Nat) (rs : ReasonIn) (hid : id ≠ 0) :
    handlePacket d r (.pubRel id rs) =
      if d.pendingServerIds.contains id then
        ackOutcome { d with pendingServerIds := handlePacket.swapRemove d.pendingServerIds id } r
          { typ := MT_PubComp, id := id, rc := RC_Success } false
      else ackOutcome d r { typ := MT_PubComp, id := id, rc := RC_PacketIdNotFound } false := by
  simp only [handlePacket, hid, if_false]
  by_cases hc : d.pendingServerIds.contains id = true <;> simp only [hc, if_true, if_false, Bool.false_eq_true] <;>
    exact owe_eq r d.outbound _ (.inr (.inr rfl)) _ _

/-- The state after `ack_packet id k`. -/
def SessionData.acked (d : SessionData) (id : Nat) (k : AckKind) : SessionData :=
  { d with outbound := (d.outbound.ackPacket id k).1 }

/-- Does the retained list hold a packet that `(id, k)` acknowledges? -/
def SessionData.awaits (d : SessionData) (id : Nat) (k : AckKind) : Bool :=
  d.outbound.retained.any (ackPred d.outbound id k)

theorem handlePacket_subAck (d : SessionData) (r : Runtime) (id : Nat) (pr codes : Bytes) :
    handlePacket d r (.subAck id pr codes) =
      if d.awaits id .subAck then
        (d.acked id .subAck, r, match firstFailure codes with
          | some rc => .error (.peerRejected rc)
          | none => .ok false)
      else (d, r, .ok false) := by
  simp only [handlePacket, SessionData.awaits, ← ackPacket_found_iff, SessionData.acked]
  cases (d.outbound.ackPacket id .subAck).2 <;> simp <;> split <;> simp_all

theorem handlePacket_unsubAck (d : SessionData) (r : Runtime) (id : Nat) (pr codes : Bytes) :
    handlePacket d r (.unsubAck id pr codes) =
      if d.awaits id .unsubAck then
        (d.acked id .unsubAck, r, match firstFailure codes with
          | some rc => .error (.peerRejected rc)
          | none => .ok false)
      else (d, r, .ok false) := by
  simp only [handlePacket, SessionData.awaits, ← ackPacket_found_iff, SessionData.acked]
  cases (d.outbound.ackPacket id .unsubAck).2 <;> simp <;> split <;> simp_all

theorem handlePacket_pubAck (d : SessionData) (r : Runtime) (id : Nat) (rs : ReasonIn) :
    handlePacket d r (.pubAck id rs) =
      if d.awaits id .pubAck then
        (d.acked id .pubAck, quotaInc r,
          if reasonSuccess rs.rc then .ok false else .error (.peerRejected rs.rc))
      else (d, r, .ok false) := by
  simp only [handlePacket, SessionData.awaits, ← ackPacket_found_iff, SessionData.acked]
  cases (d.outbound.ackPacket id .pubAck).2 <;> simp <;> split <;> simp_all

/-- The state after a release entry for `id` was appended (`ps`, the entry's `rser` and the counter
`nextRser` are ghost). -/
def SessionData.withRelease (d : SessionData) (id : Nat) (ps : Nat := 0) : SessionData :=
  { d with outbound := { d.outbound with
      release := d.outbound.release ++ [{ id := id, rc := RC_Success, state := .write 0, rser := d.outbound.nextRser, pser := ps }],
      nextRser := d.outbound.nextRser + 1 } }

theorem handlePacket_pubRec (d : SessionData) (r : Runtime) (id : Nat) (rs : ReasonIn) :
    handlePacket d r (.pubRec id rs) =
      if d.awaits id .pubRec then
        if !reasonSuccess rs.rc then (d.acked id .pubRec, quotaInc r, .error (.peerRejected rs.rc))
        else if r.packetTooLarge 5 then (d.acked id .pubRec, r, .error .packetTooLarge)
        else if d.outbound.release.length < MAX_PENDING_RELEASE then
          ((d.acked id .pubRec).withRelease id (d.outbound.ackedSer id .pubRec), r, .ok false)
        else (d.acked id .pubRec, r, .error .inflightExhausted)
      else if d.outbound.hasPendingRelease id && !reasonSuccess rs.rc then (d, r, .error (.peerRejected rs.rc))
      else (d, r, .ok false) := by
  simp only [handlePacket, SessionData.awaits, ← ackPacket_found_iff, SessionData.acked]
  cases hf : (d.outbound.ackPacket id .pubRec).2
  · simp only [Bool.false_eq_true, if_false]
    by_cases h1 : d.outbound.hasPendingRelease id = true <;> by_cases h2 : reasonSuccess rs.rc = true <;> simp [h1, h2]
  · simp only [if_true]
    by_cases h2 : reasonSuccess rs.rc = true
    · simp only [h2, Bool.not_true, Bool.false_eq_true, if_false]
      rw [checkSize_five r (encodePubrel_len id RC_Success), queueRelease_eq, (ackPacket_frame d.outbound id .pubRec).2.1]
      by_cases h3 : r.packetTooLarge 5 = true
      · simp [h3]
      · by_cases h4 : d.outbound.release.length < MAX_PENDING_RELEASE
        · simp [h3, h4, SessionData.withRelease, (ackPacket_frame d.outbound id .pubRec).2.1, ackPacket_nextRser]
        · simp [h3, h4]
    · simp [h2]

theorem handlePacket_pubComp (d : SessionData) (r : Runtime) (id : Nat) (rs : ReasonIn) :
    handlePacket d r (.pubComp id rs) =
      if d.outbound.hasPendingRelease id then
        ({ d with outbound := { d.outbound with release := removeFirst (fun e => e.id == id) d.outbound.release } },
          quotaInc r, if reasonSuccess rs.rc then .ok false else .error (.peerRejected rs.rc))
      else (d, r, .ok false) := by
  simp only [handlePacket, ackRelease_eq]
  by_cases h : d.outbound.hasPendingRelease id = true
  · simp only [h, if_true, Bool.not_true, Bool.false_eq_true, if_false]
    split <;> rfl
  · simp [h]

theorem handlePacket_other (d : SessionData) (r : Runtime) :
    (∀ sp rc pr, handlePacket d r (.connAck sp rc pr) = (d, r, .error .peerInvalid)) ∧
    handlePacket d r .pingResp = (d, { r with pingTimeout := none }, .ok false) ∧
    (∀ rc pr, handlePacket d r (.disconnect rc pr) = (d, r, .error .disconnected)) :=
  ⟨fun _ _ _ => rfl, rfl, fun _ _ => rfl⟩

/-- `HandleOutcome d r (d', r', res)`: every way through `handle_packet`, by what it does to the session.
Of `d` only the outbound queues and the inbound QoS 2 identifiers ever change, of `r` only the send
quota and the ping timeout. In `unsent` and `queued`, `a` is the acknowledgement owed for a PUBLISH
(PUBACK, PUBREC) or a PUBREL (PUBCOMP). -/
inductive HandleOutcome (d : SessionData) (r : Runtime) : SessionData × Runtime × Except Err Bool → Prop
  /-- Nothing to do (QoS 0 PUBLISH, an acknowledgement nothing waits for, a late PUBREC), or a
  packet the broker must not send (CONNACK, DISCONNECT, identifier 0). -/
  | skip (res : Except Err Bool)
      (hres : ∀ e, res = .error e → e = .peerInvalid ∨ e = .disconnected ∨ ∃ rc, e = .peerRejected rc) :
      HandleOutcome d r (d, r, res)
  | pingResp : HandleOutcome d r (d, { r with pingTimeout := none }, .ok false)
  /-- SUBACK, UNSUBACK. -/
  | acked (id : Nat) (k : AckKind) (res : Except Err Bool) (hk : k = .subAck ∨ k = .unsubAck)
      (found : (d.outbound.ackPacket id k).2 = true) (hres : ∀ e, res = .error e → ∃ rc, e = .peerRejected rc) :
      HandleOutcome d r ({ d with outbound := (d.outbound.ackPacket id k).1 }, r, res)
  /-- PUBACK: the exchange is over and its quota comes back. -/
  | pubAck (id : Nat) (res : Except Err Bool) (found : (d.outbound.ackPacket id .pubAck).2 = true)
      (hres : ∀ e, res = .error e → ∃ rc, e = .peerRejected rc) :
      HandleOutcome d r ({ d with outbound := (d.outbound.ackPacket id .pubAck).1 }, quotaInc r, res)
  /-- PUBREC with a failure code: the exchange is over and its quota comes back. -/
  | pubRecFailed (id rc : Nat) (found : (d.outbound.ackPacket id .pubRec).2 = true) :
      HandleOutcome d r ({ d with outbound := (d.outbound.ackPacket id .pubRec).1 }, quotaInc r, .error (.peerRejected rc))
  /-- PUBREC whose PUBREL is over the size limit or finds the release queue full: the PUBLISH is
  dropped all the same, and no quota comes back. -/
  | pubRecStuck (id : Nat) (e : Err) (found : (d.outbound.ackPacket id .pubRec).2 = true)
      (he : e = .packetTooLarge ∧ r.packetTooLarge 5 = true ∨
        e = .inflightExhausted ∧
          (d.outbound.ackPacket id .pubRec).1.queueRelease id RC_Success (d.outbound.ackedSer id .pubRec) = none) :
      HandleOutcome d r ({ d with outbound := (d.outbound.ackPacket id .pubRec).1 }, r, .error e)
  | pubRecReleased (id : Nat) (o' : Outbound) (found : (d.outbound.ackPacket id .pubRec).2 = true)
      (fits : r.packetTooLarge 5 = false)
      (hq : (d.outbound.ackPacket id .pubRec).1.queueRelease id RC_Success (d.outbound.ackedSer id .pubRec) = some o') :
      HandleOutcome d r ({ d with outbound := o' }, r, .ok false)
  | pubComp (id : Nat) (res : Except Err Bool) (found : (d.outbound.ackRelease id).2 = true)
      (hres : ∀ e, res = .error e → ∃ rc, e = .peerRejected rc) :
      HandleOutcome d r ({ d with outbound := (d.outbound.ackRelease id).1 }, quotaInc r, res)
  /-- The acknowledgement owed is over the size limit or finds the control queue full. A PUBREL has
  taken its identifier off the list by then. -/
  | unsent (a : ControlAction) (ids : List Nat) (e : Err)
      (ha : a.typ = MT_PubAck ∨ a.typ = MT_PubRec ∨ a.typ = MT_PubComp)
      (hids : ids = d.pendingServerIds ∨ ids = handlePacket.swapRemove d.pendingServerIds a.id)
      (he : e = .packetTooLarge ∧ r.packetTooLarge 5 = true ∨ e = .inflightExhausted ∧ d.outbound.queueControl a = none) :
      HandleOutcome d r ({ d with pendingServerIds := ids }, r, .error e)
  | queued (a : ControlAction) (o' : Outbound) (ids : List Nat) (deliver : Bool)
      (ha : a.typ = MT_PubAck ∨ a.typ = MT_PubRec ∨ a.typ = MT_PubComp)
      (hids : ids = d.pendingServerIds ∨ ids = handlePacket.swapRemove d.pendingServerIds a.id ∨
        ids = d.pendingServerIds ++ [a.id])
      (fits : r.packetTooLarge 5 = false) (hq : d.outbound.queueControl a = some o') :
      HandleOutcome d r ({ d with outbound := o', pendingServerIds := ids }, r, .ok deliver)

/-- Owing the broker the acknowledgement `a` (`ackOutcome`, `ackOutcome2`): `ids0` is the list of inbound QoS 2
identifiers at the error exits, `ids1` the list once `a` is queued. -/
theorem HandleOutcome.owe {d : SessionData} {r : Runtime} (a : ControlAction) (ids0 ids1 : List Nat) (deliver : Bool)
    (ha : a.typ = MT_PubAck ∨ a.typ = MT_PubRec ∨ a.typ = MT_PubComp)
    (h0 : ids0 = d.pendingServerIds ∨ ids0 = handlePacket.swapRemove d.pendingServerIds a.id)
    (h1 : ids1 = d.pendingServerIds ∨ ids1 = handlePacket.swapRemove d.pendingServerIds a.id ∨
        ids1 = d.pendingServerIds ++ [a.id]) :
    HandleOutcome d r
      (if r.packetTooLarge 5 then ({ d with pendingServerIds := ids0 }, r, .error .packetTooLarge)
       else if d.outbound.control.length < MAX_PENDING_CONTROL then
         ({ d.withControl a with pendingServerIds := ids1 }, r, .ok deliver)
       else ({ d with pendingServerIds := ids0 }, r, .error .inflightExhausted)) := by
  cases hb : r.packetTooLarge 5 with
  | true => exact .unsent a ids0 _ ha h0 (.inl ⟨rfl, hb⟩)
  | false =>
    by_cases hl : d.outbound.control.length < MAX_PENDING_CONTROL
    · rw [if_neg nofun, if_pos hl]
      exact .queued a _ ids1 deliver ha h1 hb (by rw [queueControl_eq, if_pos hl]; rfl)
    · rw [if_neg nofun, if_neg hl]
      exact .unsent a ids0 _ ha h0 (.inr ⟨rfl, by rw [queueControl_eq, if_neg hl]⟩)

theorem HandleOutcome.ofAwaits {d : SessionData} {r : Runtime} {id : Nat} {k : AckKind}
    {out : SessionData × Runtime × Except Err Bool}
    (h : (d.outbound.ackPacket id k).2 = true → HandleOutcome d r out) :
    HandleOutcome d r (if d.awaits id k then out else (d, r, .ok false)) :=
  ite_ind (fun ha => h ((ackPacket_found_iff ..).trans ha)) fun _ => .skip _ nofun

theorem handlePacket_outcome (d : SessionData) (r : Runtime) (p : Recv) : HandleOutcome d r (handlePacket d r p) := by
  -- by packet kind: the equation of that kind, its `if`s taken apart by `ite_ind`, each leaf one constructor
  obtain ⟨connAck, pingResp, disconnect⟩ := handlePacket_other d r
  cases p with
  | connAck sp rc props => rw [connAck]; exact .skip _ fun e he => by cases he; exact .inl rfl
  | disconnect rc props => rw [disconnect]; exact .skip _ fun e he => by cases he; exact .inr (.inl rfl)
  | pingResp => rw [pingResp]; exact .pingResp
  | subAck id props codes =>
    rw [handlePacket_subAck]
    exact .ofAwaits fun hf => .acked id .subAck _ (.inl rfl) hf fun e he => by split at he <;> cases he; exact ⟨_, rfl⟩
  | unsubAck id props codes =>
    rw [handlePacket_unsubAck]
    exact .ofAwaits fun hf => .acked id .unsubAck _ (.inr rfl) hf fun e he => by split at he <;> cases he; exact ⟨_, rfl⟩
  | pubAck id rs =>
    rw [handlePacket_pubAck]
    exact .ofAwaits fun hf => .pubAck id _ hf fun e he => by split at he <;> cases he; exact ⟨_, rfl⟩
  | pubComp id rs =>
    rw [handlePacket_pubComp]
    refine ite_ind (P := HandleOutcome d r) (fun hp => ?_) fun _ => .skip _ nofun
    have e := (ackRelease_eq d.outbound id).trans (if_pos hp)
    have h := HandleOutcome.pubComp (r := r) id (if reasonSuccess rs.rc then .ok false else .error (.peerRejected rs.rc))
      (congrArg Prod.snd e) fun e he => by split at he <;> cases he; exact ⟨_, rfl⟩
    rwa [e] at h
  | pubRec id rs =>
    rw [handlePacket_pubRec]
    have hrel := (ackPacket_frame d.outbound id .pubRec).2.1
    refine ite_ind (P := HandleOutcome d r) (fun ha => ?_) fun _ =>
      ite_ind (fun _ => .skip _ fun e he => by cases he; exact .inr (.inr ⟨_, rfl⟩)) fun _ => .skip _ nofun
    have hf := (ackPacket_found_iff ..).trans ha
    exact ite_ind (fun _ => .pubRecFailed id _ hf) fun _ =>
      ite_ind (fun hb => .pubRecStuck id _ hf (.inl ⟨rfl, hb⟩)) fun hb =>
        ite_ind
          (fun hl => .pubRecReleased id _ hf (by simpa using hb) (by rw [queueRelease_eq, if_pos (by rw [hrel]; exact hl)]; rfl))
          fun hl => .pubRecStuck id _ hf (.inr ⟨rfl, by rw [queueRelease_eq, if_neg (by rw [hrel]; exact hl)]⟩)
  | pubRel id rs =>
    by_cases h0 : id = 0
    · rw [h0, handlePacket_pubRel0]; exact .skip _ fun e he => by cases he; exact .inl rfl
    · rw [handlePacket_pubRel d r id rs h0]
      exact ite_ind
        (fun _ => .owe ⟨MT_PubComp, id, RC_Success⟩ _ _ false (.inr (.inr rfl)) (.inr rfl) (.inr (.inl rfl)))
        fun _ => .owe ⟨MT_PubComp, id, RC_PacketIdNotFound⟩ d.pendingServerIds d.pendingServerIds false (.inr (.inr rfl))
          (.inl rfl) (.inl rfl)
  | publish topic id props payload retain qos dup =>
    have noid := handlePacket_publish_noid d r topic props payload retain dup qos
    by_cases hq0 : qos = 0
    · rw [hq0, handlePacket_publish0]; exact .skip _ nofun
    · cases id with
      | none => rw [(noid hq0).1]; exact .skip _ fun e he => by cases he; exact .inl rfl
      | some id =>
        by_cases h0 : id = 0
        · subst h0; rw [(noid hq0).2]; exact .skip _ fun e he => by cases he; exact .inl rfl
        · by_cases hq1 : qos = 1
          · subst hq1
            rw [handlePacket_publish1 d r topic id props payload retain dup h0]
            exact .owe _ d.pendingServerIds d.pendingServerIds true (.inl rfl) (.inl rfl) (.inl rfl)
          · rw [handlePacket_publish2 d r topic id props payload retain dup qos h0 hq0 hq1]
            refine .owe _ d.pendingServerIds _ _ (.inr (.inl rfl)) (.inl rfl) ?_
            unfold qos2Ids
            split
            · exact .inl rfl
            · split
              · exact .inr (.inr rfl)
              · exact .inl rfl

theorem handlePacket_data (d : SessionData) (r : Runtime) (p : Recv) :
    ∃ o ids, (handlePacket d r p).1 = { d with outbound := o, pendingServerIds := ids } := by
  have h := handlePacket_outcome d r p
  generalize handlePacket d r p = out at h ⊢
  cases h <;> exact ⟨_, _, rfl⟩

theorem handlePacket_rt (d : SessionData) (r : Runtime) (p : Recv) :
    (handlePacket d r p).2.1 = r ∨ (handlePacket d r p).2.1 = quotaInc r ∨
    (handlePacket d r p).2.1 = { r with pingTimeout := none } := by
  have h := handlePacket_outcome d r p
  generalize handlePacket d r p = out at h ⊢
  cases h with
  | pingResp => exact .inr (.inr rfl)
  | pubAck | pubRecFailed | pubComp => exact .inr (.inl rfl)
  | _ => exact .inl rfl

/-- The outbound queues, the runtime and the result after `handle_packet`, from those before, in terms of the
queue operations (`ack_packet` and `ack_release` having found their entry): the view of `HandleOutcome` that forgets
the inbound QoS 2 identifiers and where an error comes from. An invariant of the queues or of the quota is shown to
survive an inbound packet by `cases` on this. -/
inductive Handled (o : Outbound) (r : Runtime) : Outbound → Runtime → Except Err Bool → Prop
  | same (res : Except Err Bool) : Handled o r o r res
  | pingResp : Handled o r o { r with pingTimeout := none } (.ok false)
  | control (a : ControlAction) (o' : Outbound) (dl : Bool) (hq : o.queueControl a = some o') : Handled o r o' r (.ok dl)
  | acked (id : Nat) (k : AckKind) (res : Except Err Bool) (hk : k = .subAck ∨ k = .unsubAck)
      (hf : (o.ackPacket id k).2 = true) : Handled o r (o.ackPacket id k).1 r res
  | pubAck (id : Nat) (res : Except Err Bool) (hf : (o.ackPacket id .pubAck).2 = true) :
      Handled o r (o.ackPacket id .pubAck).1 (quotaInc r) res
  | pubRecFailed (id rc : Nat) (hf : (o.ackPacket id .pubRec).2 = true) :
      Handled o r (o.ackPacket id .pubRec).1 (quotaInc r) (.error (.peerRejected rc))
  | pubRecTooLarge (id : Nat) (hf : (o.ackPacket id .pubRec).2 = true) :
      Handled o r (o.ackPacket id .pubRec).1 r (.error .packetTooLarge)
  | pubRecFull (id : Nat) (hf : (o.ackPacket id .pubRec).2 = true) (hfull : MAX_PENDING_RELEASE ≤ o.release.length) :
      Handled o r (o.ackPacket id .pubRec).1 r (.error .inflightExhausted)
  | pubRec (id ps : Nat) (o' : Outbound) (hf : (o.ackPacket id .pubRec).2 = true)
      (hq : (o.ackPacket id .pubRec).1.queueRelease id RC_Success ps = some o') : Handled o r o' r (.ok false)
  | pubComp (id : Nat) (res : Except Err Bool) (hf : (o.ackRelease id).2 = true) :
      Handled o r (o.ackRelease id).1 (quotaInc r) res

theorem handlePacket_handled (d : SessionData) (r : Runtime) (p : Recv) :
    Handled d.outbound r (handlePacket d r p).1.outbound (handlePacket d r p).2.1 (handlePacket d r p).2.2 := by
  have h := handlePacket_outcome d r p
  generalize handlePacket d r p = out at h ⊢
  cases h with
  | skip res | unsent => exact .same _
  | pingResp => exact .pingResp
  | acked id k res hk hf => exact .acked id k res hk hf
  | pubAck id res hf => exact .pubAck id res hf
  | pubRecFailed id rc hf => exact .pubRecFailed id rc hf
  | pubRecStuck id e hf he =>
    rcases he with ⟨rfl, _⟩ | ⟨rfl, hq⟩
    · exact .pubRecTooLarge id hf
    · exact .pubRecFull id hf (ackPacket_release d.outbound id .pubRec ▸ queueRelease_full hq)
  | pubRecReleased id o' hf _ hq => exact .pubRec id _ o' hf hq
  | pubComp id res hf => exact .pubComp id res hf
  | queued a o' ids dl _ _ _ hq => exact .control a o' dl hq

theorem acts_modifyFirst_state (p : PendingControl → Bool) (st : SendState) (l : List PendingControl) :
    (modifyFirst p (fun e => { e with state := st }) l).map (·.action) = l.map (·.action) :=
  modifyFirst_map_id p (fun e => { e with state := st }) (·.action) (fun _ => rfl) l

/-- From `o` to `o'` only send states moved (and control entries went): the buffer, every retained
packet's serial, identifier and place, and the identifiers of the release entries are the same. -/
structure StatesOnly (o o' : Outbound) : Prop where
  buf : o'.buf = o.buf
  used : o'.used = o.used
  nextSer : o'.nextSer = o.nextSer
  retained : o'.retained.map (fun e => (e.ser, e.id, e.offset, e.len)) =
    o.retained.map (fun e => (e.ser, e.id, e.offset, e.len))
  release : o'.release.map (·.id) = o.release.map (·.id)
  relTags : o'.release.map (fun e => (e.rser, e.pser, e.id, e.rc)) = o.release.map (fun e => (e.rser, e.pser, e.id, e.rc))
  nextRser : o'.nextRser = o.nextRser

def Outbound.setWritten (o : Outbound) (pkt : Flushed) (written len : Nat) : Outbound :=
  match pkt with
  | .control a => o.setControlWritten a written len
  | .release id => o.setReleaseWritten id written len
  | .retained id => o.setRetainedWritten id written len

def Outbound.completeFlush (o : Outbound) (pkt : Flushed) : Outbound :=
  match pkt with
  | .control a => o.flushControl a
  | .release id => o.flushRelease id
  | .retained id => o.flushRetained id

theorem Session.setWritten_outbound (s : Session) (pkt : Flushed) (a c : Nat) :
    (s.setWritten pkt a c).data.outbound = s.data.outbound.setWritten pkt a c := by
  cases pkt <;> rfl

theorem Session.completeFlush_outbound (s : Session) (pkt : Flushed) (now : Nat) :
    (s.completeFlush pkt now).data.outbound = s.data.outbound.completeFlush pkt := by
  cases pkt <;> rfl

theorem Outbound.setWritten_states (o : Outbound) (pkt : Flushed) (a c : Nat) : StatesOnly o (o.setWritten pkt a c) := by
  cases pkt with
  | control x => exact ⟨rfl, rfl, rfl, rfl, rfl, rfl, rfl⟩
  | release id =>
    exact ⟨rfl, rfl, rfl, rfl, modifyFirst_map_id _ _ _ (by intro; rfl) _, modifyFirst_map_id _ _ _ (by intro; rfl) _, rfl⟩
  | retained id => exact ⟨rfl, rfl, rfl, modifyFirst_map_id _ _ _ (by intro; rfl) _, rfl, rfl, rfl⟩

theorem Outbound.completeFlush_states (o : Outbound) (pkt : Flushed) : StatesOnly o (o.completeFlush pkt) := by
  cases pkt with
  | control x => exact ⟨rfl, rfl, rfl, rfl, rfl, rfl, rfl⟩
  | release id =>
    exact ⟨rfl, rfl, rfl, rfl, modifyFirst_map_id _ _ _ (by intro; rfl) _, modifyFirst_map_id _ _ _ (by intro; rfl) _, rfl⟩
  | retained id => exact ⟨rfl, rfl, rfl, modifyFirst_map_id _ _ _ (by intro; rfl) _, rfl, rfl, rfl⟩

theorem Session.setWritten_states (s : Session) (pkt : Flushed) (a c : Nat) :
    StatesOnly s.data.outbound (s.setWritten pkt a c).data.outbound :=
  s.setWritten_outbound pkt a c ▸ s.data.outbound.setWritten_states pkt a c

theorem Session.completeFlush_states (s : Session) (pkt : Flushed) (now : Nat) :
    StatesOnly s.data.outbound (s.completeFlush pkt now).data.outbound :=
  s.completeFlush_outbound pkt now ▸ s.data.outbound.completeFlush_states pkt

theorem StatesOnly.IdInv {o o' : Outbound} (hs : StatesOnly o o') (h : o.IdInv) : o'.IdInv :=
  IdInv_flush_like h (by have := congrArg (List.map (·.2.1)) hs.retained; rwa [List.map_map, List.map_map] at this)
    hs.release

theorem handlePacket_IdInv (d : SessionData) (r : Runtime) (p : Recv) (h : d.IdInv) :
    (handlePacket d r p).1.IdInv := by
  have hd := handlePacket_outcome d r p
  generalize handlePacket d r p = out at hd ⊢
  cases hd with
  | skip | pingResp | unsent => exact ⟨h.out, h.pid⟩
  | acked id k | pubAck id | pubRecFailed id | pubRecStuck id => exact ⟨(IdInv_ackPacket h.out).1, h.pid⟩
  | pubRecReleased id o' found _ hq =>
    -- the identifier was in use (by the PUBLISH just acknowledged), so it is not 0, and is free now
    obtain ⟨hi, hfree⟩ := IdInv_ackPacket (id := id) (k := .pubRec) h.out
    have hnz : id ≠ 0 := fun h0 => h.out.nonzero (h0 ▸ ackPacket_found_mem found)
    exact ⟨IdInv_queueRelease hi (hfree found) hnz hq, h.pid⟩
  | pubComp => exact ⟨IdInv_ackRelease h.out, h.pid⟩
  | queued a o' ids dl ha hids fits hq => exact ⟨IdInv_queueControl h.out hq, h.pid⟩

theorem closed_IdInv : Closed (fun s => s.data.IdInv) :=
  (closed_iff_prim _).2 fun s s' p h => by
    cases p with
    | queuePing _ _ _ hq =>
      rcases Session.queuePing_ok hq with rfl | ⟨o, ho, rfl⟩
      · exact h
      · exact ⟨IdInv_queueControl h.out ho, h.pid⟩
    | completeFlush _ pkt now => exact ⟨(s.completeFlush_states pkt now).IdInv h.out, h.pid⟩
    | setWritten _ pkt a c => exact ⟨(s.setWritten_states pkt a c).IdInv h.out, h.pid⟩
    | takePkt => rw [Session.takePkt_fst]; exact h
    | handle _ p => exact handlePacket_IdInv s.data s.rt p h
    | handleDisconnect | beginConnect => exact ⟨IdInv_rearm h.out, h.pid⟩
    | activate _ sp block now =>
      have h0 : (s.preActivate sp).data.IdInv := by
        cases sp
        · exact ⟨IdInv_clear s.data.outbound, by show 1 ≤ 1 ∧ 1 ≤ 65535; decide⟩
        · exact h
      rcases s.activate_cases sp block now with e | e <;> rw [e]
      · exact ⟨h0.out, h0.pid⟩
      · exact ⟨IdInv_rearm h0.out, h0.pid⟩
    | alloc => rw [Session.alloc_fst]; exact h.alloc.2.2
    | encodeConnect | encodeScratch => rw [Session.encode_fst]; exact ⟨IdInv_encodeAt _ h.out, h.pid⟩
    | encodeAfterAlloc _ enc =>
      rw [Session.alloc_encode_fst]; exact ⟨IdInv_encodeAt _ h.out, h.alloc.2.2.pid⟩
    | enqueue _ enc off len _ _ _ _ _ _ _ hres hr =>
      obtain ⟨o, _, ho, rfl⟩ := Session.enqueue_some hres hr
      rw [← nextPacketId_outbound s.data] at ho
      exact (enqueue_IdInv s.data h enc off len o ho).2.2
    | window _ _ _ hw => obtain ⟨rd, _, rfl⟩ := Session.window_some hw; exact h
    | setPid _ n h1 h2 => exact ⟨h.out, h1, h2⟩
    | clearPing | noteActivity | commit => exact h

/-- A property of the reader that `take_packet`, `reset`, `receive_buffer` and `commit` keep is kept by every
session primitive: nothing else touches the reader. -/
theorem closed_reader {P : Reader → Prop} (take : ∀ r, P r → P r.takePacket.1) (reset : ∀ r, P r → P r.reset)
    (window : ∀ r r1 n, P r → r.receiveWindow = some (r1, n) → P r1) (commit : ∀ r bytes, P r → P (r.commit bytes)) :
    Closed (fun s => P s.reader) :=
  (closed_iff_prim _).2 fun s s' p h => by
    cases p with
    | queuePing _ _ _ hq => rcases Session.queuePing_ok hq with rfl | ⟨o, _, rfl⟩ <;> exact h
    | takePkt => rw [Session.takePkt_fst]; exact take _ h
    | handleDisconnect | beginConnect => exact reset _ h
    | activate _ sp block now =>
      rcases s.activate_cases sp block now with e | e <;> rw [e] <;> cases sp <;> first | exact h | exact reset _ h
    | alloc => rw [Session.alloc_fst]; exact h
    | encodeConnect | encodeScratch => rw [Session.encode_fst]; exact h
    | encodeAfterAlloc => rw [Session.alloc_encode_fst]; exact h
    | enqueue _ _ _ _ _ _ _ _ _ _ _ hres hr => obtain ⟨o, _, _, rfl⟩ := Session.enqueue_some hres hr; exact h
    | window _ _ _ hw => obtain ⟨rd, hrw, rfl⟩ := Session.window_some hw; exact window _ _ _ h hrw
    | commit _ bytes => exact commit _ _ h
    | _ => exact h

end Minimq
