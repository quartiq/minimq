import Minimq.Proofs.Ev
/-
`handles`, `lastRes` and the trace are write-only: no machine function, `poll` or directive reads them —
`handles` is appended to and its length printed (`finishOp`), `lastRes` is overwritten, the trace is
prepended to. Said of two runs: a relation between worlds that agree on everything else, that is a relation on
those three fields alone (`Unread.anyCore`) and is closed under the three writes, is kept by the thirteen
machine functions (`Unread.keeps`, induction on the fuel), by `poll` and by every directive
(`Unread.execDirective`). Inside a step the first world is written as the second with other handles, last
result and trace (`Unread.eq_withH`), so that everything the function reads is the same term in both runs.

The first instance is `a = b.addOld o`: further lines at the old end of the trace stay there
(`run_addOld`). The second, `HSim` of `FinCongr.lean`, lets the handle lists differ.
-/
namespace Minimq
open Gen World Fuel

def World.addOld (w : World) (o : List String) : World := { w with out := w.out ++ o }

theorem addOld_addOld (w : World) (a c : List String) : (w.addOld a).addOld c = w.addOld (a ++ c) := by
  simp [World.addOld, List.append_assoc]

theorem addOld_nil (w : World) : w.addOld [] = w := by
  simp [World.addOld]

theorem addOld_conn (w : World) (o : List String) : (w.addOld o).conn = w.conn := rfl
theorem addOld_nets (w : World) (o : List String) : (w.addOld o).nets = w.nets := rfl
theorem addOld_fut (w : World) (o : List String) : (w.addOld o).fut = w.fut := rfl
theorem addOld_handles (w : World) (o : List String) : (w.addOld o).handles = w.handles := rfl
theorem addOld_starved (w : World) (o : List String) : (w.addOld o).lastIoStarved = w.lastIoStarved := rfl
theorem addOld_wakes (w : World) (o : List String) : (w.addOld o).wakes = w.wakes := rfl
theorem addOld_lastRes (w : World) (o : List String) : (w.addOld o).lastRes = w.lastRes := rfl
theorem addOld_tornNets (w : World) (o : List String) : (w.addOld o).tornNets = w.tornNets := rfl
theorem addOld_log (w : World) (o : List String) : (w.addOld o).log = w.log := rfl
theorem addOld_out (w : World) (o : List String) : (w.addOld o).out = w.out ++ o := rfl
theorem addOld_live (w : World) (o : List String) : (w.addOld o).live = w.live := rfl
theorem addOld_curNet (w : World) (o : List String) : (w.addOld o).curNet = w.curNet := rfl
theorem addOld_netIdx (w : World) (o : List String) : (w.addOld o).netIdx = w.netIdx := rfl

theorem setSess_addOld (w : World) (o : List String) (s : Session) :
    ({ w.addOld o with sess := s } : World) = ({ w with sess := s } : World).addOld o := rfl
theorem setWakes_addOld (w : World) (o : List String) (a : Nat) :
    ({ w.addOld o with wakes := a } : World) = ({ w with wakes := a } : World).addOld o := rfl
theorem setSlot_addOld (w : World) (o : List String) (a : Option Nat) :
    ({ w.addOld o with slot := a } : World) = ({ w with slot := a } : World).addOld o := rfl
theorem setFut_addOld (w : World) (o : List String) (a : Option Pc) :
    ({ w.addOld o with fut := a } : World) = ({ w with fut := a } : World).addOld o := rfl
theorem setNow_addOld (w : World) (o : List String) (a : Nat) :
    ({ w.addOld o with now := a } : World) = ({ w with now := a } : World).addOld o := rfl
theorem pollPrep_addOld (w : World) (o : List String) :
    ({ w.addOld o with wakes := 0, lastIoStarved := false } : World) =
      ({ w with wakes := 0, lastIoStarved := false } : World).addOld o := rfl
theorem pollBase_addOld (w : World) (o : List String) :
    ({ sess := (w.addOld o).sess, conn := (w.addOld o).conn, nets := (w.addOld o).nets, fut := none,
       now := (w.addOld o).now, slot := (w.addOld o).slot, handles := (w.addOld o).handles,
       lastIoStarved := false, wakes := 0, lastRes := (w.addOld o).lastRes, out := (w.addOld o).out,
       tornNets := (w.addOld o).tornNets, log := (w.addOld o).log } : World) = w.pollBase.addOld o := rfl
theorem pollBase_addOld' (w : World) (o : List String) : (w.addOld o).pollBase = w.pollBase.addOld o := rfl
theorem emit_addOld (w : World) (o : List String) (l : String) : (w.addOld o).emit l = (w.emit l).addOld o := rfl
theorem finish_addOld (w : World) (o : List String) (l : String) : (w.addOld o).finish l = (w.finish l).addOld o := rfl
theorem finishErr_addOld (w : World) (o : List String) (op : String) (e : Err) :
    (w.addOld o).finishErr op e = (w.finishErr op e).addOld o := rfl
theorem suspend_addOld (w : World) (o : List String) (pc : Pc) :
    (w.addOld o).suspend pc = (w.suspend pc).addOld o := rfl
theorem handleDisconnect_addOld (w : World) (o : List String) :
    (w.addOld o).handleDisconnect = (w.handleDisconnect).addOld o := rfl
theorem finishOp_addOld (w : World) (o : List String) (n : String) (op : Op) :
    (w.addOld o).finishOp n op = (w.finishOp n op).addOld o := rfl
theorem setWritten_addOld (w : World) (o : List String) (pkt : Flushed) (a c : Nat) :
    (w.addOld o).setWritten pkt a c = (w.setWritten pkt a c).addOld o := rfl
theorem completeFlush_addOld (w : World) (o : List String) (pkt : Flushed) (now : Nat) :
    (w.addOld o).completeFlush pkt now = (w.completeFlush pkt now).addOld o := rfl
theorem setCurNet_addOld (w : World) (o : List String) (n : Net) :
    (w.addOld o).setCurNet n = (w.setCurNet n).addOld o := rfl
theorem prepareStep_addOld (w : World) (o : List String) (step : Outbound.Step) :
    prepareStep (w.addOld o) step = prepareStep w step := rfl

/-- Keeps the suspended future and the per-POLL flags: the machine functions read those. -/
def World.core (w : World) : World := { w with handles := [], lastRes := none, out := [] }

def World.withH (w : World) (hs : List Op) (lr : Option (Except Err Unit)) (o : List String) : World :=
  { w with handles := hs, lastRes := lr, out := o }

theorem eq_withH_of_core {a b : World} (h : a.core = b.core) : a = b.withH a.handles a.lastRes a.out := by
  cases a; cases b
  simp only [World.core, World.mk.injEq] at h
  obtain ⟨h1, h2, h3, h4, h5, h6, _, h8, h9, _, _, h12, h13⟩ := h
  subst h1 h2 h3 h4 h5 h6 h8 h9 h12 h13
  rfl

theorem withH_sess (w : World) (hs lr o) : (w.withH hs lr o).sess = w.sess := rfl
theorem withH_now (w : World) (hs lr o) : (w.withH hs lr o).now = w.now := rfl
theorem withH_live (w : World) (hs lr o) : (w.withH hs lr o).live = w.live := rfl
theorem withH_wakes (w : World) (hs lr o) : (w.withH hs lr o).wakes = w.wakes := rfl
theorem withH_conn (w : World) (hs lr o) : (w.withH hs lr o).conn = w.conn := rfl
theorem withH_fut (w : World) (hs lr o) : (w.withH hs lr o).fut = w.fut := rfl
theorem withH_slot (w : World) (hs lr o) : (w.withH hs lr o).slot = w.slot := rfl
theorem withH_starved (w : World) (hs lr o) : (w.withH hs lr o).lastIoStarved = w.lastIoStarved := rfl
theorem withH_nets (w : World) (hs lr o) : (w.withH hs lr o).nets = w.nets := rfl
theorem withH_curNet (w : World) (hs lr o) : (w.withH hs lr o).curNet = w.curNet := rfl
theorem prepareStep_withH (w : World) (hs lr o) (step : Outbound.Step) :
    prepareStep (w.withH hs lr o) step = prepareStep w step := rfl

theorem rel_pair {R : World → World → Prop} {α : Type} {pa pb : World × α} (h : R pa.1 pb.1 ∧ pa.2 = pb.2) :
    ∃ a1 b1 r, pa = (a1, r) ∧ pb = (b1, r) ∧ R a1 b1 := by
  obtain ⟨a1, ra⟩ := pa
  obtain ⟨b1, rb⟩ := pb
  obtain ⟨h1, rfl⟩ := h
  exact ⟨a1, b1, ra, rfl, rfl, h1⟩

def Fuel.Call.setWorld (v : World) : Call → Call
  | .FL _ k => .FL v k
  | .PS _ ctx step now => .PS v ctx step now
  | .DSW _ ctx pkt bytes written len now => .DSW v ctx pkt bytes written len now
  | .DSF _ ctx pkt now => .DSF v ctx pkt now
  | .SR _ ctx adv => .SR v ctx adv
  | .AF _ k => .AF v k
  | .DLW _ which bytes => .DLW v which bytes
  | .DLF _ which => .DLF v which
  | .DCR _ => .DCR v
  | .DL _ outer adv => .DL v outer adv
  | .DAS _ outer adv => .DAS v outer adv
  | .DE _ outer => .DE v outer
  | .DWR _ outer deadline yielded => .DWR v outer deadline yielded

theorem setWorld_world (v : World) (c : Call) : (c.setWorld v).world = v := by cases c <;> rfl

theorem resumeCall_setWorld (w v : World) (pc : Pc) : (resumeCall w pc).setWorld v = resumeCall v pc := by
  cases pc <;> rfl

def KeepsRel (R : World → World → Prop) (fuel : Nat) : Prop :=
  ∀ (c : Call) {a b : World}, R a b → R ((c.setWorld a).run fuel) ((c.setWorld b).run fuel)

/-- A relation on handles, last result and trace, closed under the three ways the machine writes them — a
printed line, a result, a registered handle (whose index `finishOp` prints) — read as a relation between
worlds: `eq_withH` says that related worlds agree on everything else, `anyCore` that it does not matter what
that common rest is. -/
structure Unread (R : World → World → Prop) : Prop where
  eq_withH : ∀ {a b}, R a b → ∃ hs lr o, a = b.withH hs lr o
  anyCore : ∀ {a b}, R a b → ∀ k : World, R (k.withH a.handles a.lastRes a.out) (k.withH b.handles b.lastRes b.out)
  emit : ∀ {a b}, R a b → ∀ l, R (a.emit l) (b.emit l)
  setRes : ∀ {a b}, R a b → ∀ r, R { a with lastRes := r } { b with lastRes := r }
  finishOp : ∀ {a b}, R a b → ∀ name op, R (a.finishOp name op) (b.finishOp name op)

namespace Unread
variable {R : World → World → Prop} (hR : Unread R) {a b : World} (h : R a b) {fuel : Nat}
include hR h

/-- For a `g` that commutes with replacing the three fields (the updates of the machine do, by unfolding):
both results are `g b` with the three fields of `a` and of `b`, which `anyCore` relates. -/
theorem upd (g : World → World) (hg : ∀ w hs lr o, g (w.withH hs lr o) = (g w).withH hs lr o := by intros; rfl) :
    R (g a) (g b) := by
  obtain ⟨hs, lr, o, rfl⟩ := hR.eq_withH h
  have := hR.anyCore h (g b)
  change R ((g b).withH hs lr o) ((g b).withH b.handles b.lastRes b.out) at this
  rwa [← hg, ← hg] at this

theorem setSess (s : Session) : R ({ a with sess := s } : World) ({ b with sess := s } : World) :=
  hR.upd h (fun w => { w with sess := s })

theorem suspend (pc : Pc) : R (a.suspend pc) (b.suspend pc) := hR.upd h (fun w => w.suspend pc)

theorem handleDisconnect : R a.handleDisconnect b.handleDisconnect := hR.upd h World.handleDisconnect

theorem ioLine (l : String) (x : Bool) :
    R { (a.emit l) with lastIoStarved := x } { (b.emit l) with lastIoStarved := x } :=
  hR.upd (hR.emit h l) (fun w => { w with lastIoStarved := x })

theorem discFail (ctx : StepCtx) : R (a.discFail ctx) (b.discFail ctx) := by
  unfold World.discFail
  split
  · exact hR.handleDisconnect h
  · exact h

theorem failStep (ctx : StepCtx) (st : Outbound.Step) : R (a.failStep ctx st) (b.failStep ctx st) := by
  cases st with
  | retained => exact hR.discFail h ctx
  | control | release => exact hR.handleDisconnect h

theorem discDone (which : Nat) : R (a.discDone which) (b.discDone which) :=
  rel_ite (fun _ => h) fun _ => rel_ite (fun _ => h) fun _ => hR.handleDisconnect h

theorem finish (l : String) : R (a.finish l) (b.finish l) := by
  obtain ⟨hs, lr, o, rfl⟩ := hR.eq_withH h
  exact hR.setRes (hR.upd (hR.emit h _) (fun w => { w with fut := none })) _

theorem finishErr (op : String) (e : Err) : R (a.finishErr op e) (b.finishErr op e) :=
  hR.setRes (hR.finish h _) _

theorem foldl_emit (ls : List String) : R (ls.foldl World.emit a) (ls.foldl World.emit b) := by
  induction ls generalizing a b with
  | nil => exact h
  | cons l ls ih => exact ih (hR.emit h l)

theorem deliver (name : String) (len : Nat) : R (a.deliver name len) (b.deliver name len) := by
  have h1 := hR.finish h s!"ret {name} ok msg"
  obtain ⟨hs, lr, o, rfl⟩ := hR.eq_withH h
  unfold World.deliver
  simp only [finish_sess, withH_sess]
  split
  · exact hR.foldl_emit h1 _
  · exact hR.emit h1 _

theorem ioWrite (bs : Bytes) : R (a.ioWrite bs).1 (b.ioWrite bs).1 ∧ (a.ioWrite bs).2 = (b.ioWrite bs).2 := by
  obtain ⟨hs, lr, o, rfl⟩ := hR.eq_withH h
  unfold World.ioWrite
  rw [withH_slot]
  cases b.slot with
  | none => exact ⟨hR.ioLine h _ _, rfl⟩
  | some n =>
    have h1 := hR.upd h (fun w => { w with slot := none, lastIoStarved := false })
    dsimp only
    by_cases hn : n ≤ 250
    · rw [if_pos hn, if_pos hn]
      exact ⟨hR.emit (hR.upd h1 (fun w => w.setCurNet _)) _, rfl⟩
    · rw [if_neg hn, if_neg hn]
      split <;> exact ⟨hR.emit h1 _, rfl⟩

theorem ioFlush : R (a.ioFlush).1 (b.ioFlush).1 ∧ (a.ioFlush).2 = (b.ioFlush).2 := by
  obtain ⟨hs, lr, o, rfl⟩ := hR.eq_withH h
  unfold World.ioFlush
  rw [withH_slot]
  cases b.slot with
  | none => exact ⟨hR.ioLine h _ _, rfl⟩
  | some n =>
    have h1 := hR.upd h (fun w => { w with slot := none, lastIoStarved := false })
    dsimp only
    split <;> exact ⟨hR.emit h1 _, rfl⟩

theorem ioRead (n : Nat) : R (a.ioRead n).1 (b.ioRead n).1 ∧ (a.ioRead n).2 = (b.ioRead n).2 := by
  obtain ⟨hs, lr, o, rfl⟩ := hR.eq_withH h
  unfold World.ioRead
  rw [withH_slot]
  cases b.slot with
  | none => exact ⟨hR.ioLine h _ _, rfl⟩
  | some k =>
    have h1 := hR.upd h (fun w => { w with slot := none })
    dsimp only [World.curNet, withH_nets]
    by_cases hk : k ≤ 250
    · rw [if_pos hk, if_pos hk]
      generalize (if k = 250 then _ else _ : Nat) = c
      by_cases hc : c = 0
      · rw [if_pos hc, if_pos hc]
        exact ⟨hR.ioLine h1 _ _, rfl⟩
      · rw [if_neg hc, if_neg hc]
        exact ⟨hR.ioLine (hR.upd h1 (fun w => w.setCurNet _)) _ _, rfl⟩
    · rw [if_neg hk, if_neg hk]
      split <;> exact ⟨hR.ioLine h1 _ _, rfl⟩

theorem processReceivedPacket :
    R (a.processReceivedPacket).1 (b.processReceivedPacket).1 ∧
      (a.processReceivedPacket).2 = (b.processReceivedPacket).2 := by
  obtain ⟨hs, lr, o, rfl⟩ := hR.eq_withH h
  unfold World.processReceivedPacket
  rw [withH_sess]
  split
  · exact ⟨h, rfl⟩
  · cases b.sess.takePkt with
    | mk s1 res =>
      cases res with
      | none => exact ⟨hR.handleDisconnect (hR.setSess h s1), rfl⟩
      | some p =>
        obtain ⟨len, pkt⟩ := p
        dsimp only
        cases Session.handle s1 pkt with
        | mk s2 r =>
          have h2 := hR.setSess (hR.setSess h s1) s2
          cases r with
          | ok x => cases x <;> exact ⟨h2, rfl⟩
          | error e => cases e <;> first | exact ⟨h2, rfl⟩ | exact ⟨hR.handleDisconnect h2, rfl⟩

theorem activate (sp : Bool) (block : Bytes) : R (World.activate a sp block) (World.activate b sp block) := by
  obtain ⟨hs, lr, o, rfl⟩ := hR.eq_withH h
  unfold World.activate
  rw [withH_sess, withH_now]
  cases b.sess.activate sp block b.now with
  | mk s r =>
    cases r with
    | error e =>
      exact hR.finishErr (hR.upd h (fun w =>
        ({ w with sess := s, conn := w.conn.map (fun (c : Conn) => { c with live := false }) } : World))) _ _
    | ok u =>
      exact hR.finish (hR.upd h (fun w => ({ w with sess := s, conn := some { live := true, resumed := sp } } : World))) _

theorem connectGotPacket : R (World.connectGotPacket a) (World.connectGotPacket b) := by
  obtain ⟨hs, lr, o, rfl⟩ := hR.eq_withH h
  unfold World.connectGotPacket
  rw [withH_sess]
  cases b.sess.takePkt with
  | mk s1 res =>
    have h1 := hR.setSess h s1
    cases res with
    | none => exact hR.finishErr (hR.handleDisconnect h1) _ _
    | some p =>
      obtain ⟨len, pkt⟩ := p
      cases pkt <;> try exact hR.finishErr (hR.handleDisconnect h1) _ _
      rename_i sp rc block
      dsimp only
      split
      · exact hR.finishErr h1 _ _
      · exact hR.activate h1 sp block

theorem localErr (which : Nat) (e : Err) : R (a.localErr which e) (b.localErr which e) :=
  rel_ite (fun _ => hR.finishErr h _ _) fun _ =>
    rel_ite (fun _ => hR.finishErr (hR.handleDisconnect h) _ _) fun _ => hR.finishErr (hR.handleDisconnect h) _ _

/-- What `drive_packet` does with a received packet, at both of its loop heads. -/
theorem received (ih : KeepsRel R fuel) (outer : Outer) :
    let f := fun w : World =>
      match w.processReceivedPacket with
      | (w, .error e) => w.finishErr (outerName outer) e
      | (w, .ok (some len)) => w.deliver (outerName outer) len
      | (w, .ok none) => driveLoop fuel w outer true
    R (f a) (f b) := by
  obtain ⟨a1, b1, r, ea, eb, h1⟩ := rel_pair (hR.processReceivedPacket h)
  dsimp only
  rw [ea, eb]
  cases r with
  | error e => exact hR.finishErr h1 _ _
  | ok x =>
    cases x with
    | none => exact ih (.DL b1 outer true) h1
    | some len => exact hR.deliver h1 _ len

/-- The common end of publish (QoS 1, 2), subscribe and unsubscribe once the packet is encoded: the size
check, `retain`, the second flush. -/
theorem enqueue (ih : KeepsRel R fuel) (s2 : Session) (name : String) (id off len : Nat) (pub : Bool)
    (op : Session → Op) :
    let f := fun w : World =>
      if s2.rt.packetTooLarge len then ({ w with sess := s2 } : World).finishErr name .packetTooLarge else
        match s2.retain id off len pub with
        | none => ({ w with sess := s2 } : World).finishErr name .inflightExhausted
        | some s3 => flushLoop fuel { w with sess := s3 } (.post name (op s3))
    R (f a) (f b) := by
  refine rel_ite (fun _ => hR.finishErr (hR.setSess h s2) _ _) fun _ => ?_
  cases s2.retain id off len pub with
  | none => exact hR.finishErr (hR.setSess h s2) _ _
  | some s3 => exact ih (.FL b _) (hR.setSess h s3)

omit h in
/-- By induction on the fuel, one case per function. In each the first run's world is the second's with
other handles, last result and trace, so both take the same branches. For `afterFlush`: the reads of the
first run are rewritten into those of the second also inside the `Decidable` instances (which `simp` would
skip), so that the encoder's result can be named once for both; the three requests that take a packet
identifier differ in what they check before encoding and share `enqueue` from there. -/
theorem keeps : ∀ fuel, KeepsRel R fuel := by
  intro fuel
  induction fuel with
  | zero =>
    intro c a b h
    rw [Call.run_zero, Call.run_zero, setWorld_world, setWorld_world]
    exact hR.emit h _
  | succ fuel ih =>
    intro c a b h
    obtain ⟨hs, lr, o, rfl⟩ := hR.eq_withH h
    cases c <;> simp only [Call.setWorld, Call.run]
    case FL w k =>
      simp only [flushLoop, World.maybeQueuePingreq, withH_sess, withH_now]
      cases b.sess.queuePing b.now with
      | error e => exact hR.finishErr (hR.discFail h _) _ _
      | ok s =>
        dsimp only
        cases s.data.outbound.nextStep with
        | none => exact ih (.AF b k) (hR.setSess h s)
        | some step => exact ih (.PS b (.flush k) step b.now) (hR.setSess h s)
    case PS w ctx step now =>
      simp only [performStep, prepareStep_withH, withH_live]
      cases prepareStep b step with
      | fail e => exact hR.finishErr (hR.failStep h _ _) _ _
      | done => exact ih (.SR b ctx false) h
      | flush pkt =>
        exact rel_ite (fun _ => hR.finishErr (hR.discFail h _) _ _) fun _ => ih (.DSF b ctx pkt now) h
      | write pkt bytes written len =>
        exact rel_ite (fun _ => hR.finishErr (hR.discFail h _) _ _) fun _ => ih (.DSW b ctx pkt bytes written len now) h
    case DSW w ctx pkt bytes wr len now =>
      simp only [doStepWrite]
      obtain ⟨a1, b1, r, ea, eb, h1⟩ := rel_pair (hR.ioWrite h (bytes.drop wr))
      rw [ea, eb]
      cases r with
      | pending => exact hR.suspend h1 _
      | zero => exact hR.finishErr (hR.discFail h1 _) _ _
      | err k => exact hR.finishErr (hR.handleDisconnect h1) _ _
      | ok count =>
        have h2 := hR.upd h1 (fun w => w.setWritten pkt (wr + count) len)
        exact rel_ite (fun _ => ih (.SR b ctx true) h2) fun _ => ih (.DSF b ctx pkt now) h2
    case DSF w ctx pkt now =>
      simp only [doStepFlush]
      obtain ⟨a1, b1, r, ea, eb, h1⟩ := rel_pair (hR.ioFlush h)
      rw [ea, eb]
      cases r with
      | pending => exact hR.suspend h1 _
      | err k => exact hR.finishErr (hR.handleDisconnect h1) _ _
      | ok => exact ih (.SR b ctx true) (hR.upd h1 (fun w => w.completeFlush pkt now))
    case SR w ctx adv =>
      unfold stepReturned
      cases ctx with
      | flush k => exact ih (.FL b k) h
      | drive advanced outer => exact ih (.DAS b outer _) h
    case AF w k =>
      cases k <;> simp only [afterFlush]
      case post name op => exact hR.finishOp h name op
      case discPre d =>
        rw [withH_sess]
        cases encodeWithOffset CONTROL_PACKET_LEN d.chunks MT_Disconnect FLAGS_Disconnect with
        | error e => exact hR.finishErr h _ _
        | ok q =>
          obtain ⟨off, pkt⟩ := q
          exact rel_ite (fun _ => hR.finishErr h _ _) fun _ => ih (.DLW b 2 pkt) h
      case subPre r | unsubPre r =>
        rw [withH_sess]
        refine rel_ite (fun _ => hR.finishErr h _ _) fun _ => ?_
        generalize Session.encode b.sess.alloc.1 _ = p
        obtain ⟨s2, res⟩ := p
        cases res with
        | error e => exact hR.finishErr (hR.setSess h s2) _ _
        | ok q => exact hR.enqueue h ih s2 _ b.sess.alloc.2 q.1 q.2 false _
      case publishPre r =>
        rw [withH_sess, withH_live]
        refine rel_ite (fun _ => hR.finishErr h _ _) fun _ => ?_
        generalize effectiveQos b.sess.rt.maxQos b.sess.downgrade r.qos = qos
        refine rel_ite (fun _ => ?_) fun _ => ?_
        · refine rel_ite (fun _ => hR.finishErr (hR.setSess h _) _ _) fun _ =>
            rel_ite (fun _ => hR.finishErr (hR.setSess h _) _ _) fun _ => ?_
          generalize Session.encode b.sess.alloc.1 _ = p
          obtain ⟨s2, res⟩ := p
          cases res with
          | error e => exact hR.finishErr (hR.setSess h s2) _ _
          | ok q => exact hR.enqueue h ih s2 "publish" b.sess.alloc.2 q.1 q.2 true _
        · refine rel_ite (fun _ => hR.finishErr h _ _) fun _ => ?_
          generalize Session.encode b.sess _ = p
          obtain ⟨s2, res⟩ := p
          cases res with
          | error e => exact hR.finishErr (hR.setSess h s2) _ _
          | ok q =>
            exact rel_ite (fun _ => hR.finishErr (hR.setSess h s2) _ _) fun _ => ih (.DLW b 1 _) (hR.setSess h s2)
    case DLW w which bytes =>
      simp only [doLocalWrite]
      refine rel_ite (fun _ => ih (.DLF b which) (hR.discDone h which)) fun _ => ?_
      obtain ⟨a1, b1, r, ea, eb, h1⟩ := rel_pair (hR.ioWrite h bytes)
      rw [ea, eb]
      cases r with
      | pending => exact hR.suspend h1 _
      | ok n => exact ih (.DLW b which (bytes.drop n)) h1
      | zero | err => exact hR.localErr h1 which _
    case DLF w which =>
      simp only [doLocalFlush]
      obtain ⟨a1, b1, r, ea, eb, h1⟩ := rel_pair (hR.ioFlush h)
      rw [ea, eb]
      obtain ⟨hs1, lr1, o1, rfl⟩ := hR.eq_withH h1
      cases r with
      | pending => exact hR.suspend h1 _
      | err k => exact hR.localErr h1 which _
      | ok =>
        exact rel_ite (fun _ => ih (.DCR b1) (hR.setSess h1 _)) fun _ =>
          rel_ite (fun _ => hR.finish (hR.setSess h1 _) _) fun _ => hR.finish (hR.handleDisconnect h1) _
    case DCR w =>
      simp only [doConnRead, withH_sess]
      refine rel_ite (fun _ => hR.connectGotPacket h) fun _ => ?_
      cases b.sess.window with
      | none => exact hR.finishErr (hR.handleDisconnect h) _ _
      | some p =>
        obtain ⟨s1, window⟩ := p
        refine rel_ite (fun _ => hR.connectGotPacket (hR.setSess h s1)) fun _ => ?_
        obtain ⟨a1, b1, r, ea, eb, h1⟩ := rel_pair (hR.ioRead (hR.setSess h s1) window)
        rw [ea, eb]
        obtain ⟨hs1, lr1, o1, rfl⟩ := hR.eq_withH h1
        cases r with
        | pending => exact hR.suspend h1 _
        | eof | err => exact hR.finishErr (hR.handleDisconnect h1) _ _
        | ok bytes => exact ih (.DCR b1) (hR.setSess h1 _)
    case DL w outer adv =>
      have hrecv := hR.received h ih outer
      unfold driveLoop
      simp only [World.maybeQueuePingreq, withH_sess, withH_now]
      refine rel_ite (fun _ => hrecv) fun _ => rel_ite (fun _ => hR.finishErr (hR.handleDisconnect h) _ _) fun _ => ?_
      cases b.sess.queuePing b.now with
      | error e => exact hR.finishErr h _ _
      | ok s =>
        dsimp only
        cases s.data.outbound.nextStep with
        | none => exact ih (.DAS b outer adv) (hR.setSess h s)
        | some step => exact ih (.PS b (.drive adv outer) step b.now) (hR.setSess h s)
    case DAS w outer adv =>
      have hrecv := hR.received h ih outer
      unfold driveAfterService
      simp only [withH_sess]
      refine rel_ite (fun _ => hrecv) fun _ => rel_ite (fun _ => ?_) fun _ => ih (.DL b outer adv) h
      refine rel_ite (fun _ => ?_) fun _ => ?_
      · cases outer with
        | drive | poll => exact hR.finish h _
        | recv => exact ih (.DE b .recv) h
      · cases outer with
        | drive => exact hR.finish h _
        | poll | recv => exact ih (.DWR b _ _ false) h
    case DE w outer =>
      simp only [driveEnter, withH_live]
      exact rel_ite (fun _ => hR.finishErr h _ _) fun _ => ih (.DL b outer false) h
    case DWR w outer d y =>
      simp only [doWaitRead, withH_sess]
      refine rel_ite (fun _ => ih (.DE b outer) h) fun _ => ?_
      cases b.sess.window with
      | none => exact hR.finishErr (hR.handleDisconnect h) _ _
      | some p =>
        obtain ⟨s1, window⟩ := p
        refine rel_ite (fun _ => ih (.DE b outer) (hR.setSess h s1)) fun _ => ?_
        obtain ⟨a1, b1, r, ea, eb, h1⟩ := rel_pair (hR.ioRead (hR.setSess h s1) window)
        rw [ea, eb]
        obtain ⟨hs1, lr1, o1, rfl⟩ := hR.eq_withH h1
        cases r with
        | eof | err => exact hR.finishErr (hR.handleDisconnect h1) _ _
        | ok bytes => exact ih (.DWR b1 outer d y) (hR.setSess h1 _)
        | pending =>
          simp only [withH_now, withH_wakes]
          cases d with
          | none => exact hR.suspend h1 _
          | some dd =>
            have h2 := hR.upd h1 (fun w => { w with wakes := b1.wakes + 1 })
            exact rel_ite (fun _ => rel_ite (fun _ => ih (.DE b1 outer) h1) fun _ =>
              rel_ite (fun _ => hR.suspend (hR.emit h2 _) _) fun _ => ih (.DWR b1 outer _ true) h2)
              fun _ => hR.suspend h1 _

theorem poll : R (World.poll a) (World.poll b) := by
  obtain ⟨hs, lr, o, rfl⟩ := hR.eq_withH h
  rw [poll_eq_pollWith, poll_eq_pollWith]
  unfold World.pollWith
  rw [withH_fut]
  cases b.fut with
  | none => exact hR.upd h World.pollBase
  | some pc =>
    have := hR.keeps pollFuel (resumeCall b pc) (hR.upd h World.pollBase)
    rwa [resumeCall_setWorld, resumeCall_setWorld] at this

theorem goLoop (n : Nat) : R (World.goLoop n a) (World.goLoop n b) := by
  induction n generalizing a b with
  | zero => exact hR.emit h _
  | succ n ih =>
    unfold World.goLoop
    have h0 := hR.poll (hR.upd h (fun w => { w with slot := some 250 }))
    generalize World.poll { a with slot := some 250 } = a1 at h0 ⊢
    generalize World.poll { b with slot := some 250 } = b1 at h0 ⊢
    obtain ⟨hs, lr, o, rfl⟩ := hR.eq_withH h0
    have h1 := hR.upd h0 (fun w => { w with slot := none })
    exact rel_ite (fun _ => h1) fun _ => rel_ite (fun _ => h1) fun _ => rel_ite (fun _ => h1) fun _ => ih h1

theorem cancelFut : R a.cancelFut b.cancelFut := by
  obtain ⟨hs, lr, o, rfl⟩ := hR.eq_withH h
  exact rel_ite (fun _ => hR.upd (hR.emit h "cancel") (fun w => { w with fut := none, tornNets := b.tornAfterDrop }))
    fun _ => h

theorem dropConn : R a.dropConn b.dropConn := by
  unfold World.dropConn
  have h1 := hR.cancelFut h
  generalize a.cancelFut = a1 at h1 ⊢
  generalize b.cancelFut = b1 at h1 ⊢
  obtain ⟨hs, lr, o, rfl⟩ := hR.eq_withH h1
  exact rel_ite (fun _ => hR.upd (hR.emit h1 "drop") (fun w => { w with conn := none })) fun _ => h1

theorem connectStart : R a.connectStart b.connectStart := by
  unfold World.connectStart
  have h1 := hR.dropConn h
  generalize a.dropConn = a1 at h1 ⊢
  generalize b.dropConn = b1 at h1 ⊢
  obtain ⟨hs, lr, o, rfl⟩ := hR.eq_withH h1
  exact hR.upd (hR.emit (hR.upd h1 (fun w => { w with nets := w.nets ++ [({ } : Net)] })) _)
    (fun w => { w with sess := w.sess.beginConnect, wakes := 0, lastIoStarved := false })

theorem startConnect : R a.startConnect b.startConnect := by
  rw [startConnect_eq, startConnect_eq]
  have h1 := hR.connectStart h
  generalize a.connectStart = a1 at h1 ⊢
  generalize b.connectStart = b1 at h1 ⊢
  obtain ⟨hs, lr, o, rfl⟩ := hR.eq_withH h1
  dsimp only
  rw [withH_sess]
  cases b1.sess.encode (connEnc b1.sess.connectPacket) with
  | mk s2 res =>
    cases res with
    | error e => exact hR.finishErr (hR.setSess h1 s2) _ _
    | ok q => exact hR.keeps pollFuel (.DLW b1 0 _) (hR.setSess h1 s2)

theorem startOp (name : String) (body : World → World)
    (hbody : ∀ y hs lr o, R (y.withH hs lr o) y → R (body (y.withH hs lr o)) (body y)) :
    R (a.startOp name body) (b.startOp name body) := by
  obtain ⟨hs, lr, o, rfl⟩ := hR.eq_withH h
  unfold World.startOp
  refine rel_ite (fun _ => hR.emit h _) fun _ => ?_
  have h1 := hR.upd (hR.cancelFut h) (fun w => { w with wakes := 0, lastIoStarved := false })
  obtain ⟨hs1, lr1, o1, e⟩ := hR.eq_withH h1
  dsimp only
  rw [e] at h1 ⊢
  exact hbody _ _ _ _ h1

theorem execDirective (d : Directive) : R (a.execDirective d) (b.execDirective d) := by
  have F := hR.keeps pollFuel
  obtain ⟨hs, lr, o, rfl⟩ := hR.eq_withH h
  cases d <;> unfold World.execDirective
  case bad | decode => exact hR.emit h _
  case connect => exact hR.startConnect h
  case cancel => exact hR.cancelFut h
  case drop => exact hR.dropConn h
  case poll | recv | drive => exact hR.startOp h _ _ fun y _ _ _ hy => F (.DE y _) hy
  case publish r =>
    exact hR.startOp h _ _ fun y _ _ _ hy => rel_ite (fun _ => hR.finishErr hy _ _) fun _ => F (.FL y _) hy
  case subscribe r | unsubscribe r =>
    exact hR.startOp h _ _ fun y _ _ _ hy => rel_ite (fun _ => hR.finishErr hy _ _) fun _ =>
      rel_ite (fun _ => hR.finishErr hy _ _) fun _ => rel_ite (fun _ => hR.finishErr hy _ _) fun _ => F (.FL y _) hy
  case disconnect dd =>
    exact hR.startOp h _ _ fun y _ _ _ hy => rel_ite (fun _ => hR.finish hy _) fun _ =>
      rel_ite (fun _ => hR.finishErr hy _ _) fun _ => F (.FL y _) hy
  case d n =>
    exact rel_ite (fun _ => hR.emit h _) fun _ =>
      hR.upd (hR.poll (hR.upd h (fun w => { w with slot := some n }))) (fun w => { w with slot := none })
  case go => exact rel_ite (fun _ => hR.emit h _) fun _ => hR.goLoop h _
  case tick us =>
    have h1 := hR.upd h (fun w => { w with now := b.now + us })
    exact rel_ite (fun _ => hR.emit h _) fun _ => rel_ite (fun _ => hR.poll h1) fun _ => h1
  case rx bytes => exact rel_ite (fun _ => hR.emit h _) fun _ => hR.upd h (fun w => w.setCurNet _)
  case setpid n => exact rel_ite (fun _ => hR.emit h _) fun _ => hR.setSess h _

theorem run (ds : List Directive) : R (ds.foldl World.execDirective a) (ds.foldl World.execDirective b) :=
  program_ind₂ (R := R) (fun _ _ d h => hR.execDirective h d) ds h

end Unread

theorem unread_addOld (o : List String) : Unread (fun a b => a = b.addOld o) where
  eq_withH h := ⟨_, _, _, h⟩
  anyCore h k := by subst h; rfl
  emit h l := by rw [h]; rfl
  setRes h r := by rw [h]; rfl
  finishOp h name op := by rw [h]; rfl

theorem driveEnter_addOld (fuel : Nat) (w : World) (outer : Outer) (o : List String) :
    driveEnter fuel (w.addOld o) outer = (driveEnter fuel w outer).addOld o :=
  (unread_addOld o).keeps fuel (.DE w outer) rfl

theorem ev_addOld (c : Call) (w : World) (o : List String) : ev (c.setWorld (w.addOld o)) = (ev (c.setWorld w)).addOld o :=
  (unread_addOld o).keeps fuelBound c rfl

theorem run_addOld (ds : List Directive) (w : World) (o : List String) :
    ds.foldl World.execDirective (w.addOld o) = (ds.foldl World.execDirective w).addOld o :=
  (unread_addOld o).run rfl ds

def World.clearOut (w : World) : World := { w with out := [] }

theorem clearOut_addOld (w : World) (o : List String) : (w.addOld o).clearOut = w.clearOut := rfl
theorem addOld_clearOut (w : World) : w.clearOut.addOld w.out = w := by
  simp [World.clearOut, World.addOld]

/-- The trace frame in normal form: a run is the run from the empty trace, with the old trace behind. -/
theorem run_clearOut (ds : List Directive) (w : World) :
    ds.foldl World.execDirective w = (ds.foldl World.execDirective w.clearOut).addOld w.out := by
  rw [← run_addOld, addOld_clearOut]

end Minimq
