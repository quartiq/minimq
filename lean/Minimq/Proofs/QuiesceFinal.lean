import Minimq.Proofs.ConnectMachine
import Minimq.Proofs.QuiesceRound
import Minimq.Proofs.WireTop
/-
Bounded quiescence (C16, liveness half) — from a world a program produced to the invariant
between rounds; what quiescence means for the operation handles.
-/
namespace Minimq
open Gen World Fuel Outbound
namespace Quiesce

/-- **The setting of the closed loop**, for a world `w` (that a program produced):

* the connection is live and no I/O decision is left over;
* time stands still and no keep-alive event is due (`KaCalm`: PINGREQ time and ping timeout, if armed,
  lie in the future), and no PINGREQ is queued;
* every queued packet is within the broker's Maximum Packet Size (`fits`; finding F14 is a retained
  packet above a limit announced by a later CONNACK — then `poll` fails for ever), `deficit` is clear
  (finding F5c), the maximum send quota is within the local limit of 8 (`maxq`; true on every live
  connection: `Produced.bal`), and the quota books balance
  (`quotaEq`: remaining quota plus exchanges in flight is the maximum — what `connect` establishes and
  every accepted publish and every acknowledgement keeps, as long as nothing fails half-way; the lifted
  invariant `QuotaP` is only the inequality);
* the retained packets are QoS 1/2 PUBLISH, SUBSCRIBE or UNSUBSCRIBE packets (`kinds`), the identifiers in
  use fit two bytes (`small`), the control queue holds at most `MAX_PENDING_CONTROL` entries, none of them
  `Sent` (`clean`: sent acknowledgements leave the queue at once) — hypotheses here; that they hold of the
  worlds a program produces is `Proofs/QuiesceInv.lean`, `Proofs/QuiesceSetting.lean`, `Theorems/C16Setting.lean`;
* the receive buffer has room for the broker's answers (6 bytes) and the reader is at a packet boundary;
* **the broker is up to date** (`sync`): the inbound queue of the transport holds exactly its answers to
  the packets that are completely on the wire and not yet acknowledged (`expected`), in some order, and
  nothing else. (A packet that is on the wire with no answer under way would wait for ever: the broker of
  the loop answers what it sees completed, it does not remember.) -/
structure Setting (w : World) : Prop where
  live : w.live = true
  slot : w.slot = none
  calm : KaCalm w.sess.rt w.now
  clean : ∀ e ∈ w.sess.data.outbound.control, e.state ≠ .sent
  noPing : ∀ e ∈ w.sess.data.outbound.control, e.action.typ ≠ MT_PingReq
  ctlCap : w.sess.data.outbound.control.length ≤ MAX_PENDING_CONTROL
  fits : Fits w.sess
  small : ∀ id ∈ w.sess.data.outbound.usedIds, id < 65536
  deficit : w.sess.rt.deficit = false
  maxq : w.sess.rt.maxSendQuota ≤ maxInflight
  quotaEq : w.sess.rt.sendQuota + w.sess.data.outbound.inflightPublishes = w.sess.rt.maxSendQuota
  kinds : KnownKinds w.sess.data.outbound
  cap : 6 ≤ w.sess.reader.cap
  rdData : w.sess.reader.data = []
  rdLen : w.sess.reader.packetLength = none
  sync : ∃ as, w.curNet.rx = enc as ∧ as.Perm (expected w.sess.data.outbound)

theorem ready_of (w : World) (hreach : Produced w) (hs : Setting w) : Ready w :=
  ⟨hreach, ⟨hreach.ids, hreach.arena, hreach.quota, hs.live, hs.slot,
    fun h0 => (by have hl := hs.live; unfold World.live at hl; rw [(hreach.winv.netless h0).1] at hl; cases hl),
    hs.calm, ⟨hs.clean, hs.noPing, hs.ctlCap, hs.fits, hs.small, hs.deficit, hs.maxq, hs.quotaEq⟩, hs.kinds, hs.cap,
    Waiting_fresh _ _ hs.rdData hs.rdLen (Nat.le_trans (by omega) hs.cap), fun _ => hs.rdData⟩, hs.rdData, hs.sync⟩

/-- On a live connection whose transport is not marked torn a CONNACK has been accepted, and then the
maximum send quota is the negotiated one, at most 8. -/
theorem maxq_of_untorn (w : World) (hreach : Produced w) (hl : w.live = true) (hnt : w.nets.length ∉ w.tornNets) :
    w.sess.rt.maxSendQuota ≤ maxInflight :=
  hreach.maxQ (hreach.winv.accepted hnt hl)

theorem status_complete (d d' : SessionData) (op : Op) (hgen : d'.generation = d.generation)
    (hq : d'.outbound.isQuiescent = true) (hp : d.status op = .pending) : d'.status op = .complete := by
  obtain ⟨_, hr, hl⟩ := (quiescent_iff' _).mp hq
  unfold SessionData.status at hp ⊢
  split at hp
  · cases hp
  · rename_i hg
    rw [if_neg (by rw [hgen]; exact hg)]
    simp only [Outbound.hasRetained, Outbound.hasPendingRelease, hr, hl, List.any_nil, Bool.or_false]
    cases op.kind <;> rfl

theorem quota_restored (s : Session) (h : s.rt.sendQuota + s.data.outbound.inflightPublishes = s.rt.maxSendQuota)
    (hq : s.data.outbound.isQuiescent = true) : s.rt.sendQuota = s.rt.maxSendQuota := by
  obtain ⟨_, hr, hl⟩ := (quiescent_iff' _).mp hq
  have : s.data.outbound.inflightPublishes = 0 := by rw [inflight_def, hr, hl]; rfl
  omega

/-- The settings of `Theorems/C16Quiesce.lean`, `C16Setting.lean` and `C06Balance.lean` are ways of establishing
`Ready` (`ready_of`); as `Ready` holds again at the end, the statement applies anew from there. -/
theorem Ready.bounded_quiescence {w : World} (hr : Ready w) :
    ∃ n, n ≤ mu w.sess.data.outbound ∧ (rounds n w).sess.data.outbound.isQuiescent = true ∧
      (∀ m, (rounds m (rounds n w)).sess.data.outbound.isQuiescent = true) ∧
      (∀ op, w.sess.data.status op = .pending → (rounds n w).sess.data.status op = .complete) ∧
      (rounds n w).sess.rt.sendQuota = (rounds n w).sess.rt.maxSendQuota ∧ Ready (rounds n w) := by
  obtain ⟨n, hn, hq, hr', hgen⟩ := quiesces _ w hr (Nat.le_refl _)
  exact ⟨n, hn, hq, fun m => (stays_quiescent _ hr' hq m).1, fun op hp => status_complete _ _ op hgen hq hp,
    quota_restored _ hr'.live.tidy.quotaEq hq, hr'⟩

theorem expected_nil_of_allFresh (o : Outbound) (h : o.AllFresh) : expected o = [] := by
  refine List.eq_nil_iff_forall_not_mem.mpr fun p hp => ?_
  rcases mem_expected.mp hp with ⟨v, hv, hans⟩ | ⟨u, hu, hans⟩
  · obtain ⟨e, he, rfl⟩ := List.mem_map.mp hv
    have := (ansRet_some hans).1
    rw [h.retained e he] at this; cases this
  · obtain ⟨e, he, rfl⟩ := List.mem_map.mp hu
    have := (ansRel_some hans).1
    rw [h.release e he] at this; cases this

/-- **After a resumed reconnect the setting holds**, as far as it follows from the handshake: the world
`W` is what `connect`, a conformant CONNACK with session present and enough healthy decisions made of `w`
(`C12M_connect_succeeds` gives the first five hypotheses). Everything is waiting to be replayed
(`arm_replay`), the new transport has delivered nothing, the PINGREQ timer is armed in the future. What the
handshake does not decide is asked for: the size limit and `deficit` of the new CONNACK (F14, F5c), and the
facts about the queues that no CONNACK changes. Of these `hnoPing` is redundant: it follows from `hsess`,
since `arm_replay` has dropped every queued PINGREQ and a CONNACK with session present keeps the control queue. -/
theorem setting_after_reconnect (w W : World) (pkt ack block : Bytes)
    (hlive : W.live = true) (hslot : W.slot = none)
    (hnets : W.nets = w.nets ++ [{ wire := pkt, rx := [] }]) (hnow : W.now = w.now)
    (hsess : W.sess = (hsP w pkt ack).taken.activated true block w.now)
    (hclean : ∀ e ∈ W.sess.data.outbound.control, e.state ≠ .sent)
    (hnoPing : ∀ e ∈ W.sess.data.outbound.control, e.action.typ ≠ MT_PingReq)
    (hctl : W.sess.data.outbound.control.length ≤ MAX_PENDING_CONTROL)
    (hfits : Fits W.sess) (hsmall : ∀ id ∈ W.sess.data.outbound.usedIds, id < 65536)
    (hdef : W.sess.rt.deficit = false) (hkinds : KnownKinds W.sess.data.outbound)
    (hcap : 6 ≤ w.sess.reader.cap) : Setting W := by
  -- with the parameters of the handshake a variable, projections of `P.taken.activated …` reduce at once
  have hfS := hsP_allFresh w pkt ack
  have hrdS := hsP_reader w pkt ack
  generalize hsP w pkt ack = P at hsess hfS hrdS
  have hfresh : W.sess.data.outbound.AllFresh := by
    rw [hsess, (activated_resumed P.taken block w.now).1]; exact hfS
  have hka := activated_keepalive P.taken true block w.now
  have hbal := activated_Bal P.taken true block w.now
  have hrd : W.sess.reader = { w.sess.reader.reset with data := [], packetLength := none, last := P.ack } := by
    rw [hsess, ← hrdS]; rfl
  rw [← hsess] at hka hbal
  have hrx : W.curNet.rx = [] := by rw [curNet_of_nets hnets]
  refine ⟨hlive, hslot, by rw [hnow]; exact .of_armed hka.2.2.1 (fun _ h => by rw [hka.2.2.2] at h; cases h), hclean, hnoPing, hctl, hfits,
    hsmall, hdef, hbal.1, hbal.2 hdef, hkinds, by rw [hrd]; exact hcap, by rw [hrd], by rw [hrd],
    ⟨[], by rw [hrx]; rfl, by rw [expected_nil_of_allFresh _ hfresh]⟩⟩

theorem untorn_exec (w : World) (d : Directive) (hd : d ≠ .connect) (hn : w.nets ≠ [])
    (hs : tearsPacket w.fut = false) (hu : w.nets.length ∉ w.tornNets) :
    (w.execDirective d).nets.length ∉ (w.execDirective d).tornNets := by
  have hfr : Frame w (w.execDirective d) :=
    wexec_noconnect (wstable_frame w) w (frame_cancel w w) (fun _ _ h => h) d (fun he => hd he) (Frame.refl hn)
  rw [exec_tornNets w d hs, hfr.2.1]; exact hu

theorem pcOK_safe {W : World} (h : PcOK W) : tearsPacket W.fut = false := by
  rcases h.cases with ⟨_, _, _, _, _, _, hf⟩ | ⟨_, _, _, hf⟩ | ⟨_, _, hf⟩ | hf <;> rw [hf] <;> rfl

theorem round_untorn (W : World) (hr : Ready W) (hsafe : tearsPacket W.fut = false)
    (hu : W.nets.length ∉ W.tornNets) :
    (round W).nets.length ∉ (round W).tornNets ∧ tearsPacket (round W).fut = false := by
  obtain ⟨hm1, h', hm2, _⟩ := client_turn W hr
  have u1 := untorn_exec W .poll (by intro h; cases h) hr.live.nets hsafe hu
  have u2 := untorn_exec _ .go (by intro h; cases h) hm1.live.nets (pcOK_safe hm1.pc) u1
  have u3 := untorn_exec _ (.rx (brokerBytes (newLog W.log.length (clientTurn W)))) (by intro h; cases h)
    hm2.live.nets (pcOK_safe hm2.pc) u2
  refine ⟨u3, ?_⟩
  have : (round W).fut = (clientTurn W).fut := by
    show ((clientTurn W).execDirective (.rx _)).fut = _
    rw [exec_rx _ _ hm2.live.nets]; rfl
  rw [this]; exact pcOK_safe hm2.pc

theorem rounds_untorn (W : World) (hr : Ready W) (hsafe : tearsPacket W.fut = false)
    (hu : W.nets.length ∉ W.tornNets) (n : Nat) :
    Ready (rounds n W) ∧ (rounds n W).nets.length ∉ (rounds n W).tornNets ∧ tearsPacket (rounds n W).fut = false :=
  rounds_inv (P := fun W => Ready W ∧ W.nets.length ∉ W.tornNets ∧ tearsPacket W.fut = false)
    (fun W ⟨h1, h2, h3⟩ => ⟨(round_ready W h1).1, round_untorn W h1 h3 h2⟩) n W ⟨hr, hu, hsafe⟩

end Quiesce
end Minimq
