import Minimq.Proofs.Program
import Minimq.Proofs.FuelStep
import Minimq.Proofs.DirOut
import Minimq.Proofs.Nets
/-
Fuel adequacy — from one step (`run_step`) to whole runs, POLLs, directives and programs.

A run with fuel at least the rank ends in a `Halt` world and does not depend on the fuel
(`run_adequate_aux`); `poll_halt` carries this to a POLL, from which come what a POLL does to decision
and transports (`poll_rel`), to the trace and the self-wake counter (`poll_tidy`, `poll_ok`), and
when it cannot complete (`poll_idle`). `DirClosed.execDirective` carries what a POLL and a run from an
entry point do to trace, await point and self-wake counter to every directive, for any relation between
worlds that is closed under what directives do besides: the trace properties `Grew P` here, the invariants
of the await point in `NoSpinRun` and `ReaderReach`. `DirClosed` is the lifting for such two-state relations,
with what `go` does left to the caller; an invariant that every elementary update keeps is lifted by
`run_steps` (`Proofs/Lift.lean`) with `Steps.inv`, one whose machine half needs a precondition on calls by `Interp.inv`
(`Proofs/Interp.lean`). At the end: no directive leaves an I/O decision behind (`execDirective_slot_none`), a walk
over `DirOut` by hand, because `d n` and `go` set the slot and empty it again within the directive.
-/
namespace Minimq
open Gen World NoSpin
namespace Fuel

theorem Final.of_edge {c c' : Call} {r : World} (e : Edge c c') (f : Final c' r) : Final c r := by
  refine ⟨e.rel.trans f.rel, fun hs => ?_, f.settled⟩
  rcases e.stuck hs with h | ⟨h1, h2⟩
  · rcases f.stuck h with h' | ⟨h1, h2⟩
    · exact .inl h'
    · exact .inr ⟨e.rel.slot_some h1, h2⟩
  · exact .inr ⟨h1, f.rel.slot_none h2⟩

theorem Halt.of_edge {c c' : Call} {r : World} (e : Edge c c') (h : Halt c' r) : Halt c r :=
  ⟨Final.of_edge e h.final, h.susp, fun b k => ⟨Grew.trans e.lines (h.tidy b (e.keep b k)).1, (h.tidy b (e.keep b k)).2⟩⟩

theorem run_adequate_aux : ∀ (n : Nat) (c : Call), c.rank ≤ n →
    (∀ f, n ≤ f → c.run f = c.run n) ∧ Halt c (c.run n)
  | 0, c, h => absurd h (by have := c.rank_bounds; omega)
  | n + 1, c, h => by
    rcases run_step c with ⟨c', e, hc⟩ | ⟨r, fin, hr⟩
    · have hr' : c'.rank ≤ n := by have := e.rank; omega
      obtain ⟨ih1, ih2⟩ := run_adequate_aux n c' hr'
      refine ⟨fun f hf => ?_, by rw [hc n]; exact Halt.of_edge e ih2⟩
      obtain ⟨f', rfl⟩ : ∃ f', f = f' + 1 := ⟨f - 1, by omega⟩
      rw [hc f', hc n]; exact ih1 f' (by omega)
    · refine ⟨fun f hf => ?_, by rw [hr n]; exact fin⟩
      obtain ⟨f', rfl⟩ : ∃ f', f = f' + 1 := ⟨f - 1, by omega⟩
      rw [hr f', hr n]

theorem run_stable (c : Call) (f : Nat) (hf : c.rank ≤ f) : c.run f = c.run c.rank :=
  (run_adequate_aux c.rank c (Nat.le_refl _)).1 f hf

theorem run_halt (c : Call) (f : Nat) (hf : c.rank ≤ f) : Halt c (c.run f) := by
  rw [run_stable c f hf]; exact (run_adequate_aux c.rank c (Nat.le_refl _)).2

theorem run_final (c : Call) (f : Nat) (hf : c.rank ≤ f) : Final c (c.run f) := (run_halt c f hf).final

/-- The greatest rank there is (`Call.rank_le`: `wt` is at most 20 + 5 * 63 + 5 * 2, the position at most 9). -/
def fuelBound : Nat := 354

theorem fuelBound_le_pollFuel : fuelBound ≤ pollFuel := by decide

theorem run_uniform (c : Call) (f : Nat) (hf : fuelBound ≤ f) : c.run f = c.run fuelBound := by
  have h := c.rank_le
  rw [run_stable c f (by unfold fuelBound at hf; omega), run_stable c fuelBound h]

theorem run_pollFuel_halt (c : Call) : Halt c (c.run pollFuel) :=
  run_halt c pollFuel (Nat.le_trans c.rank_le fuelBound_le_pollFuel)

theorem run_pollFuel_final (c : Call) : Final c (c.run pollFuel) := (run_pollFuel_halt c).final

/-- Induction over the machine for a run whose result no longer depends on the fuel: the case "out of
fuel" does not arise, since such a run does not print the line `fuel` (`run_final`). -/
theorem run_stable_ind {Pre : Call → Prop} {Post : World → Prop}
    (step : ∀ c n, Step c n → Pre c → n.Holds Pre Post) :
    ∀ (m : Nat) (c : Call), Pre c → (∀ M, m ≤ M → c.run M = c.run m) → Post (c.run m)
  | 0, c, _, hst => by
    obtain ⟨new, e, hne⟩ := (run_final c c.rank (Nat.le_refl _)).rel.quiet
    rw [hst c.rank (Nat.zero_le _), Call.run_zero] at e
    have : new = ["fuel"] := (List.append_cancel_right (as := ["fuel"]) e).symm
    exact absurd rfl (hne "fuel" (by rw [this]; exact List.mem_singleton.2 rfl))
  | m + 1, c, h, hst => by
    obtain ⟨n, st, e⟩ := run_succ c
    rw [e]
    cases n with
    | done r => exact step c _ st h
    | call c' =>
      exact run_stable_ind step m c' (step c _ st h) fun M hM => by
        have := hst (M + 1) (Nat.succ_le_succ hM)
        rwa [e, e] at this

theorem run_pollFuel_ind {Pre : Call → Prop} {Post : World → Prop}
    (step : ∀ c n, Step c n → Pre c → n.Holds Pre Post) (c : Call) (h : Pre c) : Post (c.run pollFuel) :=
  run_stable_ind step pollFuel c h fun M hM => by
    rw [run_uniform c M (Nat.le_trans fuelBound_le_pollFuel hM), run_uniform c pollFuel fuelBound_le_pollFuel]

theorem pollWith_uniform (w : World) (f : Nat) (hf : fuelBound ≤ f) : World.pollWith f w = World.pollWith fuelBound w := by
  unfold World.pollWith
  cases w.fut with
  | none => rfl
  | some pc => exact run_uniform _ f hf

theorem K_resume_any (w : World) (pc : Pc) (hw : w.wakes = 0) : K 1 (resumeCall w pc) := by
  refine ⟨by rw [resumeCall_world, hw]; omega, ?_⟩
  cases pc with
  | waitRead o d y =>
    cases y with
    | true => exact .inl trivial
    | false => exact .inr ⟨rfl, rfl, hw⟩
  | _ => exact .inl trivial

theorem K_resume_ok (w : World) (pc : Pc) (hw : w.wakes = 0) (hp : PcOk pc) : K 0 (resumeCall w pc) := by
  refine ⟨by rw [resumeCall_world, hw]; omega, .inl ?_⟩
  cases pc with
  | waitRead o d y => cases (show y = true from hp); trivial
  | _ => trivial

theorem poll_halt (w : World) :
    (w.fut = none ∧ World.poll w = { w with wakes := 0, lastIoStarved := false }) ∨
    ∃ pc, w.fut = some pc ∧
      Halt (resumeCall { w with wakes := 0, lastIoStarved := false, fut := none } pc) (World.poll w) := by
  rw [poll_eq_pollWith]
  unfold World.pollWith
  cases hf : w.fut with
  | none => exact .inl ⟨rfl, rfl⟩
  | some pc => exact .inr ⟨pc, rfl, run_pollFuel_halt _⟩

theorem poll_rel (w : World) : Rel w (World.poll w) := by
  rcases poll_halt w with ⟨_, e⟩ | ⟨pc, _, h⟩
  · rw [e]; exact ⟨Grew.refl w, .inl ⟨rfl, rfl⟩⟩
  · have := h.final.rel
    rw [resumeCall_world] at this
    exact ⟨this.quiet, this.io⟩

/-- **Any POLL, any world**: every new trace line contains a blank, at most one self-wake (and that
only from a hand-made await point), and what is left suspended is an await point of the machine's
making. -/
theorem poll_tidy (w : World) : Lines w (World.poll w) ∧ (World.poll w).wakes ≤ 1 ∧ FutOk (World.poll w) := by
  rcases poll_halt w with ⟨hf, e⟩ | ⟨pc, _, h⟩
  · rw [e]; exact ⟨Grew.refl w, Nat.zero_le 1, .inl hf⟩
  · have := h.tidy 1 (K_resume_any _ pc rfl)
    rw [resumeCall_world] at this
    exact ⟨Grew.of_eq this.1 rfl rfl, this.2, h.susp.futOk⟩

theorem poll_ok (w : World) (h : FutOk w) : (World.poll w).wakes = 0 := by
  rcases poll_halt w with ⟨_, e⟩ | ⟨pc, hf, hh⟩
  · rw [e]
  · have hp : PcOk pc := by
      rcases h with h | ⟨pc', h1, h2⟩
      · rw [hf] at h; cases h
      · rw [hf] at h1; cases h1; exact h2
    exact Nat.le_zero.mp (hh.tidy 0 (K_resume_ok _ pc rfl hp)).2

theorem start_tidy (c : Call) (hg : Good c) (hw : c.world.wakes = 0) :
    Lines c.world (c.run pollFuel) ∧ (c.run pollFuel).wakes = 0 ∧ FutOk (c.run pollFuel) := by
  have h := run_pollFuel_halt c
  have := h.tidy 0 ⟨by omega, .inl hg⟩
  exact ⟨this.1, Nat.le_zero.mp this.2, h.susp.futOk⟩

/-- `World.startConnect` with the fuel as a parameter (`startConnect = startConnectWith pollFuel`). -/
def _root_.Minimq.World.startConnectWith (fuel : Nat) (w : World) : World :=
  let w := w.dropConn
  let w := { w with nets := w.nets ++ [({ } : Net)] }
  let w := w.emit s!"net {w.netIdx} open"
  let w := { w with sess := w.sess.beginConnect, wakes := 0, lastIoStarved := false }
  let c : Connect := w.sess.connectPacket
  let (s2, res) := w.sess.encode (fun cap _ => encodeConnect cap c)
  let w := { w with sess := s2 }
  match res with
  | .error e => w.finishErr "connect" (Err.ofSer e)
  | .ok (off, len) => (Call.DLW w 0 (w.sess.data.outbound.retainedPacket off len)).run fuel

theorem startConnect_eq_with (w : World) : w.startConnect = w.startConnectWith pollFuel := by
  unfold World.startConnect World.startConnectWith
  -- with these two as variables the check is a comparison of terms, not an evaluation
  generalize w.dropConn = v
  generalize pollFuel = f
  rfl

theorem startConnectWith_uniform (w : World) (f : Nat) (hf : fuelBound ≤ f) :
    w.startConnectWith f = w.startConnectWith fuelBound := by
  unfold World.startConnectWith
  dsimp only
  split
  · rfl
  · exact run_uniform _ f hf

/-! ### What the directives do to trace, await point and self-wake counter

Besides running the machine, a directive prints lines and changes the world in ways that leave the trace and
the self-wake counter alone (or clear the counter) and leave the await point and the session alone (or clear
the await point). A transitive relation between worlds that contains these acts, a POLL and a run of the
machine from an entry point holds between a world and what a directive makes of it
(`DirClosed.execDirective`). The trace properties `Grew P` are such relations, and so is the preservation
of an invariant of the await point (`NoSpin.WI`, `WaitWin`). -/

/-- The lines the machine and the interpreter print, the marker `spin` of a `go` out of rounds apart: lines
with a blank, and the words `bad-op`, `cancel` and `drop`. -/
def Printed (l : String) : Prop := ' ' ∈ l.toList ∨ l = "bad-op" ∨ l = "cancel" ∨ l = "drop"

structure DirClosed (R : World → World → Prop) : Prop where
  trans : ∀ {a b c}, R a b → R b c → R a c
  emit : ∀ w l, Printed l → R w (w.emit l)
  keep : ∀ {w w' : World}, w'.out = w.out → w'.wakes = w.wakes ∨ w'.wakes = 0 →
    w'.fut = none ∨ (w'.fut = w.fut ∧ w'.sess = w.sess) → R w w'
  poll : ∀ w, R w (World.poll w)
  run : ∀ c : Call, Good c → c.world.wakes = 0 → R c.world (c.run pollFuel)

namespace DirClosed
variable {R : World → World → Prop}

theorem refl (hR : DirClosed R) (w : World) : R w w := hR.keep rfl (.inl rfl) (.inr ⟨rfl, rfl⟩)

/-- A change of fields other than trace, await point, self-wake counter and session. -/
theorem same (hR : DirClosed R) {w a a' : World} (h : R w a) (ho : a'.out = a.out := by rfl)
    (hw : a'.wakes = a.wakes := by rfl) (hf : a'.fut = a.fut := by rfl) (hs : a'.sess = a.sess := by rfl) : R w a' :=
  hR.trans h (hR.keep ho (.inl hw) (.inr ⟨hf, hs⟩))

theorem finish (hR : DirClosed R) {w a : World} (h : R w a) (line : String) : R w (a.finish line) :=
  hR.trans (hR.trans h (hR.emit a (s!"{line} @{a.now}")
    (.inl (blank_append_left _ _ (space_append_right _ _ (by decide)))))) (hR.keep rfl (.inl rfl) (.inl rfl))

theorem finishErr (hR : DirClosed R) {w a : World} (h : R w a) (op : String) (e : Err) : R w (a.finishErr op e) :=
  hR.trans (hR.finish h _) (hR.keep rfl (.inl rfl) (.inl rfl))

theorem emitState (hR : DirClosed R) (w : World) : R w w.emitState := by
  refine hR.trans (hR.trans (hR.emit w _ (.inl ?_)) (hR.emit _ _ (.inl ?_))) (hR.emit _ _ (.inl ?_))
  · unfold stateLine
    simp only [String.toList_append, List.mem_append]
    repeat apply Or.inl
    decide
  · unfold handleLine
    split
    · decide
    · exact blank_append_left "h " _ (by decide)
  · unfold capLine
    exact blank_append_left _ _ (space_append_right _ _ (by decide))

theorem cancelFut (hR : DirClosed R) (w : World) : R w w.cancelFut := by
  unfold World.cancelFut
  split
  · exact hR.trans (hR.emit w "cancel" (.inr (.inr (.inl rfl)))) (hR.keep rfl (.inl rfl) (.inl rfl))
  · exact hR.refl w

theorem opStart (hR : DirClosed R) (w : World) : R w w.opStart :=
  hR.trans (hR.cancelFut w) (hR.keep rfl (.inr rfl) (.inr ⟨rfl, rfl⟩))

theorem dropConn (hR : DirClosed R) (w : World) : R w w.dropConn := by
  unfold World.dropConn
  dsimp only
  split
  · exact hR.same (hR.trans (hR.cancelFut w) (hR.emit _ "drop" (.inr (.inr (.inr rfl)))))
  · exact hR.cancelFut w

theorem startConnect (hR : DirClosed R) (w : World) : R w w.startConnect := by
  have h1 : ∀ s, R w { w.connectStart with sess := s } := fun s =>
    hR.trans (hR.trans (hR.same (hR.dropConn w) (a' := { w.dropConn with nets := w.dropConn.nets ++ [({ } : Net)] }))
      (hR.emit _ _ (.inl (blank_append_left _ _ (blank_append_left _ _ (by decide))))))
      (hR.keep rfl (.inr rfl) (.inl (dropConn_none w).1))
  exact startConnect_ind (P := R w) w (fun _ => hR.finishErr (h1 _) _ _)
    fun bytes => hR.trans (h1 _) (hR.run (.DLW _ 0 bytes) trivial rfl)

theorem goLoop (hR : DirClosed R) (hs : ∀ w, R w (w.emit "spin")) (n : Nat) (w : World) : R w (World.goLoop n w) :=
  goLoop_ind (P := R w) (fun w' h => hR.same (hR.trans (hR.same h) (hR.poll { w' with slot := some 250 })))
    (fun w' h => hR.trans h (hs w')) n w (hR.refl w)

/-- **What a directive does**, up to what `go` does, about which the caller says what it knows (`Q` is its
exception). -/
theorem execDirective (hR : DirClosed R) (w : World) (d : Directive) {Q : Prop}
    (hgo : d = .go → R w (World.goLoop 10000 w) ∨ Q) : R w (w.execDirective d) ∨ Q := by
  have start := hR.opStart w
  refine execDirective_ind (P := fun r => R w r ∨ Q) w d fun r ho => ?_
  cases ho with
  | go hd => exact hgo hd
  | badOp => exact .inl (hR.emit w _ (.inr (.inl rfl)))
  | decode bs => exact .inl (hR.emit w _ (.inl (blank_append_left "dec " _ (by decide))))
  | connect => exact .inl (hR.startConnect w)
  | noConn name => exact .inl (hR.emit w _ (.inl (blank_append_left _ _ (blank_append_left _ _ (by decide)))))
  | dead k | invalid k => exact .inl (hR.finishErr start _ _)
  | discDead => exact .inl (hR.finish start _)
  | request k => exact .inl (hR.trans start (hR.run (.FL _ k) trivial rfl))
  | drive o => exact .inl (hR.trans start (hR.run (.DE _ o) trivial rfl))
  | decision n => exact .inl (hR.same (hR.trans (hR.same (hR.refl w)) (hR.poll { w with slot := some n })))
  | tick us => exact .inl (hR.trans (hR.same (hR.refl w)) (hR.poll { w with now := w.now + us }))
  | tickIdle us | rx bytes => exact .inl (hR.same (hR.refl w))
  | cancel => exact .inl (hR.cancelFut w)
  | drop => exact .inl (hR.dropConn w)
  | setpid n hf => exact .inl (hR.keep rfl (.inl rfl) (.inl hf))

theorem exec (hR : DirClosed R) (hs : ∀ w, R w (w.emit "spin")) (w : World) (d : Directive) : R w (w.execDirective d) :=
  (hR.execDirective w d (Q := False) fun _ => .inl (hR.goLoop hs _ w)).resolve_right id

end DirClosed

theorem Grew.dirClosed {P : String → Prop} (hP : ∀ l, Printed l → P l) : DirClosed (Grew P) where
  trans := Grew.trans
  emit w l hl := (Grew.refl w).emit l (hP l hl)
  keep ho _ _ := (Grew.refl _).of_eq rfl ho
  poll w := Grew.mono (fun l h => hP l (.inl h)) (poll_tidy w).1
  run c hg hw := Grew.mono (fun l h => hP l (.inl h)) (start_tidy c hg hw).1

def Quiet (w r : World) : Prop := ∃ new, r.out = new ++ w.out ∧ ∀ l ∈ new, l ≠ "fuel"

theorem Quiet.finish {w a : World} (h : Quiet w a) (line : String) : Quiet w (a.finish line) :=
  Grew.finish ne_fuel_of_space h line

theorem Quiet.finishErr {w a : World} (h : Quiet w a) (op : String) (e : Err) : Quiet w (a.finishErr op e) :=
  Grew.finishErr ne_fuel_of_space h op e

theorem Printed.ne {l s : String} (h : Printed l) (hb : ' ' ∉ s.toList)
    (hw : s ≠ "bad-op" ∧ s ≠ "cancel" ∧ s ≠ "drop") : l ≠ s := by
  rintro rfl
  rcases h with h | h | h | h
  · exact hb h
  · exact hw.1 h
  · exact hw.2.1 h
  · exact hw.2.2 h

theorem ne_fuel_of_printed (l : String) (h : Printed l) : l ≠ "fuel" := h.ne (by decide) (by decide)

theorem quiet_execDirective (w : World) (d : Directive) : Quiet w (w.execDirective d) :=
  (Grew.dirClosed ne_fuel_of_printed).exec (fun w => (Grew.refl w).emit "spin" (by decide)) w d

theorem quiet_run (ds : List Directive) (w : World) : Quiet w (ds.foldl World.execDirective w) :=
  program_ind (fun r d h => Grew.trans h (quiet_execDirective r d)) ds (Grew.refl w)

theorem quiet_program (ls : List String) (w : World) : Quiet w (ls.foldl World.exec w) :=
  lines_ind (fun r d h => Grew.trans h (quiet_execDirective r d))
    (fun r h => Grew.trans h ((Grew.dirClosed ne_fuel_of_printed).emitState r)) ls (Grew.refl w)

/-- The await point belongs to a `poll()`/`recv()` whose `drive_packet` round has not advanced
anything so far (in this or an earlier POLL). -/
def _root_.Minimq.Pc.idle : Pc → Bool
  | .stepWrite (.drive adv o) _ _ _ _ _ => !adv && o != .drive
  | .stepFlush (.drive adv o) _ _ => !adv && o != .drive
  | .waitRead o _ _ => o != .drive
  | _ => false

theorem resumeCall_calm (w : World) (pc : Pc) : (resumeCall w pc).calm = pc.idle := by
  cases pc with
  | stepWrite ctx _ _ _ _ _ => cases ctx <;> rfl
  | stepFlush ctx _ _ => cases ctx <;> rfl
  | _ => rfl

theorem ne_drive {o : Outer} (ho : o ≠ .drive) : (o != .drive) = true := by
  cases o <;> first | rfl | exact absurd rfl ho

theorem poll_idle (w : World) (pc : Pc) (hf : w.fut = some pc) (hi : pc.idle = true)
    (hb : w.sess.reader.cls = 0) : NotOk (World.poll w) ∨ Consumed w (World.poll w) := by
  rcases poll_halt w with ⟨h0, _⟩ | ⟨pc', hf', h⟩
  · rw [hf] at h0; cases h0
  · rw [hf] at hf'; cases hf'
    have := h.final.stuck ⟨(resumeCall_calm _ pc).trans hi, by rw [resumeCall_world]; exact hb⟩
    rw [resumeCall_world] at this
    exact this

theorem start_idle (w : World) (o : Outer) (ho : o ≠ .drive) (hb : w.sess.reader.cls = 0) :
    NotOk (driveEnter pollFuel w o) ∨ Consumed w (driveEnter pollFuel w o) :=
  (run_pollFuel_final (.DE w o)).stuck ⟨ne_drive ho, hb⟩

/-- The `poll()`/`recv()`/`drive()` an await point belongs to, with the `advanced` flag of the current
`drive_packet` round as carried by the await point (`wait_for_progress` is entered only after an
`Idle` round, so there it is false). `none` for the await points of the other operations. -/
def _root_.Minimq.Pc.driveOp : Pc → Option (Outer × Bool)
  | .stepWrite (.drive adv o) _ _ _ _ _ => some (o, adv)
  | .stepFlush (.drive adv o) _ _ => some (o, adv)
  | .waitRead o _ _ => some (o, false)
  | _ => none

theorem idle_of_driveOp {pc : Pc} {o : Outer} (h : pc.driveOp = some (o, false)) (ho : o ≠ .drive) :
    pc.idle = true := by
  have : pc.idle = (o != .drive) := by
    cases pc with
    | stepWrite ctx _ _ _ _ _ => cases ctx <;> cases h; rfl
    | stepFlush ctx _ _ => cases ctx <;> cases h; rfl
    | waitRead o' _ _ => cases h; rfl
    | _ => cases h
  rw [this]; exact ne_drive ho

end Fuel

open Fuel

theorem dropConn_slot (w : World) : w.dropConn.slot = w.slot := by
  obtain ⟨_, _, h⟩ := dropConn_frame w
  rw [h]

theorem call_slot_none (c : Call) (h : c.world.slot = none) : (c.run pollFuel).slot = none :=
  (run_pollFuel_final c).rel.slot_none h

theorem goLoop_slot_none (n : Nat) (w : World) (h : w.slot = none) : (World.goLoop n w).slot = none :=
  goLoop_ind (P := fun w => w.slot = none) (fun _ _ => rfl) (fun _ h => h) n w h

/-- **No I/O decision is left over between directives**: every directive leaves the decision slot
empty if it found it empty. -/
theorem execDirective_slot_none (w : World) (d : Directive) (h : w.slot = none) : (w.execDirective d).slot = none := by
  have hs : w.opStart.slot = none := (cancelFut_slot w).trans h
  have hc : ∀ s, ({ w.connectStart with sess := s } : World).slot = none := fun _ => (dropConn_slot w).trans h
  refine execDirective_ind (P := fun r => r.slot = none) w d fun r ho => ?_
  cases ho with
  | badOp | decode | noConn | tickIdle | rx | setpid => exact h
  | connect =>
    exact startConnect_ind (P := fun r => r.slot = none) w (fun _ => ((Rel.refl _).finishErr _ _).slot_none (hc _))
      fun _ => call_slot_none (.DLW _ 0 _) (hc _)
  -- through `Rel`: unifying `(a.finishErr o e).slot` with `a.slot` directly unfolds `opStart` first
  | dead | invalid => exact ((Rel.refl _).finishErr _ _).slot_none hs
  | discDead => exact ((Rel.refl _).finish _).slot_none hs
  | request k => exact call_slot_none (.FL _ k) hs
  | drive o => exact call_slot_none (.DE _ o) hs
  | decision n => rfl
  | go => exact goLoop_slot_none _ _ h
  | tick us => exact (poll_rel _).slot_none h
  | cancel => exact (cancelFut_slot w).trans h
  | drop => exact (dropConn_slot w).trans h

theorem run_slot_none (ds : List Directive) (w : World) (h : w.slot = none) :
    (ds.foldl World.execDirective w).slot = none :=
  program_ind execDirective_slot_none ds h

end Minimq
