import Minimq.Proofs.ArenaClosed
import Minimq.Proofs.Lift
import Minimq.Proofs.QueueView
/-
Every step of the session is a chain of moves of the bookkeeping, and the send quota moves in step with the
number of exchanges in flight (`Move`): for `handle_packet` by cases on `Handled`, for the session primitives by
cases on `Prim` (`Prim.vstep`; packets are retained framed, which is all `Prim` knows of an encoder), for the
updates of the world by cases on `MStep`/`DStep` (`DStep.qsteps`; there the requests are known). A predicate of
the view that the moves preserve is then an invariant of all executions (`closed_view`), and the window
accounting is read off `Move` (`Move.le`, `Move.eq`).
-/
namespace Minimq
open Gen World Outbound Quiesce

/-- What a step does to the window accounts, `i` and `i'` being the exchanges in flight before and after it.
`lose`: exchanges end and nothing comes back to the quota, which `F` has to excuse. -/
inductive Move (F : Prop) (r r' : Runtime) (i i' : Nat) : Prop
  | keep (hq : r'.sendQuota = r.sendQuota) (hm : r'.maxSendQuota = r.maxSendQuota) (hd : r'.deficit = r.deficit)
      (hi : i' = i)
  | give (hr : r' = quotaInc r) (hi : i' + 1 = i)
  | take (hn : r.sendQuota ≠ 0) (hq : r'.sendQuota = r.sendQuota - 1) (hm : r'.maxSendQuota = r.maxSendQuota)
      (hd : r'.deficit = r.deficit) (hi : i' = i + 1)
  | lose (hq : r'.sendQuota = r.sendQuota) (hm : r'.maxSendQuota = r.maxSendQuota) (hd : r'.deficit = r.deficit)
      (hi : i' ≤ i) (hf : F)

/-- The accounts after an accepted CONNACK: both quotas at the negotiated value, the send quota less the `i`
publishes to replay; `deficit` says that there were more of those. -/
def Reset (r : Runtime) (i : Nat) : Prop :=
  r.sendQuota = r.maxSendQuota - i ∧ r.deficit = decide (r.maxSendQuota < i)

section
variable {F G : Prop} {r r' : Runtime} {i i' : Nat}

theorem Move.imp (h : F → G) (m : Move F r r' i i') : Move G r r' i i' := by
  cases m with
  | keep hq hm hd hi => exact .keep hq hm hd hi
  | give hr hi => exact .give hr hi
  | take hn hq hm hd hi => exact .take hn hq hm hd hi
  | lose hq hm hd hi hf => exact .lose hq hm hd hi (h hf)

theorem Move.fields (m : Move F r r' i i') : r'.maxSendQuota = r.maxSendQuota ∧ r'.deficit = r.deficit := by
  cases m with
  | keep _ hm hd | take _ _ hm hd | lose _ hm hd => exact ⟨hm, hd⟩
  | give hr => subst hr; exact ⟨rfl, rfl⟩

theorem Move.le (m : Move F r r' i i') (h : r.deficit = true ∨ r.sendQuota + i ≤ r.maxSendQuota) :
    r'.deficit = true ∨ r'.sendQuota + i' ≤ r'.maxSendQuota := by
  cases m with
  | keep hq hm hd hi | lose hq hm hd hi => rw [hq, hm, hd]; exact h.imp id fun _ => by omega
  | give hr hi => subst hr; simp only [quotaInc]; exact h.imp id fun _ => by omega
  | take hn hq hm hd hi => rw [hq, hm, hd]; exact h.imp id fun _ => by omega

theorem Reset.le (h : Reset r i) : r.deficit = true ∨ r.sendQuota + i ≤ r.maxSendQuota := by
  by_cases hlt : r.maxSendQuota < i
  · exact .inl (by rw [h.2]; exact decide_eq_true hlt)
  · exact .inr (by have := h.1; omega)

theorem Reset.eq (h : Reset r i) (hd : r.deficit = false) : r.sendQuota + i = r.maxSendQuota := by
  have : ¬ r.maxSendQuota < i := of_decide_eq_false (h.2.symm.trans hd)
  have := h.1; omega

/-- Balanced books stay balanced, unless exchanges were lost: giving one unit back, neither the
`min(…, max_send_quota)` nor the saturation at 65535 bites. -/
theorem Move.eq (m : Move F r r' i i') (hm : r.maxSendQuota ≤ maxInflight) (h : r.sendQuota + i = r.maxSendQuota) :
    r'.sendQuota + i' = r'.maxSendQuota ∨ F := by
  have h8 : maxInflight = 8 := rfl
  cases m with
  | keep hq hm hd hi => rw [hq, hm, hi]; exact .inl h
  | give hr hi => subst hr; simp only [quotaInc]; exact .inl (by omega)
  | take hn hq hm hd hi => rw [hq, hm]; exact .inl (by omega)
  | lose _ _ _ _ hf => exact .inr hf

/-- `Move.eq` with the ghost flag `deficit` in front. -/
theorem Move.bal (m : Move F r r' i i')
    (h : r.maxSendQuota ≤ maxInflight ∧ (r.deficit = false → r.sendQuota + i = r.maxSendQuota)) :
    (r'.maxSendQuota ≤ maxInflight ∧ (r'.deficit = false → r'.sendQuota + i' = r'.maxSendQuota)) ∨
      F ∧ r.deficit = false := by
  obtain ⟨hm, hd⟩ := m.fields
  by_cases h0 : r.deficit = false
  · exact (m.eq h.1 (h.2 h0)).imp (fun e => ⟨hm ▸ h.1, fun _ => e⟩) fun hf => ⟨hf, h0⟩
  · exact .inl ⟨hm ▸ h.1, fun h1 => absurd (hd ▸ h1) h0⟩

end

def VStep (K : Bytes → Nat → Prop) (F : Prop) (o : Outbound) (r : Runtime) (o' : Outbound) (r' : Runtime) : Prop :=
  (∃ δ, QSteps K δ (qv o) (qv o')) ∧ Move F r r' (qv o).inflight (qv o').inflight

section
variable {K : Bytes → Nat → Prop} {F : Prop} {o o' : Outbound} {r r' : Runtime}

theorem VStep.keep (h : QSteps K 0 (qv o) (qv o')) (hq : r'.sendQuota = r.sendQuota)
    (hm : r'.maxSendQuota = r.maxSendQuota) (hd : r'.deficit = r.deficit) : VStep K F o r o' r' :=
  ⟨⟨0, h⟩, .keep hq hm hd (by have := h.inflight; omega)⟩

theorem VStep.imp {G : Prop} (h : F → G) (st : VStep K F o r o' r') : VStep K G o r o' r' := ⟨st.1, st.2.imp h⟩

theorem VStep.move (st : VStep K F o r o' r') (ha : o.ArenaInv) (ha' : o'.ArenaInv) :
    Move F r r' o.inflightPublishes o'.inflightPublishes := by
  rw [inflight_qv _ ha, inflight_qv _ ha']; exact st.2

theorem VStep.inv {P : QV → Prop} (hP : ∀ δ a b, QStep K δ a b → P a → P b) (h : VStep K F o r o' r') (ha : P (qv o)) :
    P (qv o') := h.1.elim fun _ c => c.inv hP ha

/-- **`handle_packet` is at most one move of the bookkeeping**; what it loses is a PUBLISH whose PUBREL is over the
size limit, or finds the release queue full beside more exchanges in flight than that queue holds. -/
theorem Handled.vstep {res : Except Err Bool} (h : Handled o r o' r' res) (ha : o.ArenaInv) :
    VStep K (HandleFatal res ∨ MAX_PENDING_RELEASE + 1 ≤ o.inflightPublishes) o r o' r' := by
  have ack (id k) (hf : (o.ackPacket id k).2 = true) :=
    (QStep.retAck (K := K) (qv o) id k ((qv_ackPacket o id k ha).1 ▸ hf)).to ((qv_ackPacket o id k ha).2 hf).symm
  -- a PUBACK or PUBREC that finds its PUBLISH ends one exchange
  have pub {id k} (hk : k = .pubAck ∨ k = .pubRec) (hf : (o.ackPacket id k).2 = true) :
      (∃ δ, QSteps K δ (qv o) (qv (o.ackPacket id k).1)) ∧ (qv (o.ackPacket id k).1).inflight + 1 = (qv o).inflight :=
    ⟨⟨_, .one (ack id k hf)⟩, by have := (ack id k hf).inflight; rw [if_pos hk] at this; omega⟩
  cases h with
  | same | pingResp => exact .keep (.refl _) rfl rfl rfl
  | control a _ _ hq => exact .keep (.one (qv_queueControl hq)) rfl rfl rfl
  | acked id k _ hk hf =>
    have st := ack id k hf
    rw [if_neg (by rcases hk with rfl | rfl <;> simp)] at st
    exact .keep (.one st) rfl rfl rfl
  | pubAck id _ hf => exact ⟨(pub (.inl rfl) hf).1, .give rfl (pub (.inl rfl) hf).2⟩
  | pubRecFailed id _ hf => exact ⟨(pub (.inr rfl) hf).1, .give rfl (pub (.inr rfl) hf).2⟩
  | pubRecTooLarge id hf =>
    exact ⟨(pub (.inr rfl) hf).1, .lose rfl rfl rfl (Nat.le.intro (pub (.inr rfl) hf).2) (.inl (.inr (.inr rfl)))⟩
  | pubRecFull id hf hfull =>
    refine ⟨(pub (.inr rfl) hf).1, .lose rfl rfl rfl (Nat.le.intro (pub (.inr rfl) hf).2) (.inr ?_)⟩
    have := pubRec_room o id ha hf
    omega
  | pubRec id ps _ hf hq =>
    obtain ⟨h1, h2⟩ := qv_ackPacket o id .pubRec ha
    obtain ⟨h3, h4⟩ := qv_queueRelease hq
    rw [h2 hf] at h3 h4
    exact .keep (.one ((QStep.retToRel (qv o) id (h1 ▸ hf) h3).to h4.symm)) rfl rfl rfl
  | pubComp id _ hf =>
    exact ⟨⟨_, .one (qv_ackRelease o id hf)⟩, .give rfl (by have := (qv_ackRelease (K := K) o id hf).inflight; omega)⟩

theorem Handled.arena {res : Except Err Bool} (h : Handled o r o' r' res) (ha : o.ArenaInv) : o'.ArenaInv := by
  cases h with
  | same | pingResp => exact ha
  | control a _ _ hq => obtain ⟨-, rfl⟩ := queueControl_some hq; exact ArenaInv_of_layout ha rfl rfl rfl
  | acked id k | pubAck id | pubRecFailed id | pubRecTooLarge id | pubRecFull id => exact (ackPacket_spec o id _ ha).1
  | pubRec id ps _ _ hq =>
    obtain ⟨-, rfl⟩ := queueRelease_some hq; exact ArenaInv_of_layout (ackPacket_spec o id _ ha).1 rfl rfl rfl
  | pubComp id => rw [ackRelease_eq]; split <;> first | exact ha | exact ArenaInv_of_layout ha rfl rfl rfl

theorem VStep.ids_sub (st : VStep (fun _ _ => False) F o r o' r') : ∀ x ∈ o'.usedIds, x ∈ o.usedIds := by
  rw [← qv_ids, ← qv_ids]
  exact st.inv (P := fun v => ∀ x ∈ v.ids, x ∈ (qv o).ids)
    (fun _ _ _ s h x hx => (s.ids_sub x hx).elim (h x) fun ⟨_, hk⟩ => hk.elim) fun _ h => h

end

theorem completeFlush_quota_fields (s : Session) (pkt : Flushed) (now : Nat) :
    (s.completeFlush pkt now).rt.sendQuota = s.rt.sendQuota ∧ (s.completeFlush pkt now).rt.maxSendQuota = s.rt.maxSendQuota ∧
    (s.completeFlush pkt now).rt.deficit = s.rt.deficit ∧
    (s.completeFlush pkt now).rt.maximumPacketSize = s.rt.maximumPacketSize := by
  unfold Session.completeFlush
  cases pkt with
  | control a =>
    dsimp only [Runtime.noteOutboundActivity]
    split <;> exact ⟨rfl, rfl, rfl, rfl⟩
  | release | retained => exact ⟨rfl, rfl, rfl, rfl⟩

def EncAll {ε : Type} (K : Bytes → Prop) (enc : Nat → (Nat → Nat → Bytes) → Except ε (Nat × Bytes)) : Prop :=
  ∀ cap view off pkt, (∀ i n, (view i n).length ≤ n) → enc cap view = .ok (off, pkt) → K pkt

section
variable {K : Bytes → Nat → Prop} {F : Prop} {s s' : Session}

theorem Session.queuePing_vstep {now : Nat} (hq : s.queuePing now = .ok s') :
    VStep K F s.data.outbound s.rt s'.data.outbound s'.rt := by
  rcases Session.queuePing_ok hq with rfl | ⟨o, ho, rfl⟩
  · exact .keep (.refl _) rfl rfl rfl
  · exact .keep (.one (qv_queueControl ho)) rfl rfl rfl

theorem Session.completeFlush_vstep (s : Session) (pkt : Flushed) (now : Nat) :
    VStep K F s.data.outbound s.rt (s.completeFlush pkt now).data.outbound (s.completeFlush pkt now).rt :=
  have hf := completeFlush_quota_fields s pkt now
  .keep (.one (qv_completeFlush s.data.outbound pkt)) hf.1 hf.2.1 hf.2.2.1

theorem Session.setWritten_vstep (s : Session) (pkt : Flushed) (w len : Nat) :
    VStep K F s.data.outbound s.rt (s.setWritten pkt w len).data.outbound (s.setWritten pkt w len).rt :=
  .keep (.one (qv_setWritten s.data.outbound pkt w len)) rfl rfl rfl

theorem Session.handleDisconnect_vstep (s : Session) (ha : s.data.outbound.ArenaInv) :
    VStep K F s.data.outbound s.rt s.handleDisconnect.data.outbound s.handleDisconnect.rt :=
  .keep (qv_rearm _ ha) rfl rfl rfl

theorem Session.beginConnect_vstep (s : Session) (ha : s.data.outbound.ArenaInv) :
    VStep K F s.data.outbound s.rt s.beginConnect.data.outbound s.beginConnect.rt :=
  .keep (qv_rearm _ ha) rfl rfl rfl

theorem Session.alloc_vstep (s : Session) : VStep K F s.data.outbound s.rt s.alloc.1.data.outbound s.alloc.1.rt := by
  rw [Session.alloc_fst]; exact .keep (.of_eq (congrArg qv (nextPacketId_outbound s.data))) rfl rfl rfl

theorem Session.encode_vstep {ε : Type} (s : Session) (enc : Nat → (Nat → Nat → Bytes) → Except ε (Nat × Bytes))
    (he : EncOk enc) (ha : s.data.outbound.ArenaInv) :
    VStep K F s.data.outbound s.rt (s.encode enc).1.data.outbound (s.encode enc).1.rt := by
  rw [Session.encode_fst]; exact .keep (.of_eq (qv_encodeAt _ _ ha he)) rfl rfl rfl

theorem Session.alloc_encode_vstep {ε : Type} (s : Session) (enc : Nat → (Nat → Nat → Bytes) → Except ε (Nat × Bytes))
    (he : EncOk enc) (ha : s.data.outbound.ArenaInv) :
    VStep K F s.data.outbound s.rt (s.alloc.1.encode enc).1.data.outbound (s.alloc.1.encode enc).1.rt := by
  rw [Session.alloc_encode_fst]; exact .keep (.of_eq (qv_encodeAt _ _ ha he)) rfl rfl rfl

theorem Session.handle_vstep (s : Session) (p : Recv) (ha : s.data.outbound.ArenaInv) :
    VStep K (HandleFatal (s.handle p).2 ∨ MAX_PENDING_RELEASE + 1 ≤ s.data.outbound.inflightPublishes) s.data.outbound s.rt
      (s.handle p).1.data.outbound (s.handle p).1.rt :=
  (handlePacket_handled s.data s.rt p).vstep ha

theorem Session.enqueue_vstep {ε : Type} {enc : Nat → (Nat → Nat → Bytes) → Except ε (Nat × Bytes)} {off len typ : Nat}
    {isPub : Bool} (he : EncOk enc) (ht : EncTyp enc typ) (hiff : isPub = true ↔ typ = MT_Publish)
    (hK : EncAll (K · s.data.nextPacketId.2) enc) (ha : s.data.outbound.ArenaInv) (hquota : isPub = true → s.rt.sendQuota ≠ 0)
    (hres : (s.alloc.1.encode enc).2 = .ok (off, len))
    (hr : (s.alloc.1.encode enc).1.retain s.alloc.2 off len isPub = some s') :
    VStep K F s.data.outbound s.rt s'.data.outbound s'.rt := by
  obtain ⟨o, hres', ho, rfl⟩ := Session.enqueue_some hres hr
  obtain ⟨off0, pkt, hpk, hsl, -⟩ := encodeAt_packet s.data.outbound enc ha he off len hres'
  obtain ⟨x, rest, hx, hxt⟩ := ht _ _ _ _ hpk
  have st : QStep K (if isPubPkt pkt then 1 else 0) (qv s.data.outbound) (qv o) :=
    (QStep.retPush _ pkt _ (hK _ _ _ _ (fun _ _ => slice_length_le _ _ _) hpk)).to
      (by rw [qv_retainPacket ho, qv_encodeAt _ enc ha he, hsl])
  have hp : isPubPkt pkt = isPub := by
    rw [hx, Bool.eq_iff_iff, hiff, ← hxt]; simp [isPubPkt]
  rw [hp] at st
  have := st.inflight
  cases isPub with
  | true => exact ⟨⟨_, .one st⟩, .take (hquota rfl) rfl rfl rfl (by show (qv o).inflight = _; simp at this; omega)⟩
  | false => exact ⟨⟨_, .one st⟩, .keep rfl rfl rfl (by show (qv o).inflight = _; simp at this; omega)⟩

theorem Session.activated_reset (s : Session) (sp : Bool) (block : Bytes) (now : Nat) :
    (s.activated sp block now).rt.maxSendQuota = negotiatedQuota block ∧
    Reset (s.activated sp block now).rt (s.preActivate sp).data.outbound.inflightPublishes := by
  have hq := connackSettings_quota (s.preActivate sp).rt.configuredKeepaliveMs block
  have hm : (s.activated sp block now).rt.maxSendQuota = negotiatedQuota block := hq.2
  exact ⟨hm, by rw [hm, ← hq.1]; rfl, by rw [hm, ← hq.1]; rfl⟩

/-- CONNACK processing: a fresh session empties the queues; an accepted CONNACK resets the accounts; a rejected one
re-arms what is left and keeps the quota of the old session. -/
theorem Session.activate_vstep (s : Session) (sp : Bool) (block : Bytes) (now : Nat)
    (ha : s.data.outbound.ArenaInv ∧ s.data.outbound.SerInv) :
    (∃ δ, QSteps K δ (qv s.data.outbound) (qv (s.activate sp block now).1.data.outbound)) ∧
    (Move True s.rt (s.activate sp block now).1.rt (qv s.data.outbound).inflight
        (qv (s.activate sp block now).1.data.outbound).inflight ∨
      Reset (s.activate sp block now).1.rt (qv (s.activate sp block now).1.data.outbound).inflight) := by
  have h0 : (∃ δ, δ ≤ 0 ∧ QSteps K δ (qv s.data.outbound) (qv (s.preActivate sp).data.outbound)) ∧
      (s.preActivate sp).data.outbound.ArenaInv := by
    cases sp
    · exact ⟨⟨_, by omega, .one (.clear _)⟩, ((OStep.clear s.data.outbound) ha).1.1⟩
    · exact ⟨⟨0, Int.le_refl _, .refl _⟩, ha.1⟩
  obtain ⟨⟨δ, hδ, c⟩, ha0⟩ := h0
  rcases s.activate_cases sp block now with e | e <;> rw [e]
  · have hr := (s.activated_reset sp block now).2
    rw [inflight_qv _ ha0] at hr
    exact ⟨⟨δ, c⟩, .inr hr⟩
  · have c' : QSteps K _ (qv s.data.outbound) (qv (s.rejected sp).data.outbound) := c.trans (qv_rearm _ ha0)
    have hr : (s.rejected sp).rt.sendQuota = s.rt.sendQuota ∧ (s.rejected sp).rt.maxSendQuota = s.rt.maxSendQuota ∧
        (s.rejected sp).rt.deficit = s.rt.deficit := by cases sp <;> exact ⟨rfl, rfl, rfl⟩
    exact ⟨⟨_, c'⟩, .inl (.lose hr.1 hr.2.1 hr.2.2 (by have := c'.inflight; omega) trivial)⟩

end

/-- **Every session primitive is a chain of moves of the bookkeeping**, with the send quota moving along, or being
reset by an accepted CONNACK. What it retains is framed (`EncOk`), under an identifier from the allocator. -/
theorem Prim.vstep {s s' : Session} (p : Prim s s') (ha : s.data.outbound.ArenaInv ∧ s.data.outbound.SerInv) :
    (∃ δ, QSteps (fun bs id => Framed bs ∧ (s.data.IdInv → id < 65536)) δ (qv s.data.outbound) (qv s'.data.outbound)) ∧
    (Move True s.rt s'.rt (qv s.data.outbound).inflight (qv s'.data.outbound).inflight ∨
      Reset s'.rt (qv s'.data.outbound).inflight) := by
  suffices h : (∃ sp block now, s' = (s.activate sp block now).1) ∨
      VStep (fun bs id => Framed bs ∧ (s.data.IdInv → id < 65536)) True s.data.outbound s.rt s'.data.outbound s'.rt by
    rcases h with ⟨sp, block, now, rfl⟩ | h
    · exact s.activate_vstep sp block now ha
    · exact ⟨h.1, .inl h.2⟩
  cases p with
  | activate _ sp block now => exact .inl ⟨sp, block, now, rfl⟩
  | queuePing _ now _ hq => exact .inr (Session.queuePing_vstep hq)
  | completeFlush _ pkt now => exact .inr (s.completeFlush_vstep pkt now)
  | setWritten _ pkt a c => exact .inr (s.setWritten_vstep pkt a c)
  | takePkt => rw [Session.takePkt_fst]; exact .inr (.keep (.refl _) rfl rfl rfl)
  | handle _ p => exact .inr ((s.handle_vstep p ha.1).imp fun _ => trivial)
  | handleDisconnect => exact .inr (s.handleDisconnect_vstep ha.1)
  | beginConnect => exact .inr (s.beginConnect_vstep ha.1)
  | alloc => exact .inr s.alloc_vstep
  | encodeConnect _ c => exact .inr (s.encode_vstep _ (EncOk_encodeConnect c) ha.1)
  | encodeScratch _ enc he => exact .inr (s.encode_vstep enc he ha.1)
  | encodeAfterAlloc _ enc he => exact .inr (s.alloc_encode_vstep enc he ha.1)
  | enqueue _ enc off len isPub _ typ he ht hiff hquota hres hr =>
    refine .inr (Session.enqueue_vstep he ht hiff (fun c v o p hv h => ⟨(he c v o p hv h).2.2, fun hid => ?_⟩) ha.1 hquota hres hr)
    have := (nextPacketId_fresh s.data hid.pid hid.out.retCap hid.out.relCap).2.1; omega
  | window _ _ n hw => obtain ⟨rd, -, rfl⟩ := Session.window_some hw; exact .inr (.keep (.refl _) rfl rfl rfl)
  | clearPing | noteActivity | commit | setPid => exact .inr (.keep (.refl _) rfl rfl rfl)

theorem closed_base : Closed (fun s => s.data.IdInv ∧ s.data.outbound.ArenaInv ∧ s.data.outbound.SerInv) :=
  closed_IdInv.and closed_arena

theorem closed_view {P : QV → Prop}
    (hP : ∀ K, (∀ bs id, K bs id → Framed bs ∧ id < 65536) → ∀ δ a b, QStep K δ a b → P a → P b) :
    Closed (fun s => (s.data.IdInv ∧ s.data.outbound.ArenaInv ∧ s.data.outbound.SerInv) ∧ P (qv s.data.outbound)) :=
  closed_base.and_of fun _ _ p hb h => (p.vstep hb.2).1.elim fun _ c => c.inv (hP _ fun _ _ hk => ⟨hk.1, hk.2 hb.1⟩) h

section
variable {A : AfterFlush → Prop} {K : Bytes → Prop}
  (hsub : ∀ r id, A (.subPre r) → EncAll K (subEnc id r)) (hunsub : ∀ r id, A (.unsubPre r) → EncAll K (unsubEnc id r))
  (hpub : ∀ r id qos m d, A (.publishPre r) → qos = effectiveQos m d r.qos → 0 < qos → EncAll K (pubEnc id qos r))
include hsub hunsub hpub

theorem MStep.qsteps {a b : World} (st : MStep A a b) (ha : a.sess.data.outbound.ArenaInv ∧ a.sess.data.outbound.SerInv) :
    ∃ δ, QSteps (fun bs _ => K bs) δ (qv a.sess.data.outbound) (qv b.sess.data.outbound) := by
  cases st with
  | queuePing _ now s' hq => exact (Session.queuePing_vstep (F := True) hq).1
  | completeFlush _ pkt now => exact (a.sess.completeFlush_vstep (F := True) pkt now).1
  | setWritten _ pkt w len => exact (a.sess.setWritten_vstep (F := True) pkt w len).1
  | takePkt => rw [Session.takePkt_fst]; exact ⟨_, .refl _⟩
  | handleKeep _ p => exact (a.sess.handle_vstep p ha.1).1
  | handleFatal _ p =>
    obtain ⟨_, c⟩ := (a.sess.handle_vstep (K := fun bs _ => K bs) p ha.1).1
    obtain ⟨_, c'⟩ := ((a.sess.handle p).1.handleDisconnect_vstep (K := fun bs _ => K bs) (F := True)
      (closed_arena.handle _ p ha).1).1
    exact ⟨_, c.trans c'⟩
  | handleDisconnect => exact (a.sess.handleDisconnect_vstep (F := True) ha.1).1
  | activateErr _ sp block | activateOk _ sp block => exact (a.sess.activate_vstep sp block a.now ha).1
  | alloc => exact (a.sess.alloc_vstep (F := True)).1
  | encodeAfterAlloc _ enc he => exact (a.sess.alloc_encode_vstep (F := True) enc he ha.1).1
  | encodeScratch _ enc he => exact (a.sess.encode_vstep (F := True) enc he ha.1).1
  | enqueueSub _ r off len s3 hk hres hr =>
    exact (Session.enqueue_vstep (F := True) (EncOk_encodeWithOffset _ _ _) (EncTyp_encodeWithOffset _ _ _ (by decide))
      (by decide) (hsub r _ hk) ha.1 (by simp) hres hr).1
  | enqueueUnsub _ r off len s3 hk hres hr =>
    exact (Session.enqueue_vstep (F := True) (EncOk_encodeWithOffset _ _ _) (EncTyp_encodeWithOffset _ _ _ (by decide))
      (by decide) (hunsub r _ hk) ha.1 (by simp) hres hr).1
  | enqueuePub _ r qos off len s3 hk hq hpos hquota hres hr =>
    exact (Session.enqueue_vstep (F := True) (EncOk_encodePublish _ _) (EncTyp_encodePublish _ _) (by decide)
      (hpub r _ qos _ _ hk hq hpos) ha.1 (fun _ => hquota) hres hr).1
  | window _ s' n hw => obtain ⟨rd, -, rfl⟩ := Session.window_some hw; exact ⟨_, .refl _⟩
  | _ => exact ⟨_, .refl _⟩

theorem DStep.qsteps {a b : World} (st : DStep A a b) (ha : a.sess.data.outbound.ArenaInv ∧ a.sess.data.outbound.SerInv) :
    ∃ δ, QSteps (fun bs _ => K bs) δ (qv a.sess.data.outbound) (qv b.sess.data.outbound) := by
  cases st with
  | machine st => exact st.qsteps hsub hunsub hpub ha
  | beginConnect => exact (a.sess.beginConnect_vstep (F := True) ha.1).1
  | encodeConnect c => exact (a.sess.encode_vstep (F := True) _ (EncOk_encodeConnect c) ha.1).1
  | _ => exact ⟨_, .refl _⟩

theorem run_view {P : QV → Prop} (hpost : ∀ n op, A (.post n op))
    (hP : ∀ δ a b, QStep (fun bs _ => K bs) δ a b → P a → P b) (ds : List Directive) (hds : ∀ d ∈ ds, DirGood A d)
    (cfg : Cfg) (h0 : P ⟨[], [], []⟩) :
    P (qv (ds.foldl World.execDirective { sess := Session.new cfg }).sess.data.outbound) := by
  have st := run_steps hpost ds (w0 := { sess := Session.new cfg }) hds (fun _ h => by cases h) (.refl _)
  exact (st.inv (I := fun w : World => (w.sess.data.outbound.ArenaInv ∧ w.sess.data.outbound.SerInv) ∧ P (qv w.sess.data.outbound))
    (fun _ _ st h => ⟨closed_arena.dstep st h.1, (st.qsteps hsub hunsub hpub h.1).elim fun _ c => c.inv hP h.2⟩)
    ⟨arena_init cfg, h0⟩).2

end

/-! Every packet kept in the transmit arena is one complete, framed MQTT packet (header byte, canonical
remaining length, exactly that many bytes): the predicate is kept by every session primitive (`closed_FramedP`). -/

def Outbound.FramedInv (o : Outbound) : Prop := ∀ bs ∈ o.contents, Framed bs

theorem Framed_setDup (bs : Bytes) (h : Framed bs) : Framed (setDup bs) := by
  obtain ⟨hdr, body, rfl, hb⟩ := h
  exact ⟨dupByte hdr, body, rfl, hb⟩

theorem framedInv_iff (o : Outbound) : o.FramedInv ↔ (qv o).Kinds fun bs _ => Framed bs := by
  simp only [FramedInv, QV.Kinds, ← Quiesce.retView_bytes, List.forall_mem_map]; rfl

def FramedP (s : Session) : Prop :=
  (s.data.outbound.ArenaInv ∧ s.data.outbound.SerInv) ∧ s.data.outbound.FramedInv

/-- The encoders produce framed packets (`EncOk`), and the DUP bit is not part of the framing. -/
theorem closed_FramedP : Closed FramedP :=
  closed_arena.and_of fun _ _ p ha h => (framedInv_iff _).2 <|
    (p.vstep ha).1.elim fun _ c =>
      c.inv (fun _ _ _ st => st.kinds (fun _ _ hk => hk.1) fun bs _ => Framed_setDup bs) ((framedInv_iff _).1 h)

end Minimq
