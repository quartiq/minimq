import Minimq.Proofs.Lift
import Minimq.Proofs.ArenaClosed
import Minimq.Proofs.Release
/-
Acknowledgement exchanges (`Theorems/C02`, `C03`, `C04`, `C18`). Two levels: the equations of `handlePacket`
(`Proofs/Primitives.lean`), one per packet kind, which say exactly what an inbound packet does, and their projection `HandleFrame` onto
the three queues, the inbound QoS 2 identifiers and the generation (`handlePacket_frame`); and the steps of a
whole execution (`SessStep`, `Reach`, `run_reach`), each of which is quiet, handles a packet, or is the CONNACK
of a fresh session (`SessStep.classify`). What removes a retained packet, a release entry, an inbound
identifier or the pending status of a handle is read off these two.
-/
namespace Minimq
open Gen Outbound

/-- Which retained packet an inbound packet acknowledges: identifier and kind. -/
def Recv.ackOf : Recv → Option (Nat × AckKind)
  | .subAck id _ _ => some (id, .subAck)
  | .unsubAck id _ _ => some (id, .unsubAck)
  | .pubAck id _ => some (id, .pubAck)
  | .pubRec id _ => some (id, .pubRec)
  | _ => none

theorem acked_withRelease (d : SessionData) (id : Nat) (k : AckKind) (ps : Nat) :
    ((d.acked id k).withRelease id ps).outbound.release = d.outbound.release ++
      [{ id := id, rc := RC_Success, state := .write 0, rser := d.outbound.nextRser, pser := ps }] ∧
    ((d.acked id k).withRelease id ps).outbound.nextRser = d.outbound.nextRser + 1 := by
  simp only [SessionData.withRelease, SessionData.acked, (ackPacket_frame d.outbound id k).2.1, ackPacket_nextRser, and_self]

def SessionData.pubrecCreates (d : SessionData) (r : Runtime) (id : Nat) (rs : ReasonIn) : Bool :=
  d.awaits id .pubRec && reasonSuccess rs.rc && !r.packetTooLarge 5 && decide (d.outbound.release.length < MAX_PENDING_RELEASE)

theorem handlePacket_pubRec_fst (d : SessionData) (r : Runtime) (id : Nat) (rs : ReasonIn) :
    (handlePacket d r (.pubRec id rs)).1 =
      if d.pubrecCreates r id rs then (d.acked id .pubRec).withRelease id (d.outbound.ackedSer id .pubRec)
      else if d.awaits id .pubRec then d.acked id .pubRec else d := by
  rw [handlePacket_pubRec]
  unfold SessionData.pubrecCreates
  cases d.awaits id .pubRec
  · simp only [Bool.false_and, Bool.false_eq_true, if_false]
    split <;> rfl
  · cases reasonSuccess rs.rc
    · rfl
    · cases r.packetTooLarge 5
      · by_cases h : d.outbound.release.length < MAX_PENDING_RELEASE
        · simp only [h, if_true, decide_true]; rfl
        · simp only [h, if_false, decide_false]; rfl
      · rfl

/-- **An acknowledgement of one of the client's own requests, whatever its kind** (`p.ackOf = some (id, k)`: SUBACK,
UNSUBACK, PUBACK, PUBREC). If no retained packet awaits it, neither the session data nor the runtime changes.
If one does, `ack_packet` removes it and nothing else happens to the session data — unless `p` is the PUBREC that
goes on to queue its PUBREL (`pubrecCreates`; `handlePacket_pubRec_fst` is that case). -/
theorem handlePacket_ack (d : SessionData) (r : Runtime) {p : Recv} {id : Nat} {k : AckKind} (hp : p.ackOf = some (id, k)) :
    (d.awaits id k = false → (handlePacket d r p).1 = d ∧ (handlePacket d r p).2.1 = r) ∧
    (d.awaits id k = true → (∀ rs, p = .pubRec id rs → d.pubrecCreates r id rs = false) →
      (handlePacket d r p).1 = d.acked id k) := by
  cases p with
  | subAck => cases hp; rw [handlePacket_subAck]; exact ⟨fun h => by simp [h], fun h _ => by simp [h]⟩
  | unsubAck => cases hp; rw [handlePacket_unsubAck]; exact ⟨fun h => by simp [h], fun h _ => by simp [h]⟩
  | pubAck => cases hp; rw [handlePacket_pubAck]; exact ⟨fun h => by simp [h], fun h _ => by simp [h]⟩
  | pubRec i rs =>
    cases hp
    refine ⟨fun h => ?_, fun h hc => by rw [handlePacket_pubRec_fst, hc rs rfl, h]; rfl⟩
    rw [handlePacket_pubRec]
    simp only [h, Bool.false_eq_true, if_false]
    split <;> exact ⟨rfl, rfl⟩
  | _ => cases hp

/-- The acknowledgement owed for an inbound packet, given the inbound QoS 2 identifiers currently held:
PUBACK for a QoS 1 PUBLISH (reason "identifier in use" if a QoS 2 exchange holds the identifier), PUBREC
for a QoS 2 PUBLISH (reason "receive maximum exceeded" if the identifier is new and the list is full),
PUBCOMP for a PUBREL (reason "identifier not found" if the identifier is not held). Nothing for QoS 0,
for a missing or zero identifier (protocol error), and for every other packet. -/
def ackOwed (ids : List Nat) : Recv → Option ControlAction
  | .publish _ (some id) _ _ _ qos _ =>
    if id = 0 ∨ qos = 0 then none
    else if qos = 1 then some { typ := MT_PubAck, id := id, rc := qos1Rc ids id }
    else some { typ := MT_PubRec, id := id, rc := (qos2Ids ids id).2 }
  | .pubRel id _ =>
    if id = 0 then none
    else some { typ := MT_PubComp, id := id, rc := if ids.contains id then RC_Success else RC_PacketIdNotFound }
  | _ => none

/-- What handling `p` appends to the control queue (5: the length of every acknowledgement, `checkSize_five`). -/
def ackRecorded (d : SessionData) (r : Runtime) (p : Recv) : List ControlAction :=
  match ackOwed d.pendingServerIds p with
  | none => []
  | some a => if r.packetTooLarge 5 = false ∧ d.outbound.control.length < MAX_PENDING_CONTROL then [a] else []

/-- The inbound QoS 2 identifiers after an inbound packet: changed only by a QoS 2 PUBLISH whose PUBREC is
queued (identifier recorded) and by a PUBREL (identifier removed). -/
def Recv.idsAfter (d : SessionData) (r : Runtime) (p : Recv) : List Nat :=
  match p with
  | .publish _ (some id) _ _ _ qos _ =>
    if qos = 0 ∨ qos = 1 ∨ id = 0 then d.pendingServerIds
    else if r.packetTooLarge 5 = false ∧ d.outbound.control.length < MAX_PENDING_CONTROL then
      (qos2Ids d.pendingServerIds id).1
    else d.pendingServerIds
  | .pubRel id _ =>
    if id ≠ 0 ∧ d.pendingServerIds.contains id then handlePacket.swapRemove d.pendingServerIds id
    else d.pendingServerIds
  | _ => d.pendingServerIds

theorem ackOutcome2_fst (d : SessionData) (r : Runtime) (a : ControlAction) (dl : Bool) (ids : List Nat) :
    (ackOutcome2 d r a dl ids).1 =
      { d with
        outbound := { d.outbound with control := d.outbound.control ++
          (if r.packetTooLarge 5 = false ∧ d.outbound.control.length < MAX_PENDING_CONTROL then [a] else []).map (⟨·, .write 0⟩) },
        pendingServerIds :=
          if r.packetTooLarge 5 = false ∧ d.outbound.control.length < MAX_PENDING_CONTROL then ids else d.pendingServerIds } ∧
    ∀ rc, (ackOutcome2 d r a dl ids).2.2 ≠ .error (.peerRejected rc) := by
  unfold ackOutcome2
  cases h1 : r.packetTooLarge 5
  · by_cases h2 : d.outbound.control.length < MAX_PENDING_CONTROL
    · simp only [h2, and_self, if_true, Bool.false_eq_true, if_false]; exact ⟨rfl, nofun⟩
    · simp only [h2, and_false, if_false, Bool.false_eq_true, List.map_nil, List.append_nil]; exact ⟨trivial, nofun⟩
  · simp only [Bool.true_eq_false, false_and, if_false, if_true, List.map_nil, List.append_nil]; exact ⟨trivial, nofun⟩

theorem ackOutcome_fst (d : SessionData) (r : Runtime) (a : ControlAction) (dl : Bool) :
    (ackOutcome d r a dl).1 =
      { d with outbound := { d.outbound with control := d.outbound.control ++
          (if r.packetTooLarge 5 = false ∧ d.outbound.control.length < MAX_PENDING_CONTROL then [a] else []).map (⟨·, .write 0⟩) } } ∧
    ∀ rc, (ackOutcome d r a dl).2.2 ≠ .error (.peerRejected rc) := by
  obtain ⟨h, hr⟩ := ackOutcome2_fst d r a dl d.pendingServerIds
  exact ⟨h.trans (by rw [ite_self]), hr⟩

/-- `h` and `hc` leave PUBLISH, PUBREL, CONNACK, PINGRESP and DISCONNECT. -/
theorem handlePacket_inbound (d : SessionData) (r : Runtime) (p : Recv) (h : p.ackOf = none)
    (hc : ∀ id rs, p ≠ .pubComp id rs) :
    (handlePacket d r p).1 =
      { d with outbound := { d.outbound with control := d.outbound.control ++ (ackRecorded d r p).map (⟨·, .write 0⟩) },
               pendingServerIds := p.idsAfter d r } ∧
    ∀ rc, (handlePacket d r p).2.2 ≠ .error (.peerRejected rc) := by
  -- a packet for which nothing is owed and which leaves the session data alone
  have same : ackOwed d.pendingServerIds p = none → p.idsAfter d r = d.pendingServerIds → (handlePacket d r p).1 = d →
      (handlePacket d r p).1 = { d with
        outbound := { d.outbound with control := d.outbound.control ++ (ackRecorded d r p).map (⟨·, .write 0⟩) },
        pendingServerIds := p.idsAfter d r } := fun h1 h2 h3 => by
    rw [h3, ackRecorded, h1, h2, List.map_nil, List.append_nil]
  cases p with
  | connAck | pingResp | disconnect => exact ⟨same rfl rfl rfl, nofun⟩
  | subAck | unsubAck | pubAck | pubRec => cases h
  | pubComp id rs => exact absurd rfl (hc id rs)
  | pubRel id rs =>
    by_cases hid : id = 0
    · subst hid; exact ⟨same rfl rfl rfl, nofun⟩
    · rw [handlePacket_pubRel d r id rs hid]
      simp only [ackRecorded, ackOwed, Recv.idsAfter, hid, if_false, ne_eq, not_false_eq_true, true_and]
      by_cases hcn : d.pendingServerIds.contains id = true
      · simp only [hcn, if_true]
        exact ackOutcome_fst _ r _ false
      · simp only [hcn, Bool.false_eq_true, if_false]
        exact ackOutcome_fst _ r _ false
  | publish topic id props payload retain qos dup =>
    by_cases hq0 : qos = 0
    · subst hq0; cases id <;> exact ⟨same (by simp [ackOwed]) (by simp [Recv.idsAfter]) rfl, nofun⟩
    · have noid := handlePacket_publish_noid d r topic props payload retain dup qos hq0
      cases id with
      | none => exact ⟨same rfl rfl (by rw [noid.1]), by rw [noid.1]; nofun⟩
      | some id =>
        by_cases hid : id = 0
        · subst hid
          exact ⟨same (by simp [ackOwed]) (by simp [Recv.idsAfter]) (by rw [noid.2]), by rw [noid.2]; nofun⟩
        · simp only [ackRecorded, ackOwed, Recv.idsAfter, hid, hq0, or_self, false_or, if_false]
          by_cases hq1 : qos = 1
          · subst hq1
            rw [handlePacket_publish1 d r topic id props payload retain dup hid]
            simp only [true_or, if_true]
            exact ackOutcome_fst _ r _ true
          · rw [handlePacket_publish2 d r topic id props payload retain dup qos hid hq0 hq1]
            simp only [hq1, if_false, false_or]
            exact ackOutcome2_fst _ r _ _ _

/-- What an inbound packet `p` does to the queues, the ghost counter, the inbound identifiers and the
generation: `d'` is the session data after it. -/
structure HandleFrame (d : SessionData) (r : Runtime) (p : Recv) (d' : SessionData) : Prop where
  generation : d'.generation = d.generation
  nextSer : d'.outbound.nextSer = d.outbound.nextSer
  /-- A SUBACK, UNSUBACK, PUBACK or PUBREC removes the first retained entry with its identifier whose first
  byte is of the acknowledged kind (none if there is no such entry); all other entries keep serial, identifier,
  length, send state and order. -/
  keys : d'.outbound.keys =
    match p.ackOf with
    | none => d.outbound.keys
    | some (id, k) => (removeFirst (ackPred d.outbound id k) d.outbound.retained).map RetainedPacket.key
  /-- One entry is appended by a successful PUBREC that found its PUBLISH, one removed by a PUBCOMP. -/
  release : d'.outbound.release =
    match (generalizing := false) p with
    | .pubRec id rs =>
      if d.pubrecCreates r id rs
      then d.outbound.release ++ [{ id := id, rc := RC_Success, state := .write 0, rser := d.outbound.nextRser,
                                    pser := d.outbound.ackedSer id .pubRec }] else d.outbound.release
    | .pubComp id _ => removeFirst (fun e => e.id == id) d.outbound.release
    | _ => d.outbound.release
  nextRser : d'.outbound.nextRser =
    match (generalizing := false) p with
    | .pubRec id rs => if d.pubrecCreates r id rs then d.outbound.nextRser + 1 else d.outbound.nextRser
    | _ => d.outbound.nextRser
  ids : d'.pendingServerIds = p.idsAfter d r
  /-- The acknowledgement owed for an inbound PUBLISH or PUBREL is appended, if it can be. -/
  control : d'.outbound.control = d.outbound.control ++ (ackRecorded d r p).map (⟨·, .write 0⟩)

theorem handlePacket_frame (d : SessionData) (r : Runtime) (p : Recv) : HandleFrame d r p (handlePacket d r p).1 := by
  -- after `ack_packet`, or with no packet waiting for this acknowledgement
  have ack : ∀ id k, let d' := if d.awaits id k then d.acked id k else d
      d'.generation = d.generation ∧ d'.outbound.nextSer = d.outbound.nextSer ∧
      d'.outbound.keys = (removeFirst (ackPred d.outbound id k) d.outbound.retained).map RetainedPacket.key ∧
      d'.outbound.release = d.outbound.release ∧ d'.outbound.nextRser = d.outbound.nextRser ∧
      d'.pendingServerIds = d.pendingServerIds ∧ d'.outbound.control = d.outbound.control ++ [] := by
    intro id k
    obtain ⟨f1, f2, f3, f6⟩ := ackPacket_frame d.outbound id k
    rw [List.append_nil]
    cases h : d.awaits id k
    · exact ⟨rfl, rfl, by rw [removeFirst_none h]; rfl, rfl, rfl, rfl, rfl⟩
    · exact ⟨rfl, f6, f1, f2, ackPacket_nextRser _ _ _, rfl, f3⟩
  by_cases hin : p.ackOf = none ∧ ∀ id rs, p ≠ .pubComp id rs
  · have h := (handlePacket_inbound d r p hin.1 hin.2).1
    refine ⟨by rw [h], by rw [h], by rw [h, hin.1]; rfl, ?_, ?_, by rw [h], by rw [h]⟩
    · split
      · cases hin.1
      · exact absurd rfl (hin.2 _ _)
      · rw [h]
    · split
      · cases hin.1
      · rw [h]
  cases p with
  | subAck id | unsubAck id | pubAck id =>
    simp only [handlePacket_subAck, handlePacket_unsubAck, handlePacket_pubAck, apply_ite Prod.fst]
    obtain ⟨a1, a2, a3, a4, a5, a6, a7⟩ := ack id _
    exact ⟨a1, a2, a3, a4, a5, a6, a7⟩
  | pubRec id rs =>
    rw [handlePacket_pubRec_fst]
    cases hc : d.pubrecCreates r id rs
    · obtain ⟨a1, a2, a3, a4, a5, a6, a7⟩ := ack id .pubRec
      exact ⟨a1, a2, a3, by dsimp only; rw [hc]; exact a4, by dsimp only; rw [hc]; exact a5, a6, a7⟩
    · obtain ⟨f1, _, f3, f6⟩ := ackPacket_frame d.outbound id .pubRec
      obtain ⟨g1, g2⟩ := acked_withRelease d id .pubRec (d.outbound.ackedSer id .pubRec)
      exact ⟨rfl, f6, f1, by dsimp only; rw [hc, if_pos rfl]; exact g1, by dsimp only; rw [hc, if_pos rfl]; exact g2, rfl,
        f3.trans (List.append_nil _).symm⟩
  | pubComp id rs =>
    rw [handlePacket_pubComp]
    cases h : d.outbound.hasPendingRelease id
    · exact ⟨rfl, rfl, rfl, (removeFirst_none h).symm, rfl, rfl, (List.append_nil _).symm⟩
    · exact ⟨rfl, rfl, rfl, rfl, rfl, rfl, (List.append_nil _).symm⟩
  | _ => exact absurd ⟨rfl, fun _ _ h => nomatch h⟩ hin

/-- One application of a session primitive, in exactly the forms in which the operations apply them
(one constructor per field of `Closed`; `encode` covers `encodeConnect` and `encodeScratch`). -/
inductive SessStep : Session → Session → Prop
  | queuePing (s : Session) (now : Nat) (s' : Session) : s.queuePing now = .ok s' → SessStep s s'
  | completeFlush (s : Session) (pkt : Flushed) (now : Nat) : SessStep s (s.completeFlush pkt now)
  | setWritten (s : Session) (pkt : Flushed) (a c : Nat) : SessStep s (s.setWritten pkt a c)
  | takePkt (s : Session) : SessStep s s.takePkt.1
  | handle (s : Session) (p : Recv) : SessStep s (s.handle p).1
  | handleDisconnect (s : Session) : SessStep s s.handleDisconnect
  | activate (s : Session) (sp : Bool) (block : Bytes) (now : Nat) : SessStep s (s.activate sp block now).1
  | alloc (s : Session) : SessStep s s.alloc.1
  | encode {ε : Type} (s : Session) (enc : Nat → (Nat → Nat → Bytes) → Except ε (Nat × Bytes)) :
      EncOk enc → SessStep s (s.encode enc).1
  | encodeAfterAlloc {ε : Type} (s : Session) (enc : Nat → (Nat → Nat → Bytes) → Except ε (Nat × Bytes)) :
      EncOk enc → SessStep s (s.alloc.1.encode enc).1
  | enqueue {ε : Type} (s : Session) (enc : Nat → (Nat → Nat → Bytes) → Except ε (Nat × Bytes))
      (off len : Nat) (isPub : Bool) (s3 : Session) (typ : Nat) : EncOk enc → EncTyp enc typ →
      (isPub = true ↔ typ = MT_Publish) → (isPub = true → s.rt.sendQuota ≠ 0) →
      (s.alloc.1.encode enc).2 = .ok (off, len) →
      (s.alloc.1.encode enc).1.retain s.alloc.2 off len isPub = some s3 → SessStep s s3
  | clearPing (s : Session) : SessStep s s.clearPing
  | noteActivity (s : Session) (now : Nat) : SessStep s (s.noteActivity now)
  | window (s s' : Session) (n : Nat) : s.window = some (s', n) → SessStep s s'
  | commit (s : Session) (bytes : Bytes) : SessStep s (s.commit bytes)
  | beginConnect (s : Session) : SessStep s s.beginConnect
  | setPid (s : Session) (n : Nat) : 1 ≤ n → n ≤ 65535 → SessStep s (s.setPid n)

theorem Prim.step {s s' : Session} (h : Prim s s') : SessStep s s' := by
  cases h with
  | queuePing _ now _ hq => exact .queuePing _ now _ hq
  | completeFlush _ pkt now => exact .completeFlush _ pkt now
  | setWritten _ pkt a c => exact .setWritten _ pkt a c
  | takePkt => exact .takePkt _
  | handle _ p => exact .handle _ p
  | handleDisconnect => exact .handleDisconnect _
  | activate _ sp block now => exact .activate _ sp block now
  | alloc => exact .alloc _
  | encodeConnect _ c => exact .encode _ _ (EncOk_encodeConnect c)
  | encodeAfterAlloc _ enc he => exact .encodeAfterAlloc _ enc he
  | encodeScratch _ enc he => exact .encode _ enc he
  | enqueue _ enc off len isPub _ typ he ht hp hq hres hr => exact .enqueue _ enc off len isPub _ typ he ht hp hq hres hr
  | clearPing => exact .clearPing _
  | noteActivity _ now => exact .noteActivity _ now
  | window _ _ n hw => exact .window _ _ n hw
  | commit _ bytes => exact .commit _ bytes
  | beginConnect => exact .beginConnect _
  | setPid _ n h1 h2 => exact .setPid _ n h1 h2

theorem SessStep.prim {s s' : Session} (st : SessStep s s') : Prim s s' := by
  cases st with
  | queuePing _ now _ hq => exact .queuePing _ now _ hq
  | completeFlush _ pkt now => exact .completeFlush _ pkt now
  | setWritten _ pkt a c => exact .setWritten _ pkt a c
  | takePkt => exact .takePkt _
  | handle _ p => exact .handle _ p
  | handleDisconnect => exact .handleDisconnect _
  | activate _ sp block now => exact .activate _ sp block now
  | alloc => exact .alloc _
  | encode _ enc he => exact .encodeScratch _ enc he
  | encodeAfterAlloc _ enc he => exact .encodeAfterAlloc _ enc he
  | enqueue _ enc off len isPub _ typ he ht hp hq hres hr => exact .enqueue _ enc off len isPub _ typ he ht hp hq hres hr
  | clearPing => exact .clearPing _
  | noteActivity _ now => exact .noteActivity _ now
  | window _ _ n hw => exact .window _ _ n hw
  | commit _ bytes => exact .commit _ bytes
  | beginConnect => exact .beginConnect _
  | setPid _ n h1 h2 => exact .setPid _ n h1 h2

theorem Closed.step {P : Session → Prop} (hc : Closed P) {s s' : Session} (st : SessStep s s') : P s → P s' :=
  hc.prim st.prim

theorem Closed.of_step {P : Session → Prop} (h : ∀ s s', SessStep s s' → P s → P s') : Closed P :=
  (closed_iff_prim P).2 fun _ _ p => h _ _ p.step

/-- `b` is reached from `a` by primitive steps, and `I` holds after each of them. -/
inductive Reach (I : Session → Prop) : Session → Session → Prop
  | refl (s : Session) : Reach I s s
  | tail {a b c : Session} : Reach I a b → SessStep b c → I c → Reach I a c

theorem Reach.trans {I : Session → Prop} {a b c : Session} (h1 : Reach I a b) (h2 : Reach I b c) : Reach I a c := by
  induction h2 with
  | refl => exact h1
  | tail _ st hi ih => exact ih.tail st hi

theorem Reach.mono {I J : Session → Prop} (hIJ : ∀ s, I s → J s) {a b : Session} (h : Reach I a b) : Reach J a b := by
  induction h with
  | refl => exact Reach.refl _
  | tail _ st hi ih => exact ih.tail st (hIJ _ hi)

theorem Reach.inv {I : Session → Prop} {a b : Session} (h : Reach I a b) (ha : I a) : I b := by
  cases h with
  | refl => exact ha
  | tail _ _ hi => exact hi

theorem Reach.passed_tail {I : Session → Prop} {X : Session → Session → Prop} {s0 s s' : Session}
    (h : ∃ a b, Reach I s0 a ∧ SessStep a b ∧ Reach I b s ∧ X a b) (st : SessStep s s') (hi : I s') :
    ∃ a b, Reach I s0 a ∧ SessStep a b ∧ Reach I b s' ∧ X a b :=
  let ⟨a, b, r1, sab, r2, hx⟩ := h
  ⟨a, b, r1, sab, r2.tail st hi, hx⟩

/-- Along a chain, a predicate that holds at the start and not at the end fails first at one step `a → b`; `step`
says what is known of a step at which it fails. -/
theorem Reach.first_change {I : Session → Prop} {P : Session → Prop} {X : Session → Session → Prop} {s0 s : Session}
    (h : Reach I s0 s) (h0 : P s0) (h1 : ¬ P s) (step : ∀ {a b}, SessStep a b → P a → ¬ P b → X a b) :
    ∃ a b, Reach I s0 a ∧ SessStep a b ∧ Reach I b s ∧ P a ∧ X a b := by
  induction h with
  | refl => exact absurd h0 h1
  | @tail b c hr st hi ih =>
    by_cases hb : P b
    · exact ⟨b, c, hr, st, Reach.refl _, hb, step st hb h1⟩
    · exact Reach.passed_tail (ih hb) st hi

/-- **Every execution is a chain of primitive steps**, and a closed predicate that holds at the start holds
after each of them. -/
theorem run_reach {I : Session → Prop} (hI : Closed I) (ds : List Directive) (w : World) (h : I w.sess) :
    Reach I w.sess (ds.foldl World.execDirective w).sess :=
  -- being reachable through states satisfying `I` is itself a closed predicate
  (run_inv (P := fun s => I s ∧ Reach I w.sess s)
    (Closed.of_step fun _ _ st ⟨hi, hr⟩ => ⟨hI.step st hi, hr.tail st (hI.step st hi)⟩) ds w ⟨h, Reach.refl _⟩).2

/-- Serial, identifier and length of every retained packet, oldest first. -/
def Outbound.tags (o : Outbound) : List (Nat × Nat × Nat) := o.retained.map fun e => (e.ser, e.id, e.len)

/-- Identifier and reason code of every release entry (PUBREL owed to the broker), oldest first. -/
def Outbound.relKeys (o : Outbound) : List (Nat × Nat) := o.release.map fun e => (e.id, e.rc)

theorem tags_eq_keys (o : Outbound) : o.tags = o.keys.map (fun k => (k.1, k.2.1, k.2.2.1)) := by
  simp [Outbound.tags, Outbound.keys, RetainedPacket.key, Function.comp_def]

theorem sers_eq_tags (o : Outbound) : o.sers = o.tags.map (·.1) := by
  simp [Outbound.sers, Outbound.tags, Function.comp_def]

/-- The outbound state changed "quietly": same release entries in the same order, same retained
packets in the same order except possibly one new packet at the end (with the next serial). Send
states, offsets, buffer and control queue may differ. -/
structure QuietO (o o' : Outbound) : Prop where
  release : o'.relKeys = o.relKeys
  retained : (o'.tags = o.tags ∧ o'.nextSer = o.nextSer) ∨
    ∃ id len, o'.tags = o.tags ++ [(o.nextSer, id, len)] ∧ o'.nextSer = o.nextSer + 1

theorem QuietO.same {o o' : Outbound} (h1 : o'.relKeys = o.relKeys) (h2 : o'.tags = o.tags) (h3 : o'.nextSer = o.nextSer) :
    QuietO o o' := ⟨h1, Or.inl ⟨h2, h3⟩⟩

theorem QuietO.refl (o : Outbound) : QuietO o o := QuietO.same rfl rfl rfl

theorem QuietO.armReplay (o : Outbound) : QuietO o o.armReplay := by
  obtain ⟨h1, h2, _, h4, _⟩ := armReplay_queues o
  exact QuietO.same (by simp [Outbound.relKeys, h2, Function.comp_def]) (by simp [Outbound.tags, h1, Function.comp_def]) h4

theorem QuietO.encodeAt {ε : Type} (o : Outbound) (enc : Nat → (Nat → Nat → Bytes) → Except ε (Nat × Bytes)) :
    QuietO o (o.encodeAt enc).1 := by
  obtain ⟨h1, h2, _, h4⟩ := encodeAt_frame o enc
  exact QuietO.same (by simp [Outbound.relKeys, h2]) (by rw [tags_eq_keys, h1, ← tags_eq_keys]) h4

theorem QuietO.control (o : Outbound) (c : List PendingControl) : QuietO o { o with control := c } :=
  QuietO.same rfl rfl rfl

theorem QuietO.trans_same {a b c : Outbound} (h1 : b.relKeys = a.relKeys ∧ b.tags = a.tags ∧ b.nextSer = a.nextSer)
    (h2 : QuietO b c) : QuietO a c := by
  obtain ⟨r, t, n⟩ := h1
  refine ⟨by rw [h2.release, r], ?_⟩
  rcases h2.retained with ⟨h, hn⟩ | ⟨id, len, h, hn⟩
  · exact Or.inl ⟨by rw [h, t], by rw [hn, n]⟩
  · exact Or.inr ⟨id, len, by rw [h, t, n], by rw [hn, n]⟩

theorem QuietO.retainPacket {o o' : Outbound} {id off len : Nat} (h : o.retainPacket id off len = some o') :
    QuietO o o' := by
  obtain ⟨_, rfl⟩ := retainPacket_some h
  exact ⟨rfl, Or.inr ⟨id, len, by simp [Outbound.tags], rfl⟩⟩

structure Quiet (d d' : SessionData) : Prop where
  generation : d'.generation = d.generation
  pending : d'.pendingServerIds = d.pendingServerIds
  out : QuietO d.outbound d'.outbound

theorem Quiet.nextPacketId (d : SessionData) : Quiet d d.nextPacketId.1 := by
  obtain ⟨pid, h⟩ := nextPacketId_fst d
  rw [h]; exact ⟨rfl, rfl, QuietO.refl _⟩

theorem Quiet.trans_eq {a b c : SessionData} (h1 : Quiet a b) (h2 : Quiet b c)
    (hb : b.outbound.relKeys = a.outbound.relKeys ∧ b.outbound.tags = a.outbound.tags ∧ b.outbound.nextSer = a.outbound.nextSer) :
    Quiet a c :=
  ⟨by rw [h2.generation, h1.generation], by rw [h2.pending, h1.pending], QuietO.trans_same hb h2.out⟩

theorem SessStep.outChange {s s' : Session} (st : SessStep s s') :
    (s'.data.generation = s.data.generation ∧ s'.data.pendingServerIds = s.data.pendingServerIds ∧
      OutChange s.data.outbound s'.data.outbound) ∨
    (∃ p, s' = (s.handle p).1) ∨ (∃ block now, s' = (s.activate false block now).1) := by
  rcases st.prim.shape with h | ⟨sp, block, now, rfl⟩ | ⟨_, _, _, _, _, _, _, hc, rfl⟩
  · exact .inr (.inl h)
  · cases sp
    · exact .inr (.inr ⟨block, now, rfl⟩)
    · -- the CONNACK of a resumed session: nothing (accepted), or `handle_disconnect` (rejected)
      rcases s.activate_cases true block now with e | e <;> rw [e]
      · exact .inl ⟨rfl, rfl, .refl _⟩
      · exact .inl ⟨rfl, rfl, .rearm _⟩
  · exact .inl ⟨rfl, rfl, hc⟩

theorem StatesOnly.quietO {o o' : Outbound} (h : StatesOnly o o') : QuietO o o' := by
  have h1 := congrArg (List.map fun t => (t.2.2.1, t.2.2.2)) h.relTags
  have h2 := congrArg (List.map fun t => (t.1, t.2.1, t.2.2.2)) h.retained
  rw [List.map_map, List.map_map] at h1 h2
  exact .same h1 h2 h.nextSer

theorem OutChange.quiet {o o' : Outbound} (h : OutChange o o') : QuietO o o' := by
  cases h with
  | refl => exact .refl _
  | setWritten _ pkt a c => exact (Outbound.setWritten_states _ pkt a c).quietO
  | completeFlush _ pkt => exact (Outbound.completeFlush_states _ pkt).quietO
  | queueControl hq => obtain ⟨_, rfl⟩ := queueControl_some hq; exact .control _ _
  | rearm o =>
    obtain ⟨h1, h2⟩ := QuietO.armReplay o.dropPingreq
    exact ⟨h1, h2⟩
  | encodeAt => exact .encodeAt _ _
  | retain _ _ enc _ _ _ _ _ ho =>
    obtain ⟨e1, e2, _, e4⟩ := encodeAt_frame o enc
    exact QuietO.trans_same ⟨by simp [Outbound.relKeys, e2], by rw [tags_eq_keys, e1, ← tags_eq_keys], e4⟩
      (QuietO.retainPacket ho)

/-- **Classification of the primitive steps**: every step is quiet, or handles an inbound packet, or is
the CONNACK of a fresh broker session. -/
theorem SessStep.classify {s s' : Session} (st : SessStep s s') :
    Quiet s.data s'.data ∨ (∃ p, s' = (s.handle p).1) ∨ (∃ block now, s' = (s.activate false block now).1) :=
  st.outChange.imp_left fun ⟨h1, h2, h3⟩ => ⟨h1, h2, h3.quiet⟩

/-- Every retained serial of `a` is still retained in `b`, in the same order, and `b` has at most
grown at the end. -/
def NoLoss (a b : Outbound) : Prop := a.sers <+: b.sers

theorem NoLoss.refl (a : Outbound) : NoLoss a a := List.prefix_refl _
theorem NoLoss.trans {a b c : Outbound} (h1 : NoLoss a b) (h2 : NoLoss b c) : NoLoss a c := List.IsPrefix.trans h1 h2
theorem NoLoss.mem {a b : Outbound} (h : NoLoss a b) {ser : Nat} (hs : ser ∈ a.sers) : ser ∈ b.sers := h.subset hs

theorem QuietO.noLoss {o o' : Outbound} (h : QuietO o o') : NoLoss o o' := by
  unfold NoLoss
  rw [sers_eq_tags, sers_eq_tags]
  rcases h.retained with ⟨h, _⟩ | ⟨id, len, h, _⟩
  · rw [h]; exact List.prefix_refl _
  · rw [h, List.map_append]; exact List.prefix_append _ _

/-- The step from `s` to `s'` is the handling of the acknowledgement that the retained packet with
serial `ser` was waiting for — `e` is the first retained entry with the acknowledged identifier whose
first byte is of the acknowledged kind — or the CONNACK of a fresh broker session. -/
def Removal (s s' : Session) (ser : Nat) : Prop :=
  (∃ p id k l₁ e l₂, s' = (s.handle p).1 ∧ p.ackOf = some (id, k) ∧ s.data.outbound.retained = l₁ ++ e :: l₂ ∧
      (∀ x ∈ l₁, ackPred s.data.outbound id k x = false) ∧ e.ser = ser ∧ e.id = id ∧
      k.acknowledges (s.data.outbound.headerAt e.offset) = true ∧
      s'.data.outbound.keys = (l₁ ++ l₂).map RetainedPacket.key) ∨
  (∃ block now, s' = (s.activate false block now).1)

theorem NoLoss.of_keys {a b : Outbound} (h : b.keys = a.keys) : NoLoss a b := by
  unfold NoLoss
  rw [sers_eq_keys, sers_eq_keys, h]
  exact List.prefix_refl _

theorem SessStep.noLoss {s s' : Session} (st : SessStep s s') :
    NoLoss s.data.outbound s'.data.outbound ∨
    (∃ p id k, s' = (s.handle p).1 ∧ p.ackOf = some (id, k) ∧ s.data.awaits id k = true) ∨
    (∃ block now, s' = (s.activate false block now).1) := by
  rcases st.classify with hq | ⟨p, rfl⟩ | ⟨block, now, rfl⟩
  · exact Or.inl hq.out.noLoss
  · have hk : (s.handle p).1.data.outbound.keys = _ := (handlePacket_frame s.data s.rt p).keys
    cases hp : p.ackOf with
    | none => rw [hp] at hk; exact .inl (.of_keys hk)
    | some ik =>
      obtain ⟨id, k⟩ := ik
      cases ha : s.data.awaits id k with
      | true => exact .inr (.inl ⟨p, id, k, rfl, hp, ha⟩)
      | false => rw [hp] at hk; exact .inl (.of_keys (hk.trans (by dsimp only; rw [removeFirst_none ha]; rfl)))
  · exact Or.inr (Or.inr ⟨block, now, rfl⟩)

theorem SessStep.loss {s s' : Session} (st : SessStep s s') {ser : Nat}
    (h1 : ser ∈ s.data.outbound.sers) (h2 : ser ∉ s'.data.outbound.sers) : Removal s s' ser := by
  rcases st.noLoss with hn | ⟨p, id, k, rfl, hp, ha⟩ | h
  · exact absurd (hn.mem h1) h2
  · obtain ⟨l₁, e, l₂, e1, e2, e3, e4⟩ := removeFirst_split ha
    have hk : (s.handle p).1.data.outbound.keys = _ := (handlePacket_frame s.data s.rt p).keys
    rw [hp] at hk
    simp only [e4] at hk
    simp only [ackPred, Bool.and_eq_true, beq_iff_eq] at e3
    refine .inl ⟨p, id, k, l₁, e, l₂, rfl, hp, e1, e2, ?_, e3.1, e3.2, hk⟩
    -- the serial that went is that of `e`: those of `l₁` and `l₂` are still there
    rw [sers_eq_keys, hk] at h2
    rw [Outbound.sers, e1] at h1
    simp only [List.map_append, List.map_cons, List.mem_append, List.mem_cons, List.map_map, not_or] at h1 h2
    rcases h1 with h | h | h
    · exact absurd h h2.1
    · exact h.symm
    · exact absurd h h2.2
  · exact .inr h

theorem SerInv.removed_gone {o : Outbound} (h : o.SerInv) {l₁ l₂ : List RetainedPacket} {e : RetainedPacket}
    (hl : o.retained = l₁ ++ e :: l₂) : e.ser ∉ (l₁ ++ l₂).map (·.ser) := by
  have hp := h.inc
  rw [hl] at hp
  simp only [List.map_append, List.map_cons, List.pairwise_append, List.pairwise_cons, List.mem_map, List.mem_cons] at hp
  obtain ⟨_, ⟨h2, _⟩, h3⟩ := hp
  simp only [List.map_append, List.mem_append, List.mem_map, not_or]
  constructor
  · rintro ⟨x, hx, hxe⟩
    have := h3 x.ser ⟨x, hx, rfl⟩ e.ser (Or.inl rfl)
    omega
  · rintro ⟨x, hx, hxe⟩
    have := h2 x.ser ⟨x, hx, rfl⟩
    omega

theorem Keeps_find {a c : Outbound} (h : Keeps a c) {e' : RetainedPacket} (he' : e' ∈ c.retained) (hlt : e'.ser < a.nextSer) :
    ∃ e ∈ a.retained, e.ser = e'.ser ∧ e.id = e'.id ∧
      unDup (slice a.buf e.offset e.len) = unDup (slice c.buf e'.offset e'.len) := by
  have hm : ((e'.ser, e'.id), unDup (slice c.buf e'.offset e'.len)) ∈ c.tagged.filter (fun t => decide (t.1.1 < a.nextSer)) := by
    rw [List.mem_filter]
    exact ⟨List.mem_map.mpr ⟨e', he', rfl⟩, by simpa using hlt⟩
  have := h.2.subset hm
  simp only [Outbound.tagged, List.mem_map, Prod.mk.injEq] at this
  obtain ⟨e, he, ⟨h1, h2⟩, h3⟩ := this
  exact ⟨e, he, h1, h2, h3⟩

theorem Keeps.gone_stays_gone {a b : Outbound} (h : Keeps a b) {ser : Nat} (hlt : ser < a.nextSer)
    (hg : ser ∉ a.sers) : ser ∉ b.sers := by
  intro hb
  obtain ⟨x, hx, rfl⟩ := List.mem_map.1 hb
  obtain ⟨e, he, hs, _⟩ := Keeps_find h hx hlt
  exact hg (List.mem_map.2 ⟨e, he, hs⟩)

theorem flushRelease_spec (o : Outbound) (id : Nat) (h : o.hasPendingRelease id = true) :
    ∃ l₁ e l₂, o.release = l₁ ++ e :: l₂ ∧ (∀ x ∈ l₁, x.id ≠ id) ∧ e.id = id ∧
      (o.flushRelease id).release = l₁ ++ { e with state := .sent } :: l₂ :=
  modifyFirst_split_key PendingRelease.id id _ h

theorem completeFlush_outbound (s : Session) (pkt : Flushed) (now : Nat) :
    (s.completeFlush pkt now).data.outbound =
      match pkt with
      | .control a => s.data.outbound.flushControl a
      | .release id => s.data.outbound.flushRelease id
      | .retained id => s.data.outbound.flushRetained id :=
  s.completeFlush_outbound pkt now

theorem hasRetained_eq_keys (o : Outbound) (id : Nat) : o.hasRetained id = o.keys.any (fun k => k.2.1 == id) := by
  simp [hasRetained, Outbound.keys, RetainedPacket.key, List.any_map, Function.comp_def]

theorem hasRetained_eq_tags (o : Outbound) (id : Nat) : o.hasRetained id = o.tags.any (fun k => k.2.1 == id) := by
  simp [hasRetained, Outbound.tags, List.any_map, Function.comp_def]

theorem hasPendingRelease_eq_relKeys (o : Outbound) (id : Nat) :
    o.hasPendingRelease id = o.relKeys.any (fun k => k.1 == id) := by
  simp [hasPendingRelease, Outbound.relKeys, List.any_map, Function.comp_def]

theorem awaits_hasRetained {d : SessionData} {id : Nat} {k : AckKind} (h : d.awaits id k = true) :
    d.outbound.hasRetained id = true := by
  simp only [SessionData.awaits, List.any_eq_true, ackPred, Bool.and_eq_true] at h
  obtain ⟨e, he, h1, _⟩ := h
  simp only [hasRetained, List.any_eq_true]
  exact ⟨e, he, h1⟩

theorem acked_free {d : SessionData} (h : d.IdInv) {id : Nat} {k : AckKind} (ha : d.awaits id k = true) :
    (d.acked id k).outbound.hasRetained id = false ∧ (d.acked id k).outbound.hasPendingRelease id = false ∧
    (d.acked id k).IdInv := by
  have hi := IdInv_ackPacket (o := d.outbound) (id := id) (k := k) h.out
  have hf : (d.outbound.ackPacket id k).2 = true := by rw [ackPacket_found_iff]; exact ha
  have := hi.2 hf
  rw [usedIds_mem] at this
  simp only [not_or, Bool.not_eq_true] at this
  exact ⟨this.1, this.2, ⟨hi.1, h.pid⟩⟩

theorem released_free {d : SessionData} (h : d.IdInv) {id : Nat} (ha : d.outbound.hasPendingRelease id = true) :
    d.outbound.hasRetained id = false ∧
    (removeFirst (fun (e : PendingRelease) => e.id == id) d.outbound.release).any (fun e => e.id == id) = false := by
  have hn := List.nodup_append.mp h.out.nodup
  obtain ⟨e, he, hid⟩ := List.any_eq_true.mp ha
  have hm : id ∈ d.outbound.release.map (·.id) := beq_iff_eq.mp hid ▸ List.mem_map_of_mem he
  refine ⟨?_, ?_⟩
  · simp only [hasRetained, List.any_eq_false, beq_iff_eq]
    exact fun x hx hxi => hn.2.2 _ (List.mem_map_of_mem hx) _ hm hxi
  · have := removeFirst_not_mem_of_nodup hn.2.1 (fun e he => beq_iff_eq.mp he) ha
    simp only [List.any_eq_false, beq_iff_eq]
    exact fun x hx hxi => this (List.mem_map.mpr ⟨x, hx, hxi⟩)

def SessionData.inFlight (d : SessionData) (op : Op) : Bool :=
  match op.kind with
  | .pub2 => d.outbound.hasRetained op.id || d.outbound.hasPendingRelease op.id
  | _ => d.outbound.hasRetained op.id

theorem status_eq (d : SessionData) (op : Op) :
    d.status op = if op.generation ≠ d.generation then .invalidated
      else if d.inFlight op then .pending else .complete := by
  unfold SessionData.status SessionData.inFlight
  rfl

theorem status_pending_iff (d : SessionData) (op : Op) :
    d.status op = .pending ↔ op.generation = d.generation ∧ d.inFlight op = true := by
  rw [status_eq]
  by_cases h1 : op.generation = d.generation <;> by_cases h2 : d.inFlight op = true <;> simp [h1, h2]

theorem QuietO.hasRetained_mono {o o' : Outbound} (h : QuietO o o') {id : Nat} (hr : o.hasRetained id = true) :
    o'.hasRetained id = true := by
  rw [hasRetained_eq_tags] at hr ⊢
  rcases h.retained with ⟨h, _⟩ | ⟨i, len, h, _⟩
  · rw [h]; exact hr
  · rw [h, List.any_append, hr]; rfl

theorem QuietO.hasPendingRelease_eq {o o' : Outbound} (h : QuietO o o') (id : Nat) :
    o'.hasPendingRelease id = o.hasPendingRelease id := by
  rw [hasPendingRelease_eq_relKeys, hasPendingRelease_eq_relKeys, h.release]

theorem status_pending_mono {d d' : SessionData} {op : Op} (hg : d'.generation = d.generation)
    (hret : d.outbound.hasRetained op.id = true → d'.outbound.hasRetained op.id = true)
    (hrel : d.outbound.hasPendingRelease op.id = true → d'.outbound.hasPendingRelease op.id = true)
    (hp : d.status op = .pending) : d'.status op = .pending := by
  rw [status_pending_iff] at hp ⊢
  refine ⟨hg ▸ hp.1, ?_⟩
  have h2 := hp.2
  unfold SessionData.inFlight at h2 ⊢
  cases hk : op.kind <;> simp only [hk, Bool.or_eq_true] at h2 ⊢
  · exact hret h2
  · exact h2.imp hret hrel
  · exact hret h2
  · exact hret h2
theorem Quiet.status_pending {d d' : SessionData} (h : Quiet d d') {op : Op} (hp : d.status op = .pending) :
    d'.status op = .pending :=
  status_pending_mono h.generation h.out.hasRetained_mono (fun hr => by rw [h.out.hasPendingRelease_eq]; exact hr) hp

theorem handlePacket_hasRetained (d : SessionData) (r : Runtime) (p : Recv) (id : Nat)
    (h : d.outbound.hasRetained id = true) (hno : ∀ k, p.ackOf ≠ some (id, k)) :
    (handlePacket d r p).1.outbound.hasRetained id = true := by
  rw [hasRetained_eq_keys, (handlePacket_frame d r p).keys]
  cases hpa : p.ackOf with
  | none => rw [← hasRetained_eq_keys]; exact h
  | some ik =>
    simp only [List.any_map]
    refine any_removeFirst h fun x hx => ?_
    have hne : ik.1 ≠ id := fun he => hno ik.2 (by rw [hpa, ← he])
    replace hx : x.id = id := beq_iff_eq.mp hx
    simp only [ackPred, hx, Bool.and_eq_false_imp, beq_iff_eq]
    exact fun he => absurd he.symm hne

theorem handlePacket_hasPendingRelease (d : SessionData) (r : Runtime) (p : Recv) (id : Nat)
    (h : d.outbound.hasPendingRelease id = true) (hnc : ∀ rs, p ≠ .pubComp id rs) :
    (handlePacket d r p).1.outbound.hasPendingRelease id = true := by
  unfold hasPendingRelease at h ⊢
  rw [(handlePacket_frame d r p).release]
  split
  · split
    · rw [List.any_append, h]; rfl
    · exact h
  · rename_i i rs
    refine any_removeFirst h fun x hx => ?_
    replace hx : x.id = id := beq_iff_eq.mp hx
    simp only [hx, beq_eq_false_iff_ne]
    exact fun he => hnc rs (by rw [he])
  · exact h

theorem status_complete_of_free {d : SessionData} {op : Op} (hg : op.generation = d.generation)
    (h1 : d.outbound.hasRetained op.id = false) (h2 : d.outbound.hasPendingRelease op.id = false) :
    d.status op = .complete := by
  have hf : d.inFlight op = false := by
    unfold SessionData.inFlight
    cases op.kind <;> simp [h1, h2]
  rw [status_eq, if_neg (fun h => h hg), hf]; rfl

theorem acked_status_complete {d : SessionData} (h : d.IdInv) {op : Op} {k : AckKind} (ha : d.awaits op.id k = true)
    (hg : op.generation = d.generation) : (d.acked op.id k).status op = .complete :=
  status_complete_of_free hg (acked_free h ha).1 (acked_free h ha).2.1

/-- **An acknowledgement that finds its packet completes the handle**, whatever its kind and whether or not it carries
a failure code — unless it is the PUBREC that opens the second leg of a QoS 2 exchange (`pubrecCreates`). -/
theorem handlePacket_completes {d : SessionData} {r : Runtime} {op : Op} {p : Recv} {k : AckKind} (h : d.IdInv)
    (hg : op.generation = d.generation) (hp : p.ackOf = some (op.id, k)) (ha : d.awaits op.id k = true)
    (hc : ∀ rs, p = .pubRec op.id rs → d.pubrecCreates r op.id rs = false) :
    (handlePacket d r p).1.status op = .complete := by
  rw [(handlePacket_ack d r hp).2 ha hc]
  exact acked_status_complete h ha hg

/-- The generation changes only in the CONNACK of a fresh broker session (`% 4294967296`: it is a `u32` that
`SessionData::reset` advances with `wrapping_add`). -/
theorem SessStep.generation {s s' : Session} (st : SessStep s s') :
    s'.data.generation = s.data.generation ∨
    (∃ block now, s' = (s.activate false block now).1 ∧
      s'.data.generation = (s.data.generation + 1) % 4294967296) := by
  rcases st.classify with hq | ⟨p, rfl⟩ | ⟨block, now, rfl⟩
  · exact Or.inl hq.generation
  · exact .inl (handlePacket_frame s.data s.rt p).generation
  · exact Or.inr ⟨block, now, rfl, (activate_false_data s block now).1⟩

/-- `handlePacket` reports `Peer(Rejected rc)` exactly in these cases. -/
def Recv.rejects (d : SessionData) (p : Recv) (rc : Nat) : Prop :=
  match p with
  | .subAck id _ codes => d.awaits id .subAck = true ∧ firstFailure codes = some rc
  | .unsubAck id _ codes => d.awaits id .unsubAck = true ∧ firstFailure codes = some rc
  | .pubAck id rs => d.awaits id .pubAck = true ∧ reasonSuccess rs.rc = false ∧ rs.rc = rc
  | .pubRec id rs =>
    (d.awaits id .pubRec = true ∨ d.outbound.hasPendingRelease id = true) ∧ reasonSuccess rs.rc = false ∧ rs.rc = rc
  | .pubComp id rs => d.outbound.hasPendingRelease id = true ∧ reasonSuccess rs.rc = false ∧ rs.rc = rc
  | _ => False

theorem idxOf?_split (l₁ l₂ : List Nat) (id : Nat) (h : id ∉ l₁) :
    (l₁ ++ id :: l₂).idxOf? id = some l₁.length := by
  unfold List.idxOf?
  rw [List.findIdx?_append]
  have : List.findIdx? (fun x => x == id) l₁ = none := by
    rw [List.findIdx?_eq_none_iff]
    intro x hx
    simp only [beq_eq_false_iff_ne, ne_eq]
    intro hxe; subst hxe; exact h hx
  rw [this]
  simp [List.findIdx?_cons]

theorem swapRemove_split (l₁ l₂ : List Nat) (id : Nat) (h : id ∉ l₁) :
    handlePacket.swapRemove (l₁ ++ id :: l₂) id =
      match l₂.getLast? with
      | none => l₁
      | some z => l₁ ++ z :: l₂.dropLast := by
  unfold handlePacket.swapRemove
  rw [idxOf?_split l₁ l₂ id h]
  simp only []
  rcases List.eq_nil_or_concat l₂ with rfl | ⟨m, z, rfl⟩
  · simp
  · simp only [List.concat_eq_append]
    have hl : (l₁ ++ id :: (m ++ [z])).getLast? = some z := by
      rw [← List.cons_append, ← List.append_assoc, List.getLast?_append]; simp
    rw [hl]
    simp only [List.getLast?_append, List.getLast?_singleton, Option.some_or, List.dropLast_concat]
    rw [if_neg (by simp)]
    rw [List.set_append]
    simp only [Nat.lt_irrefl, if_false, Nat.sub_self, List.set_cons_zero]
    rw [List.dropLast_append_cons]
    congr 1
    rw [← List.cons_append, List.dropLast_concat]

theorem swapRemove_perm (l : List Nat) (id : Nat) (h : id ∈ l) :
    (handlePacket.swapRemove l id).Perm (l.erase id) := by
  obtain ⟨l₁, l₂, rfl, hn⟩ := List.eq_append_cons_of_mem h
  rw [swapRemove_split l₁ l₂ id hn, List.erase_append, if_neg hn]
  simp only [List.erase_cons_head]
  rcases List.eq_nil_or_concat l₂ with rfl | ⟨m, z, rfl⟩
  · simp
  · simp only [List.concat_eq_append, List.getLast?_append, List.getLast?_singleton, Option.some_or,
      List.dropLast_concat]
    apply List.Perm.append_left
    have : z :: m = [z] ++ m := rfl
    rw [this]
    exact List.perm_append_comm

theorem qos2Ids_inv (l : List Nat) (id : Nat) (h : l.Nodup ∧ l.length ≤ MAX_INBOUND_QOS2) :
    (qos2Ids l id).1.Nodup ∧ (qos2Ids l id).1.length ≤ MAX_INBOUND_QOS2 := by
  unfold qos2Ids
  split
  · exact h
  · rename_i hc
    split
    · exact ⟨(List.perm_append_singleton id l).nodup_iff.mpr (List.nodup_cons.mpr ⟨by simpa using hc, h.1⟩),
        by simp; omega⟩
    · exact h

theorem swapRemove_inv (l : List Nat) (id : Nat) (hc : l.contains id = true) (h : l.Nodup ∧ l.length ≤ MAX_INBOUND_QOS2) :
    (handlePacket.swapRemove l id).Nodup ∧ (handlePacket.swapRemove l id).length ≤ MAX_INBOUND_QOS2 := by
  have hm : id ∈ l := by simpa using hc
  have hp := swapRemove_perm l id hm
  refine ⟨hp.nodup_iff.mpr (h.1.erase id), ?_⟩
  rw [hp.length_eq]
  have := List.length_erase_of_mem hm
  omega

theorem closed_PendingInv :
    Closed (fun s => s.data.pendingServerIds.Nodup ∧ s.data.pendingServerIds.length ≤ MAX_INBOUND_QOS2) :=
  Closed.of_step (fun s s' st h => by
    rcases st.classify with hq | ⟨p, rfl⟩ | ⟨block, now, rfl⟩
    · rw [hq.pending]; exact h
    · rw [Session.handle_fst_data, (handlePacket_frame s.data s.rt p).ids]
      unfold Recv.idsAfter
      split
      · split
        · exact h
        · split
          · exact qos2Ids_inv _ _ h
          · exact h
      · split
        · rename_i hc; exact swapRemove_inv _ _ hc.2 h
        · exact h
      · exact h
    · rw [(activate_false_data s block now).2.1]; exact ⟨List.nodup_nil, Nat.zero_le _⟩)

end Minimq
