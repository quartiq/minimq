import Minimq.Proofs.IoCalls
import Minimq.Proofs.DirOut
/-
The transports (`World.nets`; the last one is the current one) and the suspended future under what touches
them: the three I/O calls, `connect` up to the encoding of CONNECT, the drop of the handle, the processing of
the CONNACK.

An I/O call ends in `World.io` (one line printed, the decision used up; a read may also set `lastIoStarved`)
unless it moves bytes: a `write` that returns `Ok` ends in `World.wrote`, a `read` that returns `Ok` in
`World.gotBytes` (`ioWrite_cases`, `ioFlush_cases`, `ioRead_cases`, from the calls' results by decision). What the
calls do to the transports is what these three worlds do to them.
-/
namespace Minimq
open Gen World

theorem setCurNet_spec (w : World) (n : Net) (hn : w.nets ≠ []) :
    (w.setCurNet n).nets.length = w.nets.length ∧ (w.setCurNet n).curNet = n ∧
    (w.setCurNet n).nets.dropLast = w.nets.dropLast ∧ (w.setCurNet n).fut = w.fut := by
  have hl : 0 < w.nets.length := List.length_pos_iff.mpr hn
  refine ⟨?_, ?_, ?_, rfl⟩
  · simp [World.setCurNet]; omega
  · simp [World.setCurNet, World.curNet]
  · simp [World.setCurNet]

theorem nets_ne_of_length {w w' : World} (hn : w.nets ≠ []) (hl : w'.nets.length = w.nets.length) : w'.nets ≠ [] := by
  intro h0
  have : 0 < w.nets.length := List.length_pos_iff.mpr hn
  rw [h0] at hl; simp at hl; omega

/-! ### The I/O calls

The decisions 250, 251 and from 252: see "The three I/O calls by decision" in `Proofs/IoCalls.lean`. -/

theorem ioWrite_cases (w : World) (bs : Bytes) :
    (∃ l r, w.ioWrite bs = (w.io l, r) ∧ ∀ k, r ≠ .ok k) ∨
    ∃ k, w.ioWrite bs = (w.wrote k bs, .ok (wcount k bs.length)) := by
  cases hs : w.slot with
  | none => exact .inl ⟨_, _, ioWrite_none hs bs, nofun⟩
  | some k =>
    by_cases h1 : k ≤ 250
    · exact .inr ⟨k, ioWrite_ok w bs k hs h1⟩
    · by_cases h2 : k = 251
      · subst h2; exact .inl ⟨_, _, ioWrite_zero hs bs, nofun⟩
      · exact .inl ⟨_, _, ioWrite_err hs (by omega) bs, nofun⟩

theorem ioFlush_cases (w : World) : ∃ l r, w.ioFlush = (w.io l, r) := by
  cases hs : w.slot with
  | none => exact ⟨_, _, ioFlush_none hs⟩
  | some k =>
    by_cases h1 : k ≤ 251
    · exact ⟨_, _, ioFlush_ok hs h1⟩
    · exact ⟨_, _, ioFlush_err hs (by omega)⟩

theorem ioRead_cases (w : World) (n : Nat) :
    (∃ l st r, w.ioRead n = ({ w.io l with lastIoStarved := st }, r) ∧ ∀ bs, r ≠ .ok bs) ∨
    ∃ c, c ≤ n ∧ w.ioRead n = (w.gotBytes c, .ok (w.curNet.rx.take c)) := by
  cases hs : w.slot with
  | none => exact .inl ⟨_, false, _, ioRead_none hs n, nofun⟩
  | some k =>
    by_cases h1 : k ≤ 250
    · by_cases hc : takeCount k n w.curNet.rx.length = 0
      · exact .inl ⟨_, true, _, ioRead_starved hs h1 hc, nofun⟩
      · exact .inr ⟨_, by unfold takeCount; split <;> omega, ioRead_ok w n k hs h1 hc⟩
    · by_cases h2 : k = 251
      · subst h2; exact .inl ⟨_, false, _, ioRead_eof hs n, nofun⟩
      · exact .inl ⟨_, false, _, ioRead_err hs (by omega) n, nofun⟩

theorem wrote_net (w : World) (k : Nat) (bs : Bytes) (hn : w.nets ≠ []) :
    (w.wrote k bs).fut = w.fut ∧ (w.wrote k bs).nets.length = w.nets.length ∧
    (w.wrote k bs).nets.dropLast = w.nets.dropLast ∧
    (w.wrote k bs).curNet.wire = w.curNet.wire ++ bs.take (wcount k bs.length) := by
  obtain ⟨s1, s2, s3, s4⟩ := setCurNet_spec { w with slot := none, lastIoStarved := false }
    { w.curNet with wire := w.curNet.wire ++ bs.take (wcount k bs.length) } hn
  exact ⟨s4, s1, s3, congrArg Net.wire s2⟩

theorem gotBytes_net (w : World) (c : Nat) (hn : w.nets ≠ []) :
    (w.gotBytes c).fut = w.fut ∧ (w.gotBytes c).nets.length = w.nets.length ∧
    (w.gotBytes c).nets.dropLast = w.nets.dropLast ∧ (w.gotBytes c).curNet.wire = w.curNet.wire := by
  obtain ⟨s1, s2, s3, s4⟩ := setCurNet_spec { w with slot := none } { w.curNet with rx := w.curNet.rx.drop c } hn
  exact ⟨s4, s1, s3, (congrArg Net.wire s2 :)⟩

theorem ioWrite_net (w w' : World) (bytes : Bytes) (res : WriteRes) (hn : w.nets ≠ []) (h : w.ioWrite bytes = (w', res)) :
    w'.fut = w.fut ∧ w'.nets.length = w.nets.length ∧ w'.nets.dropLast = w.nets.dropLast ∧
    (match res with
     | .ok k => k ≤ bytes.length ∧ w'.curNet.wire = w.curNet.wire ++ bytes.take k
     | _ => w'.curNet.wire = w.curNet.wire) := by
  rcases ioWrite_cases w bytes with ⟨l, r, e, hr⟩ | ⟨k, e⟩ <;> rw [e] at h <;> cases h
  · refine ⟨rfl, rfl, rfl, ?_⟩
    cases res with
    | ok k => exact absurd rfl (hr k)
    | _ => rfl
  · obtain ⟨a, b, c, d⟩ := wrote_net w k bytes hn
    exact ⟨a, b, c, by unfold wcount; split <;> omega, d⟩

theorem ioFlush_net (w w' : World) (res : FlushRes) (h : w.ioFlush = (w', res)) :
    w'.fut = w.fut ∧ w'.nets = w.nets := by
  obtain ⟨l, r, e⟩ := ioFlush_cases w
  rw [e] at h; cases h; exact ⟨rfl, rfl⟩

theorem ioRead_net (w w' : World) (n : Nat) (res : ReadRes) (hn : w.nets ≠ []) (h : w.ioRead n = (w', res)) :
    w'.fut = w.fut ∧ w'.nets.length = w.nets.length ∧ w'.nets.dropLast = w.nets.dropLast ∧
    w'.curNet.wire = w.curNet.wire := by
  rcases ioRead_cases w n with ⟨l, st, r, e, _⟩ | ⟨c, _, e⟩ <;> rw [e] at h <;> cases h
  · exact ⟨rfl, rfl, rfl, rfl⟩
  · exact gotBytes_net w c hn

theorem ioRead_len (w w' : World) (n : Nat) (bytes : Bytes) (h : w.ioRead n = (w', .ok bytes)) : bytes.length ≤ n := by
  rcases ioRead_cases w n with ⟨l, st, r, e, hne⟩ | ⟨c, hc, e⟩ <;> rw [e] at h <;> cases h
  · exact absurd rfl (hne _)
  · rw [List.length_take]; omega

theorem dropConn_frame (w : World) :
    ∃ out tn, w.dropConn = { w with fut := none, conn := none, out := out, tornNets := tn } := by
  obtain ⟨sess, conn, nets, fut, now, slot, handles, starved, wakes, lastRes, out, torn, log⟩ := w
  cases fut <;> cases conn <;> exact ⟨_, _, rfl⟩

theorem dropConn_nets (w : World) : w.dropConn.nets = w.nets := by
  obtain ⟨_, _, h⟩ := dropConn_frame w; rw [h]

theorem connectStart_spec (w : World) :
    w.connectStart.sess = w.sess.beginConnect ∧ w.connectStart.nets = w.nets ++ [({ } : Net)] ∧
    w.connectStart.curNet.wire = [] ∧ w.connectStart.curNet.rx = [] ∧
    w.connectStart.fut = none ∧ w.connectStart.conn = none ∧ w.connectStart.now = w.now := by
  obtain ⟨out, tn, h⟩ := dropConn_frame w
  unfold World.connectStart World.curNet
  rw [h]
  dsimp only [World.emit]
  rw [List.getLast?_concat]
  exact ⟨rfl, rfl, rfl, rfl, rfl, rfl, rfl⟩

theorem connectGotPacket_net (w : World) :
    (World.connectGotPacket w).nets = w.nets ∧ (World.connectGotPacket w).fut = none :=
  connectGotPacket_ind (P := fun x => x.nets = w.nets ∧ x.fut = none) w (fun _ => ⟨rfl, rfl⟩) (fun _ => ⟨rfl, rfl⟩)
    fun sp block => activate_ind (P := fun x => x.nets = w.nets ∧ x.fut = none) _ sp block (fun _ _ => ⟨rfl, rfl⟩)
      (fun _ => ⟨rfl, rfl⟩)

end Minimq
