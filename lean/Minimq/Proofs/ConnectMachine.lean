import Minimq.Proofs.ConnectStart
import Minimq.Proofs.ReadMachine
/-
The CONNECT / CONNACK handshake at the level of the machine (whole `World`, I/O decisions): what one
decision `d k` does to a handshake suspended in `write_all`, in the flush, or in the read of the
answer; the four phases of the handshake with a potential that every decision decreases; how the
handshake ends, case by case. The handshake theorems ask of the world they start in that no I/O decision is
left over; that holds after every program (`run_slot_none`, `Proofs/FuelAdequate.lean`).
-/

namespace Minimq
open Gen World Outbound Fuel

theorem wrote_fields (w : World) (k : Nat) (bytes : Bytes) (hn : w.nets ≠ []) :
    (w.wrote k bytes).sess = w.sess ∧ (w.wrote k bytes).conn = w.conn ∧ (w.wrote k bytes).fut = w.fut ∧
    (w.wrote k bytes).now = w.now ∧ (w.wrote k bytes).slot = none ∧ (w.wrote k bytes).lastRes = w.lastRes ∧
    (w.wrote k bytes).nets = w.nets.dropLast ++
      [{ w.curNet with wire := w.curNet.wire ++ bytes.take (wcount k bytes.length) }] :=
  ⟨rfl, rfl, rfl, rfl, rfl, rfl, rfl⟩

theorem dcr_starved (fuel : Nat) (w : World) (r1 : Reader)
    (n k : Nat) (hna : w.sess.reader.packetAvailable = false)
    (hw : w.sess.reader.receiveWindow = some (r1, n)) (hn : n ≠ 0) (hs : w.slot = some k)
    (hk : k ≤ 250) (hrx : w.curNet.rx = []) :
    doConnRead (fuel + 1) w =
      ({ (({ w with sess := { w.sess with reader := r1 }, slot := none } : World).emit s!"rs {w.netIdx}") with
          lastIoStarved := true } : World).suspend .connRead := by
  simp only [doConnRead, hna, Bool.false_eq_true, if_false, session_window_of hw, if_neg hn]
  rw [ioRead_starved (w := { w with sess := { w.sess with reader := r1 } }) hs hk
    (by show takeCount k n w.curNet.rx.length = 0; rw [hrx]; exact takeCount_nil k n)]
  rfl

/-- The read of the answer is a read loop (`Proofs/ReadMachine.lean`): it has no deadline, a complete
packet goes to the CONNACK processing. -/
theorem connReadLoop : ReadLoop .connRead .connRead connectGotPacket
    (fun w => (w.handleDisconnect).finishErr "connect" .peerInvalid) (fun _ => True) where
  avail := fun w ha => by
    show ev (.DCR w) = _
    rw [ev_DCR, ha, if_pos rfl]
  zero := fun w r1 hna hw => by
    show ev (.DCR w) = _
    rw [ev_DCR]
    simp only [hna, Bool.false_eq_true, if_false, session_window_of hw, if_true]
  malformed := fun w hna hw => by
    show ev (.DCR w) = _
    rw [ev_DCR]
    simp only [hna, Bool.false_eq_true, if_false, Session.window, hw]
  read := fun w r1 n k hna hw hn hs hk hc => by
    show ev (.DCR w) = ev (.DCR _)
    rw [ev_DCR]
    simp only [hna, Bool.false_eq_true, if_false, session_window_of hw, if_neg hn]
    rw [ioRead_ok ({ w with sess := { w.sess with reader := r1 } } : World) n k hs hk hc]
    rfl
  pending := fun w r1 n hna hw hn hs _ => by
    show ev (.DCR w) = _
    rw [ev_DCR]
    simp only [hna, Bool.false_eq_true, if_false, session_window_of hw, if_neg hn]
    rw [ioRead_none (w := { w with sess := { w.sess with reader := r1 } }) hs]
    rfl

/-- What the handshake theorems fix: the older transports, the session after CONNECT was encoded,
the CONNECT, the bytes the broker answers with, the (virtual) time. -/
structure HsP where
  ns0 : List Net
  S : Session
  pkt : Bytes
  ack : Bytes
  now0 : Nat

/-- The two worlds agree on the fields listed; the decision, the handle list, the per-POLL flags, the trace and the
ghost bookkeeping are left out. -/
structure CoreEq (a c : World) : Prop where
  sess : a.sess = c.sess
  conn : a.conn = c.conn
  nets : a.nets = c.nets
  fut : a.fut = c.fut
  now : a.now = c.now
  lastRes : a.lastRes = c.lastRes

/-- Suspended in `write_all` with `j` bytes of CONNECT on the wire and exactly the rest pending. -/
structure HsWrite (P : HsP) (j : Nat) (W : World) : Prop where
  fut : W.fut = some (.connWrite (P.pkt.drop j))
  hj : j < P.pkt.length
  nets : W.nets = P.ns0 ++ [{ wire := P.pkt.take j, rx := P.ack }]
  sess : W.sess = P.S
  conn : W.conn = none
  now : W.now = P.now0
  slot : W.slot = none

/-- The whole CONNECT is on the wire; suspended in its flush. -/
structure HsFlush (P : HsP) (W : World) : Prop where
  fut : W.fut = some .connFlush
  nets : W.nets = P.ns0 ++ [{ wire := P.pkt, rx := P.ack }]
  sess : W.sess = P.S
  conn : W.conn = none
  now : W.now = P.now0
  slot : W.slot = none

/-- CONNECT flushed, deadlines cleared; suspended in the read of the answer with its first `i` bytes
in the reader and exactly the rest still with the transport. -/
structure HsRead (P : HsP) (i : Nat) (W : World) : Prop where
  fut : W.fut = some .connRead
  hi : i < P.ack.length
  nets : W.nets = P.ns0 ++ [{ wire := P.pkt, rx := P.ack.drop i }]
  sess : W.sess = { P.S.clearPing with reader := P.S.reader.holding (P.ack.take i) }
  waiting : Waiting (P.S.reader.holding (P.ack.take i)) (P.ack.drop i)
  conn : W.conn = none
  now : W.now = P.now0
  slot : W.slot = none

/-- The answer is complete: the world is (up to trace and ghosts) what `connect_handshake` makes of
the packet in the reader. -/
structure HsEnd (P : HsP) (W : World) : Prop where
  ex : ∃ Ws : World, Ws.sess = { P.S.clearPing with reader := P.S.reader.packetOf P.ack } ∧ Ws.conn = none ∧
    Ws.nets = P.ns0 ++ [{ wire := P.pkt, rx := [] }] ∧ Ws.now = P.now0 ∧ CoreEq W (connectGotPacket Ws)
  slot : W.slot = none

/-- The phases, indexed by the number of decisions that certainly suffice to finish. -/
inductive Hs (P : HsP) : Nat → World → Prop
  | write {W : World} (j : Nat) (h : HsWrite P j W) : Hs P (P.pkt.length - j + 1 + P.ack.length) W
  | flush {W : World} (h : HsFlush P W) : Hs P (1 + P.ack.length) W
  | read {W : World} (i : Nat) (h : HsRead P i W) : Hs P (P.ack.length - i) W
  | done {W : World} (h : HsEnd P W) : Hs P 0 W

/-- What the theorems need of the parameters: the session has a fresh reader with room, and the
answer is exactly one frame that fits the receive buffer. -/
structure HsP.Ok (P : HsP) : Prop where
  rdData : P.S.reader.data = []
  rdLen : P.S.reader.packetLength = none
  frame : frame1 P.S.reader.cap P.ack = .packet P.ack []

/-- One write decision on a handshake suspended in `write_all`: a prefix is accepted; if bytes remain
the operation is suspended in the write again with exactly the rest, otherwise in the flush. -/
theorem step_write {P : HsP} {j : Nat} {W : World} (h : HsWrite P j W) {k : Nat} (hk1 : 1 ≤ k) (hk : k ≤ 250) :
    ∃ m, m ≤ P.pkt.length - j + P.ack.length ∧ Hs P m (W.execDirective (.d k)) := by
  have hj := h.hj
  have hlen : (P.pkt.drop j).length = P.pkt.length - j := List.length_drop ..
  have hne : P.pkt.drop j ≠ [] := fun h0 => by rw [h0, List.length_nil] at hlen; omega
  obtain ⟨hc1, hc2⟩ := wcount_bounds (k := k) hk1 (by omega : (P.pkt.drop j).length ≠ 0)
  rw [exec_d h.fut]
  simp only [resumeCall]
  rw [ev_DLW_ok rfl hk 0 hne, List.drop_drop]
  -- the world after the write, by its fields
  obtain ⟨vs, vc, _, vn, vsl, _, vnets⟩ := wrote_fields (({ W with slot := some k } : World).pollBase) k
    (P.pkt.drop j) (by show W.nets ≠ []; rw [h.nets]; simp)
  generalize (({ W with slot := some k } : World).pollBase).wrote k (P.pkt.drop j) = V at vs vc vn vsl vnets ⊢
  replace vnets : V.nets = P.ns0 ++ [{ wire := P.pkt.take (j + wcount k (P.pkt.drop j).length), rx := P.ack }] := by
    rw [vnets]
    show W.nets.dropLast ++
      [{ W.curNet with wire := W.curNet.wire ++ (P.pkt.drop j).take (wcount k (P.pkt.drop j).length) }] = _
    rw [curNet_of_nets h.nets, h.nets, List.dropLast_concat, List.take_add]
  generalize wcount k (P.pkt.drop j).length = c at hc1 hc2 vnets ⊢
  rw [hlen] at hc2
  by_cases hall : P.pkt.length ≤ j + c
  · rw [List.drop_eq_nil_of_le hall, ev_DLW_nil, ev_DLF_pending (by exact vsl)]
    rw [List.take_of_length_le hall] at vnets
    exact ⟨1 + P.ack.length, by omega, Hs.flush ⟨rfl, vnets, vs.trans h.sess, vc.trans h.conn, vn.trans h.now, rfl⟩⟩
  · rw [ev_DLW_pending vsl 0 (by rw [Ne, List.drop_eq_nil_iff]; exact hall)]
    exact ⟨P.pkt.length - (j + c) + 1 + P.ack.length, by omega,
      Hs.write _ ⟨rfl, by omega, vnets, vs.trans h.sess, vc.trans h.conn, vn.trans h.now, rfl⟩⟩

/-- One decision on a handshake suspended in the flush of CONNECT: the flush succeeds, the keep-alive
deadlines are cleared, and `fill_packet_reader` finds a fresh reader and suspends in the read. -/
theorem step_flush {P : HsP} (hP : P.Ok) (hcap : 1 ≤ P.S.reader.cap) {W : World} (h : HsFlush P W) {k : Nat} (hk : k ≤ 250) :
    Hs P P.ack.length (W.execDirective (.d k)) := by
  have hw := Waiting_fresh P.S.reader P.ack hP.rdData hP.rdLen hcap
  obtain ⟨n, hn, hwin⟩ := hw.win
  have hcan := hw.canonical
  rw [hP.rdData] at hcan
  have hwin' : W.sess.clearPing.window = some (W.sess.clearPing, n) := by
    unfold Session.window
    rw [show W.sess.clearPing.reader = P.S.reader by rw [h.sess]; rfl, hwin, ← h.sess]
    rfl
  rw [exec_d h.fut]
  simp only [resumeCall]
  rw [ev_DLF, ioFlush_ok (k := k) rfl (by omega)]
  dsimp only
  rw [if_pos rfl, ev_DCR]
  simp only [show W.sess.clearPing.reader.packetAvailable = false by rw [h.sess]; exact hw.notAvail,
    Bool.false_eq_true, if_false, World.io, World.pollBase, hwin', if_neg hn]
  rw [ioRead_none rfl]
  refine (show Hs P (P.ack.length - 0) _ from
    Hs.read 0 ⟨rfl, by have := (frame_cap hP.frame).2; omega, ?_, ?_, ?_, h.conn, h.now, rfl⟩)
  · show W.nets = _
    rw [h.nets]; rfl
  · show W.sess.clearPing = _
    rw [h.sess, List.take_zero, ← hcan]
    rfl
  · rw [List.take_zero, List.drop_zero, ← hcan]; exact hw

theorem CoreEq.refl (a : World) : CoreEq a a := ⟨rfl, rfl, rfl, rfl, rfl, rfl⟩

/-- One read decision on a handshake suspended in the read of the answer: the reader takes some of
the bytes; the answer being one frame, either it is complete now or the read is suspended again. -/
theorem step_read {P : HsP} (hP : P.Ok) {i : Nat} {W : World} (h : HsRead P i W) {k : Nat} (hk1 : 1 ≤ k) (hk : k ≤ 250) :
    ∃ m, m + 1 ≤ P.ack.length - i ∧ Hs P m (W.execDirective (.d k)) := by
  have hi := h.hi
  have hcur : W.curNet = { wire := P.pkt, rx := P.ack.drop i } := curNet_of_nets h.nets
  have hrx : W.curNet.rx = P.ack.drop i := by rw [hcur]
  have hrd : W.sess.reader = P.S.reader.holding (P.ack.take i) := by rw [h.sess]
  have hne : W.curNet.rx ≠ [] := by rw [hrx, Ne, List.drop_eq_nil_iff]; omega
  have hwait : Waiting W.sess.reader W.curNet.rx := by rw [hrd, hrx]; exact h.waiting
  have hfr : frame1 W.sess.reader.cap (W.sess.reader.data ++ W.curNet.rx) = .packet P.ack [] := by
    rw [hrd, hrx, holding_data, List.take_append_drop]; exact hP.frame
  obtain ⟨_, _, hc1, _, hcl⟩ := read_setup hwait hne hk1
  have hdl : W.nets.dropLast = P.ns0 := by rw [h.nets, List.dropLast_concat]
  generalize hc : W.readCount k = c at hc1 hcl
  rw [hrx, List.length_drop] at hcl
  have htake : W.sess.reader.data ++ W.curNet.rx.take c = P.ack.take (i + c) := by
    rw [hrd, hrx, holding_data, List.take_add]
  have hdrop : W.curNet.rx.drop c = P.ack.drop (i + c) := by rw [hrx, List.drop_drop]
  -- the answer being one frame (`hfr`), the reader cannot fail, and it cannot want more once the transport is empty
  cases hkind : readKind W.sess.reader W.curNet.rx (W.readCount k) with
  | packet =>
    obtain ⟨hf, hexec⟩ := connReadLoop.packet W k h.fut hwait hne hk1 hk hkind
    rw [hfr, hc] at hf
    obtain ⟨hf1, hf2⟩ := Frame1.packet.inj hf
    rw [hexec, hc, ← hf1, ← hf2]
    refine ⟨0, by omega, Hs.done ⟨⟨W.withRead (W.sess.reader.packetOf P.ack) [] [W.rLine c] none, ?_, h.conn, ?_,
      h.now, ⟨rfl, rfl, rfl, rfl, rfl, rfl⟩⟩, rfl⟩⟩
    · show ({ W.sess with reader := W.sess.reader.packetOf P.ack } : Session) = _
      rw [h.sess]; rfl
    · show W.nets.dropLast ++ [{ W.curNet with rx := [] }] = _
      rw [hdl, hcur]
  | malformed =>
    have hf := (connReadLoop.fails W k h.fut hwait hne hk1 hk hkind).1
    rw [hfr] at hf
    cases hf
  | more =>
    obtain ⟨hexec, hw3, hex⟩ := connReadLoop.more W k h.fut trivial hwait hne hk1 hk hkind
    rw [hc] at hexec hw3 hex
    have hlt : i + c < P.ack.length := by
      refine Nat.lt_of_not_le fun hge => ?_
      have := hex (hdrop.trans (List.drop_eq_nil_of_le hge))
      rw [hfr] at this
      cases this
    rw [hexec]
    refine ⟨P.ack.length - (i + c), by omega, Hs.read (i + c) ⟨rfl, hlt, ?_, ?_, ?_, h.conn, h.now, rfl⟩⟩
    · show W.nets.dropLast ++ [{ W.curNet with rx := W.curNet.rx.drop c }] = _
      rw [hdl, hdrop, hcur]
    · show ({ W.sess with reader := W.sess.reader.holding (W.sess.reader.data ++ W.curNet.rx.take c) } : Session) = _
      rw [htake, h.sess]; rfl
    · rw [htake, hdrop, hrd, holding_holding] at hw3
      exact hw3

theorem step_done {P : HsP} {W : World} (h : HsEnd P W) (k : Nat) : HsEnd P (W.execDirective (.d k)) := by
  obtain ⟨⟨Ws, h1, h2, h3, h4, hce⟩, hs⟩ := h
  have hfut : W.fut = none := hce.fut.trans (connectGotPacket_net Ws).2
  have : W.execDirective (.d k) = W.emit "bad-op" := by
    simp only [World.execDirective, hfut, Option.isNone_none, if_true]
  rw [this]
  exact ⟨⟨Ws, h1, h2, h3, h4, ⟨hce.sess, hce.conn, hce.nets, hce.fut, hce.now, hce.lastRes⟩⟩, hs⟩

theorem Hs.step {P : HsP} (hP : P.Ok) (hcap : 1 ≤ P.S.reader.cap) {m : Nat} {W : World} (h : Hs P m W) {k : Nat}
    (hk1 : 1 ≤ k) (hk : k ≤ 250) : ∃ m', m' ≤ m - 1 ∧ Hs P m' (W.execDirective (.d k)) := by
  cases h with
  | write j hw =>
    obtain ⟨m', hm, hs⟩ := step_write hw hk1 hk
    exact ⟨m', by have := hw.hj; omega, hs⟩
  | flush hf => exact ⟨P.ack.length, by omega, step_flush hP hcap hf hk⟩
  | read i hr =>
    obtain ⟨m', hm, hs⟩ := step_read hP hr hk1 hk
    exact ⟨m', by omega, hs⟩
  | done hd => exact ⟨0, Nat.zero_le _, Hs.done (step_done hd k)⟩

/-- Feed the decisions `ks`, one `d k` directive each. -/
def runDs (ks : List Nat) (W : World) : World := (ks.map Directive.d).foldl World.execDirective W

theorem runDs_cons (k : Nat) (ks : List Nat) (W : World) : runDs (k :: ks) W = runDs ks (W.execDirective (.d k)) := rfl

/-- **Progress.** Every decision brings the handshake at least one unit closer to its end; after as
many decisions as the potential says, it has ended. -/
theorem Hs.run {P : HsP} (hP : P.Ok) (hcap : 1 ≤ P.S.reader.cap) : ∀ (ks : List Nat) {m : Nat} {W : World},
    Hs P m W → (∀ k ∈ ks, 1 ≤ k ∧ k ≤ 250) → ∃ m', m' ≤ m - ks.length ∧ Hs P m' (runDs ks W)
  | [], m, W, h, _ => ⟨m, by simp, h⟩
  | k :: ks, m, W, h, hks => by
    obtain ⟨hk1, hk⟩ := hks k (List.mem_cons_self ..)
    obtain ⟨m1, hm1, h1⟩ := h.step hP hcap hk1 hk
    obtain ⟨m2, hm2, h2⟩ := Hs.run hP hcap ks h1 (fun k' hk' => hks k' (List.mem_cons_of_mem _ hk'))
    exact ⟨m2, by simp only [List.length_cons]; omega, by rw [runDs_cons]; exact h2⟩

theorem Hs.zero {P : HsP} {W : World} (h : Hs P 0 W) : HsEnd P W := by
  generalize hm : (0 : Nat) = m at h
  cases h with
  | write j hw => have := hw.hj; omega
  | flush hf => omega
  | read i hr => have := hr.hi; omega
  | done hd => exact hd

/-- The parameters of the handshake started from `w` with CONNECT `pkt`, answered with `ack`. -/
def hsP (w : World) (pkt ack : Bytes) : HsP :=
  { ns0 := w.nets,
    S := (w.sess.beginConnect.encode (connEnc w.sess.beginConnect.connectPacket)).1,
    pkt := pkt, ack := ack, now0 := w.now }

theorem hsP_reader (w : World) (pkt ack : Bytes) :
    (hsP w pkt ack).S.reader = w.sess.reader.reset := by
  show (w.sess.beginConnect.encode _).1.reader = _
  rw [Session.encode_fst]; rfl

/-- `connect` re-arms every queue entry (`arm_replay`), and encoding the CONNECT keeps the send states. -/
theorem hsP_allFresh (w : World) (pkt ack : Bytes) : (hsP w pkt ack).S.data.outbound.AllFresh := by
  simp only [hsP, Session.encode_fst, setOutbound_data]
  exact encodeAt_allFresh _ _ (beginConnect_allFresh w.sess)

/-- `connect` with no decision available: CONNECT is encoded, the write is pending, the operation is
suspended holding the whole CONNECT; then the broker's bytes arrive on the new transport. -/
theorem hs_enter (w : World) (hinv : w.sess.data.outbound.ArenaInv) (hslot : w.slot = none) (off : Nat) (pkt ack : Bytes)
    (he : encodeConnect w.sess.data.outbound.scratchLen w.sess.beginConnect.connectPacket = .ok (off, pkt)) :
    HsWrite (hsP w pkt ack) 0 ((w.execDirective .connect).execDirective (.rx ack)) := by
  obtain ⟨hs, hpos⟩ := (startConnect_spec w hinv).2 off pkt he
  obtain ⟨_, c2, _, _, _, c6, c7⟩ := connectStart_spec w
  have hsl : w.connectStart.slot = none := (dropConn_slot w).trans hslot
  rw [show w.execDirective .connect = w.startConnect from rfl, hs,
    show doLocalWrite pollFuel _ 0 pkt = _ from run_pollFuel (.DLW _ 0 pkt),
    ev_DLW_pending (by exact hsl) 0 (fun h0 => by rw [h0] at hpos; exact Nat.lt_irrefl 0 hpos),
    show localWritePc 0 pkt = .connWrite pkt from rfl]
  -- the suspended world has the transports, handle, time and slot of `connectStart`
  generalize hX : World.suspend _ (.connWrite pkt) = X
  have hXn : X.nets = w.nets ++ [({ } : Net)] := by rw [← hX]; exact c2
  rw [World.execDirective, if_neg (by rw [hXn]; simp)]
  refine ⟨by rw [← hX]; rfl, hpos, ?_, by rw [← hX]; rfl, by rw [← hX]; exact c6, by rw [← hX]; exact c7,
    by rw [← hX]; rfl⟩
  show X.nets.dropLast ++ [{ X.curNet with rx := X.curNet.rx ++ ack }] = _
  rw [curNet_of_nets hXn, hXn, List.dropLast_concat]
  rfl

/-- The session when the answer has been taken out of the reader. -/
def HsP.taken (P : HsP) : Session :=
  { P.S.clearPing with reader := { P.S.reader with data := [], packetLength := none, last := P.ack } }

/-- Session, handle and result of `connect()` once the answer is complete, as `connect_handshake`
makes them of what the answer decodes to. -/
def HsP.ending (P : HsP) : Session × Option Conn × Except Err Unit :=
  match fromBuffer P.ack with
  | some (.connAck sp rc block) =>
    if reasonSuccess rc then
      match P.taken.activate sp block P.now0 with
      | (s, .ok ()) => (s, some { live := true, resumed := sp }, .ok ())
      | (s, .error e) => (s, none, .error e)
    else (P.taken, none, .error (.peerRejected rc))
  | some (.disconnect _ _) => (P.taken.handleDisconnect, none, .error .disconnected)
  | none => (P.taken.handleDisconnect, none, .error .peerInvalid)
  | some _ => (P.taken.handleDisconnect, none, .error .peerInvalid)

theorem connectGotPacket_ending (P : HsP) (Ws : World)
    (h1 : Ws.sess = { P.S.clearPing with reader := P.S.reader.packetOf P.ack }) (h2 : Ws.conn = none)
    (h4 : Ws.now = P.now0) :
    ((connectGotPacket Ws).sess, (connectGotPacket Ws).conn, (connectGotPacket Ws).lastRes) =
      (P.ending.1, P.ending.2.1, some P.ending.2.2) ∧ (connectGotPacket Ws).now = Ws.now := by
  have htk : Ws.sess.takePkt = (P.taken, (fromBuffer P.ack).map fun p => (P.ack.length, p)) := by
    rw [h1]; exact takePkt_packetOf rfl
  rw [World.connectGotPacket, htk, HsP.ending]
  cases fromBuffer P.ack with
  | none => exact ⟨by rw [h2]; rfl, rfl⟩
  | some p =>
    cases p with
    | connAck sp rc block =>
      dsimp only [Option.map_some]
      cases reasonSuccess rc with
      | false => exact ⟨by rw [h2]; rfl, rfl⟩
      | true =>
        simp only [World.activate, Bool.not_true, Bool.false_eq_true, if_false, if_true, h4]
        rcases hact : P.taken.activate sp block P.now0 with ⟨s, _ | _⟩
        · exact ⟨by rw [h2]; rfl, rfl⟩
        · exact ⟨rfl, rfl⟩
    | _ => exact ⟨by rw [h2]; rfl, rfl⟩

theorem HsEnd.spec {P : HsP} {W : World} (h : HsEnd P W) :
    W.fut = none ∧ W.slot = none ∧ W.nets = P.ns0 ++ [{ wire := P.pkt, rx := [] }] ∧ W.now = P.now0 ∧
    W.sess = P.ending.1 ∧ W.conn = P.ending.2.1 ∧ W.lastRes = some P.ending.2.2 := by
  obtain ⟨⟨Ws, h1, h2, h3, h4, hce⟩, hs⟩ := h
  obtain ⟨he, hnow⟩ := connectGotPacket_ending P Ws h1 h2 h4
  obtain ⟨hn, hf⟩ := connectGotPacket_net Ws
  have he := Prod.mk.inj he
  have he2 := Prod.mk.inj he.2
  exact ⟨hce.fut.trans hf, hs, hce.nets.trans (hn.trans h3), hce.now.trans (hnow.trans h4),
    hce.sess.trans he.1, hce.conn.trans he2.1, hce.lastRes.trans he2.2⟩

section
variable (w : World) (hinv : w.sess.data.outbound.ArenaInv) (hslot : w.slot = none) (off : Nat)
  (pkt ack : Bytes)
  (he : encodeConnect w.sess.data.outbound.scratchLen w.sess.beginConnect.connectPacket = .ok (off, pkt))
  (hframe : frame1 w.sess.reader.cap ack = .packet ack [])
  (ks : List Nat) (hks : ∀ k ∈ ks, 1 ≤ k ∧ k ≤ 250)
include hinv hslot he hframe hks

theorem handshake_run :
    ∃ m, m ≤ pkt.length + 1 + ack.length - ks.length ∧
      Hs (hsP w pkt ack) m (runDs ks ((w.execDirective .connect).execDirective (.rx ack))) := by
  have hent := hs_enter w hinv hslot off pkt ack he
  have hrd := hsP_reader w pkt ack
  have hP : (hsP w pkt ack).Ok :=
    ⟨by rw [hrd]; rfl, by rw [hrd]; rfl, by rw [hrd]; exact hframe⟩
  have hcap : 1 ≤ (hsP w pkt ack).S.reader.cap := by
    rw [hrd]; show 1 ≤ w.sess.reader.cap; have := frame_cap hframe; omega
  obtain ⟨m, hm, h⟩ := Hs.run hP hcap ks (Hs.write 0 hent) hks
  exact ⟨m, by rw [Nat.sub_zero] at hm; exact hm, h⟩

theorem handshake_ends (hlen : pkt.length + 1 + ack.length ≤ ks.length) :
    HsEnd (hsP w pkt ack) (runDs ks ((w.execDirective .connect).execDirective (.rx ack))) := by
  obtain ⟨m, hm, h⟩ := handshake_run w hinv hslot off pkt ack he hframe ks hks
  obtain rfl : m = 0 := by omega
  exact Hs.zero h

end

/-- What the phases say about bytes: nothing is lost and nothing is duplicated — the wire of the new
transport followed by what is still to be written is the CONNECT; the reader followed by what the
transport still holds is the answer. -/
theorem Hs.conserved {P : HsP} {m : Nat} {W : World} (h : Hs P m W) (hm : m ≠ 0) :
    W.nets.dropLast = P.ns0 ∧ W.conn = none ∧ W.now = P.now0 ∧
    ((∃ j, W.fut = some (.connWrite (P.pkt.drop j)) ∧ W.curNet.wire = P.pkt.take j ∧ W.curNet.rx = P.ack) ∨
     (W.fut = some .connFlush ∧ W.curNet.wire = P.pkt ∧ W.curNet.rx = P.ack) ∨
     (∃ i, W.fut = some .connRead ∧ W.curNet.wire = P.pkt ∧ W.sess.reader.data = P.ack.take i ∧
        W.curNet.rx = P.ack.drop i)) := by
  cases h with
  | write j hw =>
    rw [curNet_of_nets hw.nets, hw.nets, List.dropLast_concat]
    exact ⟨rfl, hw.conn, hw.now, .inl ⟨j, hw.fut, rfl, rfl⟩⟩
  | flush hf =>
    rw [curNet_of_nets hf.nets, hf.nets, List.dropLast_concat]
    exact ⟨rfl, hf.conn, hf.now, .inr (.inl ⟨hf.fut, rfl, rfl⟩)⟩
  | read i hr =>
    rw [curNet_of_nets hr.nets, hr.nets, hr.sess, List.dropLast_concat]
    exact ⟨rfl, hr.conn, hr.now, .inr (.inr ⟨i, hr.fut, rfl, rfl, rfl⟩)⟩
  | done hd => exact absurd rfl hm

end Minimq
