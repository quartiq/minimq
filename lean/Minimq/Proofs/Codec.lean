import Minimq.Proofs.Varint
import Minimq.De
/-
One law for the wire fields with a reader (u16, variable-length integer, binary data, string, property block):
reader and writer are inverse to each other on the values that fit.
-/
namespace Minimq
open Gen

/-- Read from right to left this is the round trip; from left to right it says that the reader is
canonical and hands back a suffix of its input. -/
def Codec {α : Type} (rd : Bytes → Option (α × Bytes)) (enc : α → Bytes) (fits : α → Prop) : Prop :=
  ∀ bs v r, rd bs = some (v, r) ↔ bs = enc v ++ r ∧ fits v

namespace Codec
variable {α : Type} {rd : Bytes → Option (α × Bytes)} {enc : α → Bytes} {fits : α → Prop}

theorem read (c : Codec rd enc fits) {v : α} (h : fits v) (r : Bytes) : rd (enc v ++ r) = some (v, r) :=
  (c _ _ _).2 ⟨rfl, h⟩

theorem inv (c : Codec rd enc fits) {bs r : Bytes} {v : α} (h : rd bs = some (v, r)) :
    bs = enc v ++ r ∧ fits v :=
  (c _ _ _).1 h

theorem length (c : Codec rd enc fits) {bs r : Bytes} {v : α} (h : rd bs = some (v, r)) :
    bs.length = (enc v).length + r.length := by
  rw [(c.inv h).1, List.length_append]

theorem length_le (c : Codec rd enc fits) {bs r : Bytes} {v : α} (h : rd bs = some (v, r)) :
    r.length ≤ bs.length := by
  rw [c.length h]; omega
end Codec

theorem takeN_append (s r : Bytes) : takeN (s ++ r) s.length = some (s, r) := by
  simp [takeN]

theorem takeN_iff {bs s r : Bytes} {n : Nat} : takeN bs n = some (s, r) ↔ bs = s ++ r ∧ s.length = n := by
  constructor
  · intro h
    unfold takeN at h
    split at h
    · cases h
    · cases h
      exact ⟨(List.take_append_drop ..).symm, List.length_take_of_le (by omega)⟩
  · rintro ⟨rfl, rfl⟩
    exact takeN_append s r

/-- A length in the format `L`, then that many bytes: Binary Data (`L` = two bytes) and the property
block (`L` = variable byte integer). -/
theorem Codec.counted {rdL : Bytes → Option (Nat × Bytes)} {encL : Nat → Bytes} {fitsL : Nat → Prop}
    (c : Codec rdL encL fitsL) :
    Codec (fun bs => match rdL bs with
        | none => none
        | some (n, r) => takeN r n)
      (fun s => encL s.length ++ s) (fun s => fitsL s.length) := by
  intro bs s r
  constructor
  · intro h
    dsimp only at h
    split at h
    · cases h
    · rename_i n r0 hL
      obtain ⟨rfl, hf⟩ := c.inv hL
      obtain ⟨rfl, rfl⟩ := takeN_iff.1 h
      exact ⟨(List.append_assoc ..).symm, hf⟩
  · rintro ⟨rfl, hf⟩
    dsimp only
    rw [List.append_assoc, c.read hf]
    exact takeN_append s r

theorem codec_u16 : Codec readU16 u16be (· < 65536) := by
  intro bs v r
  constructor
  · intro h
    match bs, h with
    | hi :: lo :: _, h =>
      cases h
      have := hi.toNat_lt
      have := lo.toNat_lt
      simp only [u16be, u16of, List.cons_append, List.nil_append]
      exact ⟨by rw [← b_of_toNat hi _ (by omega), ← b_of_toNat lo _ (by omega)], by omega⟩
  · rintro ⟨rfl, h⟩
    simp only [u16be, readU16, u16of, List.cons_append, List.nil_append, b_toNat, Nat.mod_mod]
    congr 2; omega

theorem codec_varint : Codec decodeVarint encodeVarint (· ≤ MQTT_VARINT_MAX) := fun bs n r =>
  ⟨decodeVarint_canonical bs r n, fun ⟨e, h⟩ => e ▸ decode_encode_varint n r h⟩

theorem codec_bin : Codec readBin (fun s => u16be s.length ++ s) (fun s => s.length < 65536) :=
  codec_u16.counted

theorem codec_propBlock :
    Codec readPropBlock (fun blk => encodeVarint blk.length ++ blk) (fun blk => blk.length ≤ MQTT_VARINT_MAX) :=
  codec_varint.counted

theorem readStr_eq (bs : Bytes) :
    readStr bs = match readBin bs with
      | some (s, r) => if validUtf8 s then some (s, r) else none
      | none => none := by
  unfold readStr readBin
  cases readU16 bs with
  | none => rfl
  | some p => obtain ⟨n, r⟩ := p; cases h : takeN r n <;> simp only [h]

theorem codec_str :
    Codec readStr (fun s => u16be s.length ++ s) (fun s => s.length < 65536 ∧ validUtf8 s = true) := by
  intro bs s r
  rw [readStr_eq]
  constructor
  · intro h
    split at h
    · rename_i s' r' hb
      split at h
      · cases h
        obtain ⟨h1, h2⟩ := codec_bin.inv hb
        exact ⟨h1, h2, ‹_›⟩
      · cases h
    · cases h
  · rintro ⟨rfl, hl, hu⟩
    rw [codec_bin.read (v := s) hl]
    simp only [hu, if_true]

end Minimq
