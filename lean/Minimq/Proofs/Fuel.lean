import Minimq.Proofs.IoCalls
import Minimq.Proofs.ReaderStream
import Minimq.Proofs.Scheduler
/-
The vocabulary of the fuel and trace arguments about the thirteen machine functions of `Minimq/Ops.lean`.

A call of one of them without its fuel is a `Call`. The termination measure `Call.rank` rests on three bounds: one POLL
holds at most one I/O decision (`slot`), the timer self-wake counter `wakes` is capped at 64, and a packet lying in the
receive buffer is consumed once (`Reader.cls`); within these each function has a small position in its loop. The trace
arguments rest on one fact: every line the machine prints, the markers `fuel` and `spin` apart, contains a blank
(`Grew P w w'`: the trace only grew, by lines that satisfy `P`). `Sync w w'` is what the synchronous code between two
calls guarantees of trace, decision, transports, counter and clock — the decision is used at most once, by one I/O call
(`IoOnce`) — and `Rel w w'` what is left of it over a whole run.
-/
namespace Minimq
open Gen World

/-- The reader as `receive_buffer` leaves it when it offers a non-empty window: asking again gives
the same reader and the same window. -/
def Reader.Probed (r : Reader) : Prop := ∃ n, n ≠ 0 ∧ r.receiveWindow = some (r, n)

namespace Fuel

inductive Call where
  | FL (w : World) (k : AfterFlush)
  | PS (w : World) (ctx : StepCtx) (step : Outbound.Step) (now : Nat)
  | DSW (w : World) (ctx : StepCtx) (pkt : Flushed) (bytes : Bytes) (written len now : Nat)
  | DSF (w : World) (ctx : StepCtx) (pkt : Flushed) (now : Nat)
  | SR (w : World) (ctx : StepCtx) (adv : Bool)
  | AF (w : World) (k : AfterFlush)
  | DLW (w : World) (which : Nat) (bytes : Bytes)
  | DLF (w : World) (which : Nat)
  | DCR (w : World)
  | DL (w : World) (outer : Outer) (adv : Bool)
  | DAS (w : World) (outer : Outer) (adv : Bool)
  | DE (w : World) (outer : Outer)
  | DWR (w : World) (outer : Outer) (deadline : Option Nat) (yielded : Bool)

def Call.run (fuel : Nat) : Call → World
  | .FL w k => flushLoop fuel w k
  | .PS w ctx step now => performStep fuel w ctx step now
  | .DSW w ctx pkt bytes written len now => doStepWrite fuel w ctx pkt bytes written len now
  | .DSF w ctx pkt now => doStepFlush fuel w ctx pkt now
  | .SR w ctx adv => stepReturned fuel w ctx adv
  | .AF w k => afterFlush fuel w k
  | .DLW w which bytes => doLocalWrite fuel w which bytes
  | .DLF w which => doLocalFlush fuel w which
  | .DCR w => doConnRead fuel w
  | .DL w outer adv => driveLoop fuel w outer adv
  | .DAS w outer adv => driveAfterService fuel w outer adv
  | .DE w outer => driveEnter fuel w outer
  | .DWR w outer deadline yielded => doWaitRead fuel w outer deadline yielded

def Call.world : Call → World
  | .FL w _ | .PS w _ _ _ | .DSW w _ _ _ _ _ _ | .DSF w _ _ _ | .SR w _ _ | .AF w _ | .DLW w _ _
  | .DLF w _ | .DCR w | .DL w _ _ | .DAS w _ _ | .DE w _ | .DWR w _ _ _ => w

theorem Call.run_zero (c : Call) : c.run 0 = c.world.emit "fuel" := by
  cases c <;> simp only [Call.run, Call.world, flushLoop, performStep, doStepWrite, doStepFlush, stepReturned,
    afterFlush, doLocalWrite, doLocalFlush, doConnRead, driveLoop, driveAfterService, driveEnter, doWaitRead]

/-- 1 when the POLL still holds its I/O decision. -/
def sig : Option Nat → Nat
  | none => 0
  | some _ => 1

/-- The state of the receive buffer as far as the drive loop is concerned: 1 = a complete packet is
known to be there; 2 = it is there but the reader has not yet probed its length (the next
`receive_buffer` offers an empty window); 0 = more bytes are needed. -/
def _root_.Minimq.Reader.cls (r : Reader) : Nat :=
  if r.packetAvailable then 1 else
  match r.receiveWindow with
  | some (_, 0) => 2
  | _ => 0

/-- Weight of a world: I/O decision, remaining timer self-wakes, packet in the buffer. A self-wake or a packet
consumed takes off 5; the decision weighs 20 so that using it up pays for whatever the read leaves in the
buffer (`cls` ≤ 2, so at most 10) and for any position of the next call (`Call.rank` adds 1 to 9): `wt_consumed`
and the other `wt_*` lemmas of `Proofs/FuelStep.lean`. -/
def wt (w : World) : Nat := 20 * sig w.slot + 5 * (63 - w.wakes) + 5 * w.sess.reader.cls

def isPost : AfterFlush → Bool
  | .post _ _ => true
  | _ => false

def isDone : Prepared → Bool
  | .done => true
  | _ => false

/-- The termination measure: an upper bound on the number of calls a call can still make. -/
def Call.rank : Call → Nat
  | .FL w k => wt w + (if isPost k then 3 else 5)
  | .PS w _ step _ => wt w + (if isDone (prepareStep w step) then 9 else 2)
  | .DSW w _ _ _ _ _ _ => wt w + 1
  | .DSF w _ _ _ => wt w + 1
  | .SR w _ _ => wt w + 8
  | .AF w k => wt w + (if isPost k then 1 else 4)
  | .DLW w _ _ => wt w + 2
  | .DLF w which => if which = 0 then wt w + 1 else 1     -- only CONNECT's flush calls on (doConnRead)
  | .DCR w => wt w + 1
  | .DL w _ adv => wt w + (if adv then 6 else 3)
  | .DAS w _ adv =>
    wt w + (if w.sess.data.outbound.nextStep.isNone then (if adv then 5 else 2) else 7)
  | .DE w _ => wt w + 4
  | .DWR w _ _ y => wt w + (if y || w.sess.reader.packetAvailable then 5 else 1)

theorem sig_le (o : Option Nat) : sig o ≤ 1 := by cases o <;> simp [sig]

theorem _root_.Minimq.Reader.cls_le (r : Reader) : r.cls ≤ 2 := by
  unfold Reader.cls
  repeat' split
  all_goals omega

theorem wt_le (w : World) : wt w ≤ 345 := by
  have := sig_le w.slot; have := w.sess.reader.cls_le
  unfold wt; omega

theorem Call.rank_bounds (c : Call) : 1 ≤ c.rank ∧ c.rank ≤ wt c.world + 9 := by
  cases c <;> simp only [Call.rank, Call.world] <;> (repeat' split) <;> omega

theorem Call.rank_le (c : Call) : c.rank ≤ 354 := by
  have := c.rank_bounds; have := wt_le c.world; omega

def Grew (P : String → Prop) (w w' : World) : Prop := ∃ new, w'.out = new ++ w.out ∧ ∀ l ∈ new, P l

theorem Grew.refl {P : String → Prop} (w : World) : Grew P w w := ⟨[], rfl, by simp⟩

theorem Grew.trans {P : String → Prop} {a b c : World} (h1 : Grew P a b) (h2 : Grew P b c) : Grew P a c := by
  obtain ⟨n1, e1, f1⟩ := h1
  obtain ⟨n2, e2, f2⟩ := h2
  refine ⟨n2 ++ n1, by rw [e2, e1, List.append_assoc], fun l hl => ?_⟩
  rcases List.mem_append.mp hl with h | h
  · exact f2 l h
  · exact f1 l h

theorem Grew.mono {P Q : String → Prop} {w w' : World} (hPQ : ∀ l, P l → Q l) (h : Grew P w w') : Grew Q w w' := by
  obtain ⟨new, e, f⟩ := h
  exact ⟨new, e, fun l hl => hPQ l (f l hl)⟩

theorem Grew.of_eq {P : String → Prop} {w w' a a' : World} (h : Grew P w a) (hw : w'.out = w.out) (ha : a'.out = a.out) :
    Grew P w' a' := by
  unfold Grew; rw [hw, ha]; exact h

theorem Grew.emit {P : String → Prop} {w a : World} (h : Grew P w a) (l : String) (hl : P l) : Grew P w (a.emit l) :=
  h.trans ⟨[l], rfl, fun x hx => by rw [List.mem_singleton.mp hx]; exact hl⟩

theorem Grew.not_mem {s : String} {w r : World} (h : Grew (· ≠ s) w r) (hw : w.out = []) : s ∉ r.out.reverse := by
  obtain ⟨new, e, hn⟩ := h
  rw [e, hw, List.append_nil, List.mem_reverse]
  exact fun hm => hn _ hm rfl

theorem Grew.new_not_mem {s : String} {w r : World} (h : Grew (· ≠ s) w r) : ∃ new, r.out = new ++ w.out ∧ s ∉ new :=
  h.imp fun _ ⟨e, hn⟩ => ⟨e, fun hm => hn _ hm rfl⟩

/-! ### Every line but the markers contains a blank -/

theorem ne_fuel_of_space (s : String) (h : ' ' ∈ s.toList) : s ≠ "fuel" := by
  intro e; subst e; revert h; decide

theorem space_append_right (a c : String) (h : ' ' ∈ c.toList) : ' ' ∈ (a ++ c).toList := by
  rw [String.toList_append]; exact List.mem_append_right _ h

theorem msgLines_mem (topic payload : Bytes) (qos : Nat) (retain : Bool) (block : Bytes) :
    ∀ l ∈ msgLines topic payload qos retain block, (∃ c, l.toList.head? = some c ∧ c ≠ 'p') ∧ ' ' ∈ l.toList := by
  intro l hl
  unfold msgLines at hl
  simp only [List.mem_append, List.mem_cons, List.mem_map, List.not_mem_nil, or_false] at hl
  rcases hl with ((h | h | h) | ⟨⟨tc, cc⟩, _, h⟩) | h <;> subst h <;>
    refine ⟨⟨_, by simp only [head?_append]; rfl, by decide⟩, ?_⟩ <;>
    simp only [String.toList_append, List.append_assoc] <;> exact List.mem_append_left _ (by decide)

/-- The ways an operation ends (`finish`, `finishErr`, `finishOp`, `deliver`) print lines with a blank
and touch nothing else of the trace; so they keep `Grew P` for every `P` that holds of such lines. -/
theorem Grew.finish {P : String → Prop} (hP : ∀ l, ' ' ∈ l.toList → P l) {w a : World} (h : Grew P w a)
    (line : String) : Grew P w (a.finish line) :=
  (h.emit (s!"{line} @{a.now}") (hP _ (blank_append_left _ _ (space_append_right _ _ (by decide))))).of_eq rfl rfl

theorem Grew.finishErr {P : String → Prop} (hP : ∀ l, ' ' ∈ l.toList → P l) {w a : World} (h : Grew P w a)
    (op : String) (e : Err) : Grew P w (a.finishErr op e) :=
  (h.finish hP _).of_eq rfl rfl

theorem Grew.finishOp {P : String → Prop} (hP : ∀ l, ' ' ∈ l.toList → P l) {w a : World} (h : Grew P w a)
    (name : String) (op : Op) : Grew P w (a.finishOp name op) :=
  Grew.finish hP (a := { a with handles := a.handles ++ [op] }) (h.of_eq rfl rfl) _

theorem foldl_emit_eq (ls : List String) (a : World) : ls.foldl World.emit a = { a with out := ls.reverse ++ a.out } := by
  induction ls generalizing a with
  | nil => rfl
  | cons x xs ih => rw [List.foldl_cons, ih, List.reverse_cons, List.append_assoc]; rfl

theorem deliver_eq (a : World) (name : String) (len : Nat) : ∃ ls, (∀ l ∈ ls, ' ' ∈ l.toList) ∧
    a.deliver name len = { a.finish s!"ret {name} ok msg" with out := ls ++ (a.finish s!"ret {name} ok msg").out } := by
  unfold World.deliver
  simp only []
  split
  · exact ⟨_, fun l hl => (msgLines_mem _ _ _ _ _ l (List.mem_reverse.mp hl)).2, foldl_emit_eq _ _⟩
  · exact ⟨["panic decode_inbound_publish"], fun l hl => by rw [List.mem_singleton.mp hl]; decide, rfl⟩

theorem Grew.deliver {P : String → Prop} (hP : ∀ l, ' ' ∈ l.toList → P l) {w a : World} (h : Grew P w a)
    (name : String) (len : Nat) : Grew P w (a.deliver name len) := by
  obtain ⟨ls, hls, e⟩ := deliver_eq a name len
  rw [e]
  exact (h.finish hP _).trans ⟨ls, rfl, fun l hl => hP l (hls l hl)⟩

/-- What one I/O call may do to the transports: nothing, or change the current one — by appending
accepted bytes to what is on its wire, or by taking bytes from the front of what it has to deliver. -/
def OneIo (ns ns' : List Net) : Prop :=
  ns' = ns ∨ ∃ net', ns' = ns.dropLast ++ [net'] ∧
    ((net'.rx = (ns.getLast?.getD {}).rx ∧ ∃ acc, net'.wire = (ns.getLast?.getD {}).wire ++ acc) ∨
     (net'.wire = (ns.getLast?.getD {}).wire ∧ ∃ c, net'.rx = (ns.getLast?.getD {}).rx.drop c))

/-- The I/O decision is untouched, and then so are the transports, or it has been consumed, by one I/O
call. -/
def IoOnce (w w' : World) : Prop :=
  (w'.slot = w.slot ∧ w'.nets = w.nets) ∨ (w.slot.isSome = true ∧ w'.slot = none ∧ OneIo w.nets w'.nets)

theorem IoOnce.trans {a b c : World} (h1 : IoOnce a b) (h2 : IoOnce b c) : IoOnce a c := by
  rcases h1 with ⟨s1, t1⟩ | ⟨s1, t1, u1⟩
  · rcases h2 with ⟨s2, t2⟩ | ⟨s2, t2, u2⟩
    · exact .inl ⟨s2.trans s1, t2.trans t1⟩
    · exact .inr ⟨by rw [← s1]; exact s2, t2, by rw [← t1]; exact u2⟩
  · rcases h2 with ⟨s2, t2⟩ | ⟨s2, _⟩
    · exact .inr ⟨s1, s2.trans t1, by rw [t2]; exact u1⟩
    · rw [t1] at s2; simp at s2

/-- From `w` to `w'` the trace only grew, and not by the line `"fuel"`; the I/O decision is either
untouched (then so are the transports) or it has been consumed, by one I/O call. -/
structure Rel (w w' : World) : Prop where
  quiet : ∃ new, w'.out = new ++ w.out ∧ ∀ l ∈ new, l ≠ "fuel"
  io : (w'.slot = w.slot ∧ w'.nets = w.nets) ∨ (w.slot.isSome = true ∧ w'.slot = none ∧ OneIo w.nets w'.nets)

theorem Rel.refl (w : World) : Rel w w := ⟨Grew.refl w, .inl ⟨rfl, rfl⟩⟩

theorem Rel.trans {a b c : World} (h1 : Rel a b) (h2 : Rel b c) : Rel a c :=
  ⟨Grew.trans h1.quiet h2.quiet, IoOnce.trans h1.io h2.io⟩

theorem Rel.slot_none {w r : World} (h : Rel w r) (hs : w.slot = none) : r.slot = none := by
  rcases h.io with ⟨a, _⟩ | ⟨a, _⟩
  · rw [a, hs]
  · rw [hs] at a; simp at a

theorem Rel.slot_some {w r : World} (h : Rel w r) (hs : r.slot.isSome = true) : w.slot.isSome = true := by
  rcases h.io with ⟨a, _⟩ | ⟨a, _⟩
  · rw [← a]; exact hs
  · exact a

theorem Rel.finish {w a : World} (h : Rel w a) (line : String) : Rel w (a.finish line) :=
  ⟨Grew.finish ne_fuel_of_space h.quiet line, h.io⟩

theorem Rel.finishErr {w a : World} (h : Rel w a) (op : String) (e : Err) : Rel w (a.finishErr op e) :=
  ⟨Grew.finishErr ne_fuel_of_space h.quiet op e, h.io⟩

theorem Rel.finishOp {w a : World} (h : Rel w a) (name : String) (op : Op) : Rel w (a.finishOp name op) :=
  ⟨Grew.finishOp ne_fuel_of_space h.quiet name op, h.io⟩

theorem Rel.deliver {w a : World} (h : Rel w a) (name : String) (len : Nat) : Rel w (a.deliver name len) := by
  refine ⟨Grew.deliver ne_fuel_of_space h.quiet name len, ?_⟩
  obtain ⟨ls, _, e⟩ := deliver_eq a name len
  rw [e]
  exact h.io

/-- What the relations between worlds look at besides the session: trace, I/O decision, transports,
self-wake counter and clock. -/
def obs (w : World) : List String × Option Nat × List Net × Nat × Nat := (w.out, w.slot, w.nets, w.wakes, w.now)

/-- What the synchronous code between two calls does to what `obs` shows of the world: every new trace
line contains a blank, the I/O decision is used at most once, and counter and clock stay. -/
structure Sync (w a : World) : Prop where
  lines : Grew (fun l => ' ' ∈ l.toList) w a
  io : IoOnce w a
  wakes : a.wakes = w.wakes
  now : a.now = w.now

theorem Sync.rel {w a : World} (h : Sync w a) : Rel w a := ⟨h.lines.mono ne_fuel_of_space, h.io⟩

theorem Sync.refl (w : World) : Sync w w := ⟨Grew.refl w, .inl ⟨rfl, rfl⟩, rfl, rfl⟩

theorem Sync.of_obs {w w' a a' : World} (h : Sync w a) (e : obs a' = obs a := by rfl) (e' : obs w' = obs w := by rfl) :
    Sync w' a' := by
  simp only [obs, Prod.mk.injEq] at e e'
  obtain ⟨ho, hs, hn, hw, ht⟩ := e
  obtain ⟨ho', hs', hn', hw', ht'⟩ := e'
  exact ⟨h.lines.of_eq ho' ho, by unfold IoOnce; rw [hs, hn, hs', hn']; exact h.io, by rw [hw, hw']; exact h.wakes,
    by rw [ht, ht']; exact h.now⟩

/-- What any I/O call does: it is `Sync` (one line, with a blank in it), the session is untouched, and the
decision is gone afterwards (it was consumed, or there was none). -/
structure IoStep (w w1 : World) : Prop extends Sync w w1 where
  sess : w1.sess = w.sess
  slot : w1.slot = none

/-- What any I/O call does: the session and the wake counter are untouched, the decision is gone
afterwards (it was consumed, or there was none). -/
structure IoFacts (w w1 : World) : Prop where
  sess : w1.sess = w.sess
  wakes : w1.wakes = w.wakes
  slot : w1.slot = none
  rel : Rel w w1

theorem _root_.Minimq.IoCall.step {c : Char} {w w1 : World} {l : String} (h : IoCall c w w1 l) : IoStep w w1 := by
  refine ⟨⟨⟨[l], h.out, fun x hx => by rw [List.mem_singleton.mp hx]; exact h.blank⟩, ?_, h.wakes, h.now⟩, h.sess, h.slot⟩
  rcases h.nets with ⟨h1, h2⟩ | ⟨h1, h2⟩
  · exact .inl ⟨h.slot.trans h1.symm, h2⟩
  · exact .inr ⟨h1, h.slot, h2⟩

/-- A result other than `pending` means that there was a decision. -/
theorem slot_of_not_pending {α : Type} {w : World} {r p : α} (hp : w.slot = none → r = p) (hr : r ≠ p) :
    w.slot.isSome = true := Option.isSome_iff_ne_none.mpr fun hs => hr (hp hs)

theorem ioWrite_facts {w w1 : World} {bs : Bytes} {r : WriteRes} (h : w.ioWrite bs = (w1, r)) :
    IoStep w w1 ∧ (r ≠ .pending → w.slot.isSome = true) := by
  obtain ⟨l, hc⟩ := ioWrite_call h
  exact ⟨hc.step, slot_of_not_pending fun hs => by rw [ioWrite_none hs] at h; cases h; rfl⟩

theorem ioFlush_facts {w w1 : World} {r : FlushRes} (h : w.ioFlush = (w1, r)) :
    IoStep w w1 ∧ (r ≠ .pending → w.slot.isSome = true) := by
  obtain ⟨l, hc⟩ := ioFlush_call h
  exact ⟨hc.step, slot_of_not_pending fun hs => by rw [ioFlush_none hs] at h; cases h; rfl⟩

theorem ioRead_facts {w w1 : World} {n : Nat} {r : ReadRes} (h : w.ioRead n = (w1, r)) :
    IoStep w w1 ∧ (r ≠ .pending → w.slot.isSome = true) := by
  obtain ⟨l, hc⟩ := ioRead_call h
  exact ⟨hc.step, slot_of_not_pending fun hs => by rw [ioRead_none hs] at h; cases h; rfl⟩

/-- A step that neither does I/O nor touches the receive buffer. -/
structure Pure (w w1 : World) : Prop where
  reader : w1.sess.reader = w.sess.reader
  slot : w1.slot = w.slot
  wakes : w1.wakes = w.wakes
  out : w1.out = w.out
  nets : w1.nets = w.nets

theorem Pure.wt {w w1 : World} (h : Pure w w1) : wt w1 = wt w := by
  unfold Fuel.wt; rw [h.reader, h.slot, h.wakes]

theorem Pure.sess (w : World) (s : Session) (h : s.reader = w.sess.reader) : Pure w { w with sess := s } :=
  ⟨h, rfl, rfl, rfl, rfl⟩

@[simp] theorem encode_reader {ε} (s : Session) (enc : Nat → (Nat → Nat → Bytes) → Except ε (Nat × Bytes)) :
    (s.encode enc).1.reader = s.reader := rfl
@[simp] theorem alloc_reader (s : Session) : s.alloc.1.reader = s.reader := rfl
@[simp] theorem setWritten_reader (s : Session) (pkt : Flushed) (a c : Nat) : (s.setWritten pkt a c).reader = s.reader := Minimq.setWritten_reader s pkt a c
@[simp] theorem completeFlush_reader (s : Session) (pkt : Flushed) (now : Nat) : (s.completeFlush pkt now).reader = s.reader := Minimq.completeFlush_reader s pkt now
@[simp] theorem handle_reader (s : Session) (p : Recv) : (s.handle p).1.reader = s.reader := rfl

theorem obs_discFail (w : World) (ctx : StepCtx) : obs (w.discFail ctx) = obs w := by
  rcases discFail_cases w ctx with ⟨h, _⟩ | ⟨h, _⟩ <;> rw [h] <;> rfl

theorem obs_failStep (w : World) (ctx : StepCtx) (s : Outbound.Step) : obs (w.failStep ctx s) = obs w := by
  rcases failStep_cases w ctx s with h | h <;> rw [h] <;> rfl

theorem obs_discDone (w : World) (k : Nat) : obs (w.discDone k) = obs w := by
  rcases discDone_cases w k with ⟨h, _⟩ | ⟨h, _⟩ <;> rw [h] <;> rfl

theorem Sync.handleDisconnect {w a : World} (h : Sync w a) : Sync w a.handleDisconnect := h.of_obs

theorem Sync.discFail {w a : World} (h : Sync w a) (ctx : StepCtx) : Sync w (a.discFail ctx) :=
  h.of_obs (obs_discFail a ctx)

theorem cls_empty (r : Reader) (l : Bytes) :
    ({ r with data := [], packetLength := none, last := l } : Reader).cls = 0 := by
  simp only [Reader.cls, Reader.packetAvailable, Reader.receiveWindow, Reader.probe, Reader.readBytes,
    Option.isNone_none, List.length_nil, Nat.zero_le, if_true]
  split
  · simp at *
  · split
    · rename_i h; by_cases hc : 0 + 1 ≤ r.cap <;> simp [hc] at h
    · rfl

theorem takePkt_cls (s : Session) (h : s.reader.packetAvailable = true) : s.takePkt.1.reader.cls = 0 := by
  cases hp : s.reader.packetLength with
  | none => rw [packetAvailable_false_of_none hp] at h; cases h
  | some l => simp only [Session.takePkt, takePacket_some hp]; exact cls_empty _ _

theorem cls_of_available {r : Reader} (h : r.packetAvailable = true) : r.cls = 1 := by
  simp [Reader.cls, h]

theorem available_of_cls_zero {r : Reader} (h : r.cls = 0) : r.packetAvailable = false := by
  cases hp : r.packetAvailable with
  | false => rfl
  | true => rw [cls_of_available hp] at h; omega

theorem cls_of_window_eq {r r1 : Reader} {n : Nat} (hpa : r.packetAvailable = false)
    (h : r.receiveWindow = some (r1, n)) : r.cls = if n = 0 then 2 else 0 := by
  unfold Reader.cls
  simp only [hpa, Bool.false_eq_true, if_false, h]
  cases n <;> simp

/-- What `receive_buffer` tells about the buffer: an empty window means the packet is complete;
a non-empty window means that it is not, and asking again gives the same answer. -/
theorem window_facts {r r1 : Reader} {n : Nat} (h : r.receiveWindow = some (r1, n)) :
    (n = 0 → r1.packetAvailable = true) ∧ (n ≠ 0 → r1.cls = 0) ∧
    (r.packetAvailable = false → r.cls = if n = 0 then 2 else 0) := by
  have ha := receiveWindow_available h
  refine ⟨fun hn => by simp [ha, hn], fun hn => ?_, fun hpa => cls_of_window_eq hpa h⟩
  rw [cls_of_window_eq (by simp [ha, hn]) (receiveWindow_probed h), if_neg hn]

theorem _root_.Minimq.Probed_of_session_window {s s1 : Session} {n : Nat} (hw : s.window = some (s1, n)) (hn : n ≠ 0) :
    s1.reader.Probed := by
  obtain ⟨rd, hr, rfl⟩ := Session.window_some hw
  exact ⟨n, hn, receiveWindow_probed hr⟩

theorem session_window_facts {s s1 : Session} {n : Nat} (h : s.window = some (s1, n)) :
    (n = 0 → s1.reader.packetAvailable = true) ∧ (n ≠ 0 → s1.reader.cls = 0) ∧
    (s.reader.packetAvailable = false → s.reader.cls = if n = 0 then 2 else 0) := by
  obtain ⟨rd, hw, rfl⟩ := Session.window_some h
  exact window_facts hw

/-! ### The step the scheduler hands out is never a no-op -/

theorem prepareStep_not_done (w : World) (s : Outbound.Step) (h : s.state ≠ .sent) :
    isDone (prepareStep w s) = false := by
  cases hp : prepareStep w s with
  | done => exact absurd ((prepareStep_spec w s).1 hp) h
  | _ => rfl

theorem nextStep_not_done (w : World) (o : Outbound) (s : Outbound.Step) (h : o.nextStep = some s) :
    isDone (prepareStep w s) = false := prepareStep_not_done w s (nextStep_not_sent o s h)

/-- `service(now)`: the keep-alive timeout has expired. -/
def timedOut (w : World) : Bool :=
  match w.sess.rt.pingTimeout with
  | some d => decide (w.now ≥ d)
  | none => false

theorem timedOut_false {w : World} (h : ∀ t, w.sess.rt.pingTimeout = some t → w.now < t) : timedOut w = false := by
  unfold timedOut
  cases hp : w.sess.rt.pingTimeout with
  | none => rfl
  | some d => have := h d hp; simp; omega

theorem timedOut_expired {w : World} {t : Nat} (h : w.sess.rt.pingTimeout = some t) (hle : t ≤ w.now) : timedOut w = true := by
  unfold timedOut; rw [h]; simpa using hle

/-- `driveLoop` when no packet is buffered, with the timeout test named. -/
theorem driveLoop_service (m : Nat) (w : World) (outer : Outer) (adv : Bool)
    (hpa : w.sess.reader.packetAvailable = false) :
    driveLoop (m + 1) w outer adv =
      if timedOut w then (w.handleDisconnect).finishErr (outerName outer) .disconnected else
      match w.maybeQueuePingreq w.now with
      | .error e => w.finishErr (outerName outer) e
      | .ok w1 =>
        match w1.sess.data.outbound.nextStep with
        | none => driveAfterService m w1 outer adv
        | some step => performStep m w1 (.drive adv outer) step w.now := by
  rw [driveLoop]; simp only [hpa, Bool.false_eq_true, if_false]; rfl

end Fuel
end Minimq
