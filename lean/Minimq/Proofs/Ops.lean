import Minimq.Directive
import Minimq.Proofs.Logic
/-
Small facts about the operation machines that several proof and property files use: what the
small helpers of `Minimq/Ops.lean` do field by field, what `perform_outbound_step` prepares for a step by
the step's send state (`prepareStep_sent`, `_flush`, `_write`; read off the result: `prepareStep_spec`),
the reader under the session primitives, and `maybe_queue_pingreq` as an equation in the condition under
which a PINGREQ is wanted (`queuePing_eq`).
-/
namespace Minimq
open Gen World

/-- A dead handle: a connection exists, it is not live, no operation is suspended. -/
def World.dead (w : World) : Prop := (∃ c, w.conn = some c ∧ c.live = false) ∧ w.fut = none

theorem dead_live_false {w : World} (h : w.dead) : w.live = false := by
  obtain ⟨⟨c, hc, hl⟩, _⟩ := h
  simp [World.live, hc, hl]

@[simp] theorem finish_conn (w : World) (l : String) : (w.finish l).conn = w.conn := rfl
@[simp] theorem finish_nets (w : World) (l : String) : (w.finish l).nets = w.nets := rfl
@[simp] theorem finish_sess (w : World) (l : String) : (w.finish l).sess = w.sess := rfl
@[simp] theorem finish_fut (w : World) (l : String) : (w.finish l).fut = none := rfl
@[simp] theorem finishErr_conn (w : World) (o : String) (e : Err) : (w.finishErr o e).conn = w.conn := rfl
@[simp] theorem finishErr_nets (w : World) (o : String) (e : Err) : (w.finishErr o e).nets = w.nets := rfl
@[simp] theorem finishErr_sess (w : World) (o : String) (e : Err) : (w.finishErr o e).sess = w.sess := rfl
@[simp] theorem finishErr_fut (w : World) (o : String) (e : Err) : (w.finishErr o e).fut = none := rfl
@[simp] theorem finishErr_lastRes (w : World) (o : String) (e : Err) : (w.finishErr o e).lastRes = some (.error e) := rfl
@[simp] theorem finish_lastRes (w : World) (l : String) : (w.finish l).lastRes = some (.ok ()) := rfl

/-- `discFail` is the identity except in the flush loop that precedes DISCONNECT. -/
theorem discFail_cases (w : World) (ctx : StepCtx) :
    (w.discFail ctx = w ∧ ∀ d, ctx ≠ .flush (.discPre d)) ∨
    (w.discFail ctx = w.handleDisconnect ∧ ∃ d, ctx = .flush (.discPre d)) := by
  unfold World.discFail
  split
  · exact .inr ⟨rfl, _, rfl⟩
  · rename_i hne; exact .inl ⟨rfl, fun d hd => hne d hd⟩
theorem discFail_ind {P : World → Prop} {w : World} (ctx : StepCtx) (h : P w) (hd : P w.handleDisconnect) :
    P (w.discFail ctx) := by
  rcases discFail_cases w ctx with ⟨e, _⟩ | ⟨e, _⟩ <;> rw [e] <;> assumption
@[simp] theorem discFail_drive (w : World) (a : Bool) (o : Outer) : w.discFail (.drive a o) = w := rfl
@[simp] theorem discFail_discPre (w : World) (d : Disconnect) :
    w.discFail (.flush (.discPre d)) = w.handleDisconnect := rfl
@[simp] theorem discFail_post (w : World) (n : String) (op : Op) : w.discFail (.flush (.post n op)) = w := rfl
@[simp] theorem discFail_publishPre (w : World) (r) : w.discFail (.flush (.publishPre r)) = w := rfl
@[simp] theorem discFail_subPre (w : World) (r) : w.discFail (.flush (.subPre r)) = w := rfl
@[simp] theorem discFail_unsubPre (w : World) (r) : w.discFail (.flush (.unsubPre r)) = w := rfl
@[simp] theorem discFail_nets (w : World) (ctx : StepCtx) : (w.discFail ctx).nets = w.nets := by
  rcases discFail_cases w ctx with ⟨h, _⟩ | ⟨h, _⟩ <;> rw [h] <;> rfl
@[simp] theorem discFail_wakes (w : World) (ctx : StepCtx) : (w.discFail ctx).wakes = w.wakes := by
  rcases discFail_cases w ctx with ⟨h, _⟩ | ⟨h, _⟩ <;> rw [h] <;> rfl
@[simp] theorem discFail_out (w : World) (ctx : StepCtx) : (w.discFail ctx).out = w.out := by
  rcases discFail_cases w ctx with ⟨h, _⟩ | ⟨h, _⟩ <;> rw [h] <;> rfl
@[simp] theorem discFail_now (w : World) (ctx : StepCtx) : (w.discFail ctx).now = w.now := by
  rcases discFail_cases w ctx with ⟨h, _⟩ | ⟨h, _⟩ <;> rw [h] <;> rfl
@[simp] theorem discFail_slot (w : World) (ctx : StepCtx) : (w.discFail ctx).slot = w.slot := by
  rcases discFail_cases w ctx with ⟨h, _⟩ | ⟨h, _⟩ <;> rw [h] <;> rfl
@[simp] theorem discFail_fut (w : World) (ctx : StepCtx) : (w.discFail ctx).fut = w.fut := by
  rcases discFail_cases w ctx with ⟨h, _⟩ | ⟨h, _⟩ <;> rw [h] <;> rfl

theorem failStep_cases (w : World) (ctx : StepCtx) (step : Outbound.Step) :
    w.failStep ctx step = w ∨ w.failStep ctx step = w.handleDisconnect := by
  cases step with
  | retained id off len st =>
    show w.discFail ctx = w ∨ w.discFail ctx = w.handleDisconnect
    rcases discFail_cases w ctx with ⟨e, _⟩ | ⟨e, _⟩
    · exact .inl e
    · exact .inr e
  | control a st => exact .inr rfl
  | release id rc st => exact .inr rfl
theorem failStep_ind {P : World → Prop} {w : World} (ctx : StepCtx) (step : Outbound.Step) (h : P w)
    (hd : P w.handleDisconnect) : P (w.failStep ctx step) := by
  rcases failStep_cases w ctx step with e | e <;> rw [e] <;> assumption
@[simp] theorem failStep_retained (w : World) (ctx : StepCtx) (id off len : Nat) (st : SendState) :
    w.failStep ctx (.retained id off len st) = w.discFail ctx := rfl
@[simp] theorem failStep_control (w : World) (ctx : StepCtx) (a : ControlAction) (st : SendState) :
    w.failStep ctx (.control a st) = w.handleDisconnect := rfl
@[simp] theorem failStep_release (w : World) (ctx : StepCtx) (id rc : Nat) (st : SendState) :
    w.failStep ctx (.release id rc st) = w.handleDisconnect := rfl
@[simp] theorem failStep_wakes (w : World) (ctx : StepCtx) (s : Outbound.Step) : (w.failStep ctx s).wakes = w.wakes := by
  rcases failStep_cases w ctx s with h | h <;> rw [h] <;> rfl
@[simp] theorem failStep_out (w : World) (ctx : StepCtx) (s : Outbound.Step) : (w.failStep ctx s).out = w.out := by
  rcases failStep_cases w ctx s with h | h <;> rw [h] <;> rfl
@[simp] theorem failStep_nets (w : World) (ctx : StepCtx) (s : Outbound.Step) : (w.failStep ctx s).nets = w.nets := by
  rcases failStep_cases w ctx s with h | h <;> rw [h] <;> rfl
@[simp] theorem failStep_fut (w : World) (ctx : StepCtx) (s : Outbound.Step) : (w.failStep ctx s).fut = w.fut := by
  rcases failStep_cases w ctx s with h | h <;> rw [h] <;> rfl
@[simp] theorem failStep_slot (w : World) (ctx : StepCtx) (s : Outbound.Step) : (w.failStep ctx s).slot = w.slot := by
  rcases failStep_cases w ctx s with h | h <;> rw [h] <;> rfl

@[simp] theorem discDone_zero (w : World) : w.discDone 0 = w := rfl
@[simp] theorem discDone_one (w : World) : w.discDone 1 = w := rfl
@[simp] theorem discDone_two (w : World) : w.discDone 2 = w.handleDisconnect := rfl
theorem discDone_cases (w : World) (which : Nat) :
    (w.discDone which = w ∧ (which = 0 ∨ which = 1)) ∨
    (w.discDone which = w.handleDisconnect ∧ which ≠ 0 ∧ which ≠ 1) := by
  unfold World.discDone
  split
  · exact .inl ⟨rfl, .inl ‹_›⟩
  · split
    · exact .inl ⟨rfl, .inr ‹_›⟩
    · exact .inr ⟨rfl, ‹_›, ‹_›⟩
theorem discDone_ind {P : World → Prop} {w : World} (which : Nat) (h : P w) (hd : P w.handleDisconnect) :
    P (w.discDone which) := by
  rcases discDone_cases w which with ⟨e, _⟩ | ⟨e, _⟩ <;> rw [e] <;> assumption
@[simp] theorem discDone_wakes (w : World) (k : Nat) : (w.discDone k).wakes = w.wakes := by
  rcases discDone_cases w k with ⟨h, _⟩ | ⟨h, _⟩ <;> rw [h] <;> rfl
@[simp] theorem discDone_out (w : World) (k : Nat) : (w.discDone k).out = w.out := by
  rcases discDone_cases w k with ⟨h, _⟩ | ⟨h, _⟩ <;> rw [h] <;> rfl
@[simp] theorem discDone_slot (w : World) (k : Nat) : (w.discDone k).slot = w.slot := by
  rcases discDone_cases w k with ⟨h, _⟩ | ⟨h, _⟩ <;> rw [h] <;> rfl
@[simp] theorem discDone_nets (w : World) (k : Nat) : (w.discDone k).nets = w.nets := by
  rcases discDone_cases w k with ⟨h, _⟩ | ⟨h, _⟩ <;> rw [h] <;> rfl
@[simp] theorem discDone_fut (w : World) (k : Nat) : (w.discDone k).fut = w.fut := by
  rcases discDone_cases w k with ⟨h, _⟩ | ⟨h, _⟩ <;> rw [h] <;> rfl

theorem driveEnter_dead (w : World) (o : Outer) (hl : w.live = false) :
    driveEnter pollFuel w o = w.finishErr (outerName o) .disconnected := by
  -- `pollFuel` = 4000 as a successor, for `driveEnter` to unfold
  show driveEnter (3999 + 1) w o = _
  simp [driveEnter, hl]

/-- `receive_buffer` fails (bad remaining length, packet larger than the buffer): the wait loop of `poll()` /
`recv()` and the handshake end the connection with `Peer(InvalidPacket)`. -/
theorem doWaitRead_malformed (fuel : Nat) (w : World) (outer : Outer) (d : Option Nat) (y : Bool)
    (ha : w.sess.reader.packetAvailable = false) (hw : w.sess.reader.receiveWindow = none) :
    doWaitRead (fuel + 1) w outer d y = (w.handleDisconnect).finishErr (outerName outer) .peerInvalid := by
  simp [doWaitRead, ha, Session.window, hw]

theorem doConnRead_malformed (fuel : Nat) (w : World)
    (ha : w.sess.reader.packetAvailable = false) (hw : w.sess.reader.receiveWindow = none) :
    doConnRead (fuel + 1) w = (w.handleDisconnect).finishErr "connect" .peerInvalid := by
  simp [doConnRead, ha, Session.window, hw]

theorem live_of_conn {R W : World} (h : R.conn = W.conn) : R.live = W.live := by
  unfold World.live; rw [h]

@[simp] theorem handleDisconnect_live (w : World) : (w.handleDisconnect).live = false := by
  unfold World.handleDisconnect World.live
  cases w.conn <;> simp

@[simp] theorem finishErr_live (w : World) (o : String) (e : Err) : (w.finishErr o e).live = w.live := rfl
@[simp] theorem finish_live (w : World) (l : String) : (w.finish l).live = w.live := rfl

/-- Which queue entry a step refers to, as `set_written` / `complete_flush` name it. -/
def Outbound.Step.flushed : Outbound.Step → Flushed
  | .control a _ => .control a
  | .release id _ _ => .release id
  | .retained id _ _ _ => .retained id

/-- The bytes `perform_outbound_step` writes for a step: acknowledgements, PINGREQ and PUBREL are
encoded afresh each time, a retained packet is read from the arena. -/
def Outbound.StepBytes (o : Outbound) : Outbound.Step → Bytes → Prop
  | .control a _, bs => encodeControl a = .ok bs
  | .release id rc _, bs => encodePubrel id rc = .ok bs
  | .retained _ off len _, bs => bs = slice o.buf off len ∧ bs.length = len

theorem prepareStep_sent (w : World) {step : Outbound.Step} (h : step.state = .sent) : prepareStep w step = .done := by
  cases step <;> cases h <;> rfl

theorem prepareStep_flush (w : World) {step : Outbound.Step} (h : step.state = .flush) :
    prepareStep w step = .flush step.flushed := by
  cases step <;> cases h <;> rfl

theorem prepareStep_retained_write (w : World) (id off len n : Nat) :
    prepareStep w (.retained id off len (.write n)) =
      if w.sess.rt.packetTooLarge len then .fail .packetTooLarge
      else .write (.retained id) (w.sess.data.outbound.retainedPacket off len) n len := rfl

theorem sized_ok (rt : Runtime) (pkt : Flushed) (wr : Nat) {enc : Except SerErr Bytes} {bs : Bytes} (he : enc = .ok bs)
    (hsz : rt.packetTooLarge bs.length = false) :
    (match enc with
      | .error e => Prepared.fail (Err.ofSer e)
      | .ok bs => if rt.packetTooLarge bs.length then .fail .packetTooLarge else .write pkt bs wr bs.length) =
      .write pkt bs wr bs.length := by
  subst he; exact if_neg (by rw [hsz]; nofun)

theorem prepareStep_write (w : World) {step : Outbound.Step} {n : Nat} {bytes : Bytes} (h : step.state = .write n)
    (hb : w.sess.data.outbound.StepBytes step bytes) (hsz : w.sess.rt.packetTooLarge bytes.length = false) :
    prepareStep w step = .write step.flushed bytes n bytes.length := by
  cases step with
  | control a st => cases h; exact sized_ok _ _ _ hb hsz
  | release id rc st => cases h; exact sized_ok _ _ _ hb hsz
  | retained id off len st =>
    cases h
    obtain ⟨rfl, hl⟩ := hb
    rw [hl] at hsz
    rw [prepareStep_retained_write, if_neg (by rw [hsz]; nofun), hl]; rfl

/-- The size check `perform_outbound_step` makes on a freshly encoded packet: a failure, or the write of
that packet. -/
theorem sized_spec (rt : Runtime) (pkt : Flushed) (wr : Nat) (enc : Except SerErr Bytes) {r : Prepared}
    (hr : (match enc with
      | .error e => Prepared.fail (Err.ofSer e)
      | .ok bs => if rt.packetTooLarge bs.length then .fail .packetTooLarge else .write pkt bs wr bs.length) = r) :
    r ≠ .done ∧ (∀ p, r ≠ .flush p) ∧ (∀ p bytes wr' len, r = .write p bytes wr' len →
      p = pkt ∧ wr' = wr ∧ enc = .ok bytes ∧ len = bytes.length ∧ rt.packetTooLarge len = false) ∧
    ∀ e, r = .fail e → e = .packetTooLarge ∨ ∃ se, e = Err.ofSer se := by
  subst hr
  cases enc with
  | error e => exact ⟨nofun, nofun, nofun, fun _ h => by cases h; exact .inr ⟨e, rfl⟩⟩
  | ok bs =>
    dsimp only
    by_cases hb : rt.packetTooLarge bs.length = true
    · rw [if_pos hb]; exact ⟨nofun, nofun, nofun, fun _ h => by cases h; exact .inl rfl⟩
    · rw [if_neg hb]
      exact ⟨nofun, nofun, fun _ _ _ _ h => by cases h; exact ⟨rfl, rfl, rfl, rfl, by simpa using hb⟩, nofun⟩

/-- What `perform_outbound_step` finds for an entry, read off its result: the entry's send state, and
the only errors are an encoder's and `PacketTooLarge`. -/
theorem prepareStep_spec (w : World) (step : Outbound.Step) :
    (prepareStep w step = .done → step.state = .sent) ∧
    (∀ pkt, prepareStep w step = .flush pkt → pkt = step.flushed ∧ step.state = .flush) ∧
    (∀ pkt bytes wr len, prepareStep w step = .write pkt bytes wr len →
      pkt = step.flushed ∧ step.state = .write wr ∧ w.sess.rt.packetTooLarge len = false ∧
      match step with
      | .control a _ => encodeControl a = .ok bytes ∧ len = bytes.length
      | .release id rc _ => encodePubrel id rc = .ok bytes ∧ len = bytes.length
      | .retained _ off l _ => bytes = w.sess.data.outbound.retainedPacket off l ∧ len = l) ∧
    ∀ e, prepareStep w step = .fail e → e = .packetTooLarge ∨ ∃ se, e = Err.ofSer se := by
  cases hst : step.state with
  | sent => rw [prepareStep_sent w hst]; exact ⟨fun _ => rfl, nofun, nofun, nofun⟩
  | flush => rw [prepareStep_flush w hst]; exact ⟨nofun, fun _ h => by cases h; exact ⟨rfl, rfl⟩, nofun, nofun⟩
  | write wr =>
    cases step with
    | control a st =>
      cases hst
      obtain ⟨h1, h2, h3, h4⟩ := sized_spec w.sess.rt (.control a) wr (encodeControl a) (r := prepareStep w (.control a (.write wr))) rfl
      exact ⟨fun h => absurd h h1, fun p h => absurd h (h2 p), fun _ _ _ _ h => by
        obtain ⟨rfl, rfl, e3, e4, e5⟩ := h3 _ _ _ _ h; exact ⟨rfl, rfl, e5, e3, e4⟩, h4⟩
    | release id rc st =>
      cases hst
      obtain ⟨h1, h2, h3, h4⟩ := sized_spec w.sess.rt (.release id) wr (encodePubrel id rc) (r := prepareStep w (.release id rc (.write wr))) rfl
      exact ⟨fun h => absurd h h1, fun p h => absurd h (h2 p), fun _ _ _ _ h => by
        obtain ⟨rfl, rfl, e3, e4, e5⟩ := h3 _ _ _ _ h; exact ⟨rfl, rfl, e5, e3, e4⟩, h4⟩
    | retained id off len st =>
      cases hst
      rw [prepareStep_retained_write]
      by_cases hb : w.sess.rt.packetTooLarge len = true
      · rw [if_pos hb]; exact ⟨nofun, nofun, nofun, fun _ h => by cases h; exact .inl rfl⟩
      · rw [if_neg hb]
        exact ⟨nofun, nofun, fun _ _ _ _ h => by cases h; exact ⟨rfl, rfl, by simpa using hb, rfl, rfl⟩, nofun⟩

theorem World.conn_of_live {w : World} (h : w.live = true) : w.conn.isSome = true := by
  unfold World.live at h
  cases hc : w.conn with
  | none => rw [hc] at h; cases h
  | some c => rfl

theorem cancelFut_fut' (w : World) : w.cancelFut.fut = none := by
  unfold World.cancelFut
  split
  · rfl
  · rename_i h; simpa using h

theorem cancelFut_slot (w : World) : w.cancelFut.slot = w.slot := by
  unfold World.cancelFut; split <;> rfl

theorem dropConn_none (w : World) : w.dropConn.fut = none ∧ w.dropConn.conn = none := by
  obtain ⟨sess, conn, nets, fut, now, slot, handles, starved, wakes, lastRes, out, torn, log⟩ := w
  cases fut <;> cases conn <;> exact ⟨rfl, rfl⟩

theorem cancelFut_of_idle {w : World} (hf : w.fut = none) : w.cancelFut = w := by
  unfold World.cancelFut; rw [hf]; rfl

/-! ### `Session.window` hands on what `receive_buffer` returns -/

theorem Session.window_some {s s' : Session} {n : Nat} (h : s.window = some (s', n)) :
    ∃ rd, s.reader.receiveWindow = some (rd, n) ∧ s' = { s with reader := rd } := by
  unfold Session.window at h
  cases hw : s.reader.receiveWindow with
  | none => rw [hw] at h; cases h
  | some x => rw [hw] at h; cases h; exact ⟨_, rfl, rfl⟩

theorem session_window_of {s : Session} {r1 : Reader} {n : Nat} (h : s.reader.receiveWindow = some (r1, n)) :
    s.window = some ({ s with reader := r1 }, n) := by
  unfold Session.window; rw [h]

theorem setWritten_reader (s : Session) (pkt : Flushed) (a c : Nat) : (s.setWritten pkt a c).reader = s.reader := rfl
theorem completeFlush_reader (s : Session) (pkt : Flushed) (t : Nat) : (s.completeFlush pkt t).reader = s.reader := rfl

theorem curNet_congr {R W : World} (h : R.nets = W.nets) : R.curNet = W.curNet := by
  unfold World.curNet; rw [h]

theorem curNet_of_nets {W : World} {ns : List Net} {n : Net} (h : W.nets = ns ++ [n]) : W.curNet = n := by
  unfold World.curNet; rw [h]; simp

def Session.pingWanted (s : Session) (now : Nat) : Prop :=
  s.rt.pingTimeout = none ∧ (∃ np, s.rt.nextPing = some np ∧ np ≤ now) ∧ s.data.outbound.hasPendingPingreq = false

def Session.pingWantedB (s : Session) (now : Nat) : Bool :=
  s.rt.pingTimeout.isNone && (match s.rt.nextPing with
    | some np => decide (now ≥ np)
    | none => false) && !s.data.outbound.hasPendingPingreq

theorem pingWantedB_iff (s : Session) (now : Nat) : s.pingWantedB now = true ↔ s.pingWanted now := by
  unfold Session.pingWantedB Session.pingWanted
  cases s.rt.pingTimeout <;> cases s.rt.nextPing <;> cases s.data.outbound.hasPendingPingreq <;> simp

theorem queuePing_eq (s : Session) (now : Nat) :
    s.queuePing now =
      if s.pingWantedB now then
        match checkSize s.rt (encodeControl ControlAction.pingReq) with
        | .error e => .error e
        | .ok () =>
          match s.data.outbound.queueControl ControlAction.pingReq with
          | none => .error .inflightExhausted
          | some o => .ok (s.setOutbound o)
      else .ok s := rfl

theorem queuePing_not_wanted (s : Session) (now : Nat) (h : ¬ s.pingWanted now) : s.queuePing now = .ok s := by
  rw [queuePing_eq, if_neg fun hb => h ((pingWantedB_iff s now).1 hb)]

/-- Before the PINGREQ time (or with keep-alive off) `maybe_queue_pingreq` does nothing. -/
theorem queuePing_idle (s : Session) (now : Nat) (h : ∀ np, s.rt.nextPing = some np → now < np) :
    s.queuePing now = .ok s :=
  queuePing_not_wanted s now fun ⟨_, ⟨np, hnp, hle⟩, _⟩ => Nat.not_le.2 (h np hnp) hle

theorem Session.queuePing_ok {s s' : Session} {now : Nat} (h : s.queuePing now = .ok s') :
    s' = s ∨ ∃ o, s.data.outbound.queueControl ControlAction.pingReq = some o ∧ s' = s.setOutbound o := by
  rw [queuePing_eq] at h
  split at h
  · cases hc : checkSize s.rt (encodeControl ControlAction.pingReq) with
    | error e => rw [hc] at h; cases h
    | ok u =>
      cases hq : s.data.outbound.queueControl ControlAction.pingReq with
      | none => rw [hc, hq] at h; cases h
      | some o => rw [hc, hq] at h; cases h; exact .inr ⟨o, rfl, rfl⟩
  · cases h; exact .inl rfl

theorem queuePing_reader {s s' : Session} {now : Nat} (h : s.queuePing now = .ok s') : s'.reader = s.reader := by
  rcases Session.queuePing_ok h with rfl | ⟨o, _, rfl⟩ <;> rfl

theorem queuePing_rt {s s' : Session} {now : Nat} (hq : s.queuePing now = .ok s') : s'.rt = s.rt := by
  rcases Session.queuePing_ok hq with rfl | ⟨o, _, rfl⟩ <;> rfl

theorem nextDeadline_of_timeout (r : Runtime) (pt : Nat) (h : r.pingTimeout = some pt) : r.nextDeadline = some pt := by
  unfold Runtime.nextDeadline; rw [h]; cases r.nextPing <;> rfl

theorem nextDeadline_no_timeout (r : Runtime) (h : r.pingTimeout = none) : r.nextDeadline = r.nextPing := by
  unfold Runtime.nextDeadline; rw [h]; cases r.nextPing <;> rfl

theorem maybeQueuePingreq_ok {w w' : World} {now : Nat} (h : w.maybeQueuePingreq now = .ok w') :
    ∃ s', w.sess.queuePing now = .ok s' ∧ w' = { w with sess := s' } := by
  unfold World.maybeQueuePingreq at h
  split at h
  · cases h
  · rename_i s hs
    exact ⟨s, hs, (Except.ok.inj h).symm⟩

theorem maybeQueuePingreq_eq {w : World} {s : Session} (hq : w.sess.queuePing w.now = .ok s) :
    w.maybeQueuePingreq w.now = .ok { w with sess := s } := by
  unfold World.maybeQueuePingreq; rw [hq]

/-- No keep-alive event is due: the next PINGREQ and the ping timeout, if armed, lie in the future. -/
def KaCalm (rt : Runtime) (now : Nat) : Prop :=
  (∀ np, rt.nextPing = some np → now < np) ∧ (∀ pt, rt.pingTimeout = some pt → now < pt)

theorem KaCalm.of_none {rt : Runtime} {now : Nat} (h1 : rt.nextPing = none) (h2 : rt.pingTimeout = none) :
    KaCalm rt now :=
  ⟨fun _ h => (by rw [h1] at h; cases h), fun _ h => (by rw [h2] at h; cases h)⟩

/-- A PINGREQ timer armed at `now` lies in the future: the send interval is positive. -/
theorem KaCalm.of_armed {r : Runtime} {now : Nat} (h1 : r.nextPing = r.keepaliveSendInterval.map (fun i => now + i * 1000))
    (h2 : ∀ pt, r.pingTimeout = some pt → now < pt) : KaCalm r now := by
  refine ⟨fun np hnp => ?_, h2⟩
  rw [h1] at hnp
  unfold Runtime.keepaliveSendInterval at hnp
  by_cases hka : r.keepaliveMs = 0
  · rw [if_pos hka] at hnp; cases hnp
  · rw [if_neg hka] at hnp
    cases hnp
    -- the interval is positive: at most half of a positive keep-alive is taken off
    have hi : 0 < r.keepaliveMs - min ROUND_TRIP_TIMEOUT_MS (r.keepaliveMs / 2) :=
      Nat.sub_pos_of_lt (Nat.lt_of_le_of_lt (Nat.min_le_right _ _) (Nat.div_lt_self (Nat.pos_of_ne_zero hka) (by decide)))
    exact Nat.lt_add_of_pos_right (Nat.mul_pos hi (by decide))

theorem KaCalm.queuePing {s : Session} {now : Nat} (h : KaCalm s.rt now) : s.queuePing now = .ok s :=
  queuePing_idle s now h.1

theorem KaCalm.deadline {rt : Runtime} {now : Nat} (h : KaCalm rt now) : ∀ d, rt.nextDeadline = some d → now < d := by
  intro d hd
  unfold Runtime.nextDeadline at hd
  cases hn : rt.nextPing <;> cases hp : rt.pingTimeout <;> rw [hn, hp] at hd <;> simp only [Option.some.injEq] at hd
  · cases hd
  · subst hd; exact h.2 _ hp
  · subst hd; exact h.1 _ hn
  · subst hd; exact h.2 _ hp

/-- `complete_flush` re-arms the PINGREQ timer after `now` (by at least a millisecond) and, for a PINGREQ,
the ping timeout a round trip after `now`. -/
theorem KaCalm.completeFlush {s : Session} {now : Nat} (h : KaCalm s.rt now) (pkt : Flushed) :
    KaCalm (s.completeFlush pkt now).rt now := by
  have hrt (r : Runtime) (h0 : ∀ pt, r.pingTimeout = some pt → now < pt) : KaCalm (r.noteOutboundActivity now) now :=
    .of_armed rfl h0
  have hrtt : 0 < ROUND_TRIP_TIMEOUT_MS * 1000 := by decide
  unfold Session.completeFlush
  refine hrt _ fun pt hpt => ?_
  cases pkt with
  | control a =>
    simp only [] at hpt
    split at hpt
    · simp only [Option.some.injEq] at hpt; omega
    · exact h.2 pt hpt
  | release | retained => exact h.2 pt hpt

/-- The session after `take_packet` handed off the packet `pkt`. -/
def Quiesce.took (s : Session) (pkt : Bytes) : Session :=
  { s with reader := { s.reader with data := [], packetLength := none, last := pkt } }

end Minimq
