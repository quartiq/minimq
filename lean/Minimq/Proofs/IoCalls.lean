import Minimq.Proofs.Ops
/-
The three I/O calls (`ioWrite`, `ioFlush`, `ioRead`) and `process_received_packet`, characterised once:
what each I/O call leaves alone, what it prints, what it does to the decision and the transports (`IoCall`: the
clients — liftings, the machine walks, the trace and fuel arguments — take projections), each call's result by
decision, as equations (for the proofs that follow one path), and the ways `process_received_packet` can end
(`PrpOut`, to do `cases` on).
-/
namespace Minimq
open Gen World

/-- What an I/O call does to the world, whatever it returns: it prints one line `l`, which begins with the
tag character `c` and contains a blank; the decision is gone afterwards, and only if there was one may the
current transport have changed — bytes appended to its wire, or taken from the front of what it has to
deliver; `lastIoStarved` may change (nothing is said of its value); nothing else changes. -/
structure IoCall (c : Char) (w w' : World) (l : String) : Prop where
  frame : ({ w' with nets := w.nets, slot := w.slot, lastIoStarved := w.lastIoStarved, out := w.out } : World) = w
  out : w'.out = l :: w.out
  /-- for no panic (`IoCall.clean`, `Proofs/NoPanic.lean`): no I/O line begins with `p` -/
  head : l.toList.head? = some c
  /-- for the trace arguments (`IoCall.step`, `Proofs/Fuel.lean`): a line with a blank is neither of the markers
  `fuel` and `spin` -/
  blank : ' ' ∈ l.toList
  slot : w'.slot = none
  nets : (w.slot = none ∧ w'.nets = w.nets) ∨ (w.slot.isSome = true ∧ (w'.nets = w.nets ∨
    ∃ net', w'.nets = w.nets.dropLast ++ [net'] ∧
      ((net'.rx = (w.nets.getLast?.getD {}).rx ∧ ∃ acc, net'.wire = (w.nets.getLast?.getD {}).wire ++ acc) ∨
       (net'.wire = (w.nets.getLast?.getD {}).wire ∧ ∃ k, net'.rx = (w.nets.getLast?.getD {}).rx.drop k))))

namespace IoCall
variable {c : Char} {w w' : World} {l : String} (h : IoCall c w w' l)
include h

theorem sess : w'.sess = w.sess := (congrArg World.sess h.frame :)
theorem conn : w'.conn = w.conn := (congrArg World.conn h.frame :)
theorem fut : w'.fut = w.fut := (congrArg World.fut h.frame :)
theorem now : w'.now = w.now := (congrArg World.now h.frame :)
theorem wakes : w'.wakes = w.wakes := (congrArg World.wakes h.frame :)
theorem lastRes : w'.lastRes = w.lastRes := (congrArg World.lastRes h.frame :)
theorem log : w'.log = w.log := (congrArg World.log h.frame :)
theorem nets_length (hn : w.nets ≠ []) : w'.nets.length = w.nets.length := by
  rcases h.nets with ⟨_, e⟩ | ⟨_, e | ⟨net', e, _⟩⟩ <;> rw [e]
  have := List.length_pos_iff.mpr hn
  rw [List.length_append, List.length_dropLast, List.length_singleton]; omega
end IoCall

/-- The first character of `a ++ x` is that of `a` if it has one. Rewriting with this computes the first
character of an interpolated string from its leading literal; `simp [toString]` gets there too, by
normalising the whole string. -/
theorem head?_append (a x : String) : (a ++ x).toList.head? = a.toList.head?.or x.toList.head? := by
  rw [String.toList_append, List.head?_append]

theorem blank_append_left (a x : String) (h : ' ' ∈ a.toList) : ' ' ∈ (a ++ x).toList := by
  rw [String.toList_append]; exact List.mem_append_left _ h

theorem IoCall.ite {α : Type} {c : Char} {w : World} {p : Prop} [Decidable p] {a b : World × α}
    (ha : ∃ l, IoCall c w a.1 l) (hb : ∃ l, IoCall c w b.1 l) : ∃ l, IoCall c w (if p then a else b).1 l :=
  ite_ind (P := fun x : World × α => ∃ l, IoCall c w x.1 l) (fun _ => ha) (fun _ => hb)

theorem ioWrite_call {w w' : World} {bs : Bytes} {r : WriteRes} (h : w.ioWrite bs = (w', r)) : ∃ l, IoCall 'w' w w' l := by
  obtain rfl : (w.ioWrite bs).1 = w' := congrArg Prod.fst h
  unfold World.ioWrite
  cases hs : w.slot with
  | none => exact ⟨_, rfl, rfl, by simp only [head?_append]; rfl, blank_append_left _ _ (by decide), hs, .inl ⟨hs, rfl⟩⟩
  | some k =>
    simp only []
    refine IoCall.ite ⟨_, rfl, rfl, by simp only [head?_append]; rfl,
        blank_append_left _ _ (blank_append_left _ _ (blank_append_left _ _ (by decide))), rfl,
        .inr ⟨by rw [hs]; rfl, .inr ⟨_, rfl, .inl ⟨rfl, _, rfl⟩⟩⟩⟩ (IoCall.ite ?_ ?_)
    · exact ⟨_, rfl, rfl, by simp only [head?_append]; rfl, blank_append_left _ _ (by decide), rfl,
        .inr ⟨by rw [hs]; rfl, .inl rfl⟩⟩
    · exact ⟨_, rfl, rfl, by simp only [head?_append]; rfl,
        blank_append_left _ _ (blank_append_left _ _ (blank_append_left _ _ (by decide))), rfl,
        .inr ⟨by rw [hs]; rfl, .inl rfl⟩⟩

theorem ioFlush_call {w w' : World} {r : FlushRes} (h : w.ioFlush = (w', r)) : ∃ l, IoCall 'f' w w' l := by
  obtain rfl : (w.ioFlush).1 = w' := congrArg Prod.fst h
  unfold World.ioFlush
  cases hs : w.slot with
  | none => exact ⟨_, rfl, rfl, by simp only [head?_append]; rfl, blank_append_left _ _ (by decide), hs, .inl ⟨hs, rfl⟩⟩
  | some k =>
    simp only []
    refine IoCall.ite ?_ ?_
    · exact ⟨_, rfl, rfl, by simp only [head?_append]; rfl,
        blank_append_left _ _ (blank_append_left _ _ (blank_append_left _ _ (by decide))), rfl,
        .inr ⟨by rw [hs]; rfl, .inl rfl⟩⟩
    · exact ⟨_, rfl, rfl, by simp only [head?_append]; rfl,
        blank_append_left _ _ (blank_append_left _ _ (blank_append_left _ _ (by decide))), rfl,
        .inr ⟨by rw [hs]; rfl, .inl rfl⟩⟩

theorem ioRead_call {w w' : World} {n : Nat} {r : ReadRes} (h : w.ioRead n = (w', r)) : ∃ l, IoCall 'r' w w' l := by
  obtain rfl : (w.ioRead n).1 = w' := congrArg Prod.fst h
  unfold World.ioRead
  cases hs : w.slot with
  | none => exact ⟨_, rfl, rfl, by simp only [head?_append]; rfl, blank_append_left _ _ (by decide), hs, .inl ⟨hs, rfl⟩⟩
  | some k =>
    simp only []
    refine IoCall.ite (IoCall.ite ?_ ?_) (IoCall.ite ?_ ?_)
    · exact ⟨_, rfl, rfl, by simp only [head?_append]; rfl, blank_append_left _ _ (by decide), rfl,
        .inr ⟨by rw [hs]; rfl, .inl rfl⟩⟩
    · exact ⟨_, rfl, rfl, by simp only [head?_append]; rfl,
        blank_append_left _ _ (blank_append_left _ _ (blank_append_left _ _ (by decide))), rfl,
        .inr ⟨by rw [hs]; rfl, .inr ⟨_, rfl, .inr ⟨rfl, _, rfl⟩⟩⟩⟩
    · exact ⟨_, rfl, rfl, by simp only [head?_append]; rfl, blank_append_left _ _ (by decide), rfl,
        .inr ⟨by rw [hs]; rfl, .inl rfl⟩⟩
    · exact ⟨_, rfl, rfl, by simp only [head?_append]; rfl,
        blank_append_left _ _ (blank_append_left _ _ (blank_append_left _ _ (by decide))), rfl,
        .inr ⟨by rw [hs]; rfl, .inl rfl⟩⟩

/-! ### The three I/O calls by decision

No decision: pending. A decision up to 250: bytes move (a read with nothing to take is starved, which is
pending too). 251: the write accepts nothing, the flush succeeds, the read is at the end of the stream.
From 252: a transport error. -/

/-- The world after an I/O call that leaves the transports alone: the decision (if any) is used up, one line. -/
def World.io (w : World) (l : String) : World := { w with slot := none, lastIoStarved := false, out := l :: w.out }

theorem io_of_none {w : World} (hs : w.slot = none) (l : String) :
    ({ (w.emit l) with lastIoStarved := false } : World) = w.io l := by
  cases w; cases hs; rfl

/-- Bytes a write decision `k` accepts of `len` offered: `250` = all. -/
def wcount (k len : Nat) : Nat := if k = 250 then len else min k len

theorem wcount_bounds {k len : Nat} (hk : 1 ≤ k) (hl : len ≠ 0) : 1 ≤ wcount k len ∧ wcount k len ≤ len := by
  unfold wcount; split <;> omega

/-- The world after a write decision `k` accepted a prefix of `bytes`. -/
def World.wrote (w : World) (k : Nat) (bytes : Bytes) : World :=
  let w1 : World := { w with slot := none, lastIoStarved := false }
  let w2 := w1.setCurNet { w1.curNet with wire := w1.curNet.wire ++ bytes.take (wcount k bytes.length) }
  w2.emit s!"w {w2.netIdx} {hex (bytes.take (wcount k bytes.length))}"

theorem ioWrite_none {w : World} (hs : w.slot = none) (bs : Bytes) : w.ioWrite bs = (w.io s!"wp {w.netIdx}", .pending) := by
  unfold World.ioWrite; rw [hs]; exact congrArg (fun x => (x, WriteRes.pending)) (io_of_none hs _)

theorem ioWrite_ok (w : World) (bytes : Bytes) (k : Nat) (hs : w.slot = some k) (hk : k ≤ 250) :
    w.ioWrite bytes = (w.wrote k bytes, .ok (wcount k bytes.length)) := by
  unfold World.ioWrite
  rw [hs]
  simp only []
  rw [if_pos hk]
  rfl

theorem ioWrite_zero {w : World} (hs : w.slot = some 251) (bs : Bytes) : w.ioWrite bs = (w.io s!"wz {w.netIdx}", .zero) := by
  unfold World.ioWrite; rw [hs]; rfl

theorem ioWrite_err {w : World} {k : Nat} (hs : w.slot = some k) (hk : 252 ≤ k) (bs : Bytes) :
    w.ioWrite bs = (w.io s!"we {w.netIdx} {kindName k}", .err k) := by
  unfold World.ioWrite; rw [hs]; dsimp only; rw [if_neg (by omega), if_neg (by omega)]; rfl

theorem ioFlush_none {w : World} (hs : w.slot = none) : w.ioFlush = (w.io s!"fp {w.netIdx}", .pending) := by
  unfold World.ioFlush; rw [hs]; exact congrArg (fun x => (x, FlushRes.pending)) (io_of_none hs _)

theorem ioFlush_ok {w : World} {k : Nat} (hs : w.slot = some k) (hk : k ≤ 251) :
    w.ioFlush = (w.io s!"f {w.netIdx} ok @{w.now}", .ok) := by
  unfold World.ioFlush; rw [hs]; dsimp only; rw [if_pos hk]; rfl

theorem ioFlush_err {w : World} {k : Nat} (hs : w.slot = some k) (hk : 252 ≤ k) :
    w.ioFlush = (w.io s!"fe {w.netIdx} {kindName k}", .err k) := by
  unfold World.ioFlush; rw [hs]; dsimp only; rw [if_neg (by omega)]; rfl

/-- Number of bytes the read decision `k` obtains: `250` = as much as the window allows. -/
def takeCount (k n len : Nat) : Nat := if k = 250 then min n len else min k (min n len)

theorem takeCount_bounds {k n len : Nat} (hk : 1 ≤ k) (hn : n ≠ 0) (hl : len ≠ 0) :
    1 ≤ takeCount k n len ∧ takeCount k n len ≤ n ∧ takeCount k n len ≤ len := by
  unfold takeCount; split <;> omega

theorem takeCount_nil (k n : Nat) : takeCount k n 0 = 0 := by
  unfold takeCount; split <;> simp

/-- What a successful `read` of `c` bytes does to the world (`ioRead`, the `.ok` branch). -/
def World.gotBytes (w : World) (c : Nat) : World :=
  let w := { w with slot := none }
  let net := w.curNet
  let w := w.setCurNet { net with rx := net.rx.drop c }
  { (w.emit s!"r {w.netIdx} {c}") with lastIoStarved := false }

theorem ioRead_none {w : World} (hs : w.slot = none) (n : Nat) : w.ioRead n = (w.io s!"rp {w.netIdx}", .pending) := by
  unfold World.ioRead; rw [hs]; exact congrArg (fun x => (x, ReadRes.pending)) (io_of_none hs _)

theorem ioRead_ok (w : World) (n k : Nat) (hs : w.slot = some k) (hk : k ≤ 250)
    (hc : takeCount k n w.curNet.rx.length ≠ 0) :
    w.ioRead n = (w.gotBytes (takeCount k n w.curNet.rx.length),
      .ok (w.curNet.rx.take (takeCount k n w.curNet.rx.length))) := by
  unfold World.ioRead
  rw [hs]
  simp only []
  rw [if_pos hk]
  show (if takeCount k n w.curNet.rx.length = 0 then _ else _) = _
  rw [if_neg hc]
  rfl

theorem ioRead_starved {w : World} {k : Nat} (hs : w.slot = some k) (hk : k ≤ 250) {n : Nat}
    (hc : takeCount k n w.curNet.rx.length = 0) :
    w.ioRead n = ({ (w.io s!"rs {w.netIdx}") with lastIoStarved := true }, .pending) := by
  unfold World.ioRead
  rw [hs]
  simp only []
  rw [if_pos hk]
  show (if takeCount k n w.curNet.rx.length = 0 then _ else _) = _
  rw [if_pos hc]
  rfl

theorem ioRead_eof {w : World} (hs : w.slot = some 251) (n : Nat) : w.ioRead n = (w.io s!"rz {w.netIdx}", .eof) := by
  unfold World.ioRead; rw [hs]; rfl

theorem ioRead_err {w : World} {k : Nat} (hs : w.slot = some k) (hk : 252 ≤ k) (n : Nat) :
    w.ioRead n = (w.io s!"re {w.netIdx} {kindName k}", .err k) := by
  unfold World.ioRead; rw [hs]; dsimp only; rw [if_neg (by omega), if_neg (by omega)]; rfl

/-- The errors of `handle_packet` on which `process_received_packet` closes the connection. -/
def Err.closes : Err → Bool
  | .disconnected | .peerInvalid | .packetTooLarge => true
  | _ => false

/-- `process_received_packet` in closed form: nothing without a packet in the reader; otherwise the session
after `take_packet` and `handle_packet`, with `handle_disconnect` on top when the packet does not decode or
the error `closes`; `Ok(true)` hands the packet's length on. -/
theorem processReceivedPacket_eq (w : World) :
    w.processReceivedPacket =
      if !w.sess.reader.packetAvailable then (w, .ok none) else
      match w.sess.takePkt.2 with
      | none => (World.handleDisconnect { w with sess := w.sess.takePkt.1 }, .error .peerInvalid)
      | some (len, pkt) =>
        match (w.sess.takePkt.1.handle pkt).2 with
        | .ok deliver => ({ w with sess := (w.sess.takePkt.1.handle pkt).1 }, .ok (if deliver then some len else none))
        | .error e =>
          (if e.closes then World.handleDisconnect { w with sess := (w.sess.takePkt.1.handle pkt).1 }
            else { w with sess := (w.sess.takePkt.1.handle pkt).1 }, .error e) := by
  unfold World.processReceivedPacket
  refine ite_ind (P := fun x => x = _) (fun h => by rw [if_pos h]) (fun h => ?_)
  rw [if_neg h]
  simp only []
  cases w.sess.takePkt.2 with
  | none => rfl
  | some lp =>
    obtain ⟨len, pkt⟩ := lp
    simp only []
    cases (w.sess.takePkt.1.handle pkt).2 with
    | ok deliver => cases deliver <;> rfl
    | error e => cases e <;> rfl

/-- The ways `process_received_packet` can end: no packet in the reader; a packet that does not decode; a packet
that `handle_packet` accepts, for the application or not; an error on which the connection is closed; an error that
is passed on with the handle as it is. -/
inductive PrpOut (w : World) : World × Except Err (Option Nat) → Prop
  | idle (ha : w.sess.reader.packetAvailable = false) : PrpOut w (w, .ok none)
  | undecodable (ha : w.sess.reader.packetAvailable = true) (ht : w.sess.takePkt.2 = none) :
      PrpOut w (World.handleDisconnect { w with sess := w.sess.takePkt.1 }, .error .peerInvalid)
  | handled (len : Nat) (pkt : Recv) (deliver : Bool) (ha : w.sess.reader.packetAvailable = true)
      (ht : w.sess.takePkt.2 = some (len, pkt)) (hh : (w.sess.takePkt.1.handle pkt).2 = .ok deliver) :
      PrpOut w ({ w with sess := (w.sess.takePkt.1.handle pkt).1 }, .ok (if deliver then some len else none))
  | closed (len : Nat) (pkt : Recv) (e : Err) (ha : w.sess.reader.packetAvailable = true)
      (ht : w.sess.takePkt.2 = some (len, pkt)) (hh : (w.sess.takePkt.1.handle pkt).2 = .error e) (hc : e.closes = true) :
      PrpOut w (World.handleDisconnect { w with sess := (w.sess.takePkt.1.handle pkt).1 }, .error e)
  | passed (len : Nat) (pkt : Recv) (e : Err) (ha : w.sess.reader.packetAvailable = true)
      (ht : w.sess.takePkt.2 = some (len, pkt)) (hh : (w.sess.takePkt.1.handle pkt).2 = .error e) (hc : e.closes = false) :
      PrpOut w ({ w with sess := (w.sess.takePkt.1.handle pkt).1 }, .error e)

theorem prp_out (w : World) : PrpOut w w.processReceivedPacket := by
  rw [processReceivedPacket_eq]
  cases ha : w.sess.reader.packetAvailable with
  | false => exact .idle ha
  | true =>
    simp only [Bool.not_true, Bool.false_eq_true, if_false]
    cases ht : w.sess.takePkt.2 with
    | none => exact .undecodable ha ht
    | some lp =>
      dsimp only
      cases hh : (w.sess.takePkt.1.handle lp.2).2 with
      | ok deliver => exact .handled lp.1 lp.2 deliver ha ht hh
      | error e =>
        cases hc : e.closes <;> simp only [hc, Bool.false_eq_true, if_false, if_true]
        · exact .passed lp.1 lp.2 e ha ht hh hc
        · exact .closed lp.1 lp.2 e ha ht hh hc

/-- To show `P` of the world after `activate`: the CONNACK's properties are rejected and the handle, if any, is
dead, or they are accepted and the handle is live. -/
theorem activate_ind {P : World → Prop} (w : World) (sp : Bool) (block : Bytes)
    (err : ∀ e, (w.sess.activate sp block w.now).2 = .error e →
      P (({ w with sess := (w.sess.activate sp block w.now).1,
                   conn := w.conn.map fun (c : Conn) => { c with live := false } } : World).finishErr "connect" e))
    (ok : (w.sess.activate sp block w.now).2 = .ok () →
      P (({ w with sess := (w.sess.activate sp block w.now).1, conn := some { live := true, resumed := sp } } : World).finish
        s!"ret connect ok {if sp then "reconnected" else "connected"}")) :
    P (World.activate w sp block) := by
  unfold World.activate
  split
  · rename_i s e heq; have := err e (by rw [heq]); rwa [heq] at this
  · rename_i s heq; have := ok (by rw [heq]); rwa [heq] at this

/-- To show `P` of the world after `connect_handshake` has its packet (`w1` is the world after `take_packet`): the
connection is closed on anything but a CONNACK, a CONNACK that refuses ends `connect`, one that accepts goes on
to `activate`. -/
theorem connectGotPacket_ind {P : World → Prop} (w : World)
    (closed : ∀ e, P ((World.handleDisconnect { w with sess := w.sess.takePkt.1 }).finishErr "connect" e))
    (refused : ∀ rc, P (({ w with sess := w.sess.takePkt.1 } : World).finishErr "connect" (.peerRejected rc)))
    (accepted : ∀ sp block, P (World.activate { w with sess := w.sess.takePkt.1 } sp block)) :
    P (World.connectGotPacket w) := by
  unfold World.connectGotPacket
  simp only []
  split
  · exact closed _
  · exact ite_ind (fun _ => refused _) (fun _ => accepted _ _)
  · exact closed _
  · exact closed _

theorem processReceivedPacket_invalid (w : World)
    (ha : w.sess.reader.packetAvailable = true) (hbad : w.sess.takePkt.2 = none) :
    w.processReceivedPacket =
      (({ w with sess := w.sess.takePkt.1 } : World).handleDisconnect, .error .peerInvalid) := by
  rw [processReceivedPacket_eq]
  simp only [ha, Bool.not_true, Bool.false_eq_true, if_false, hbad]

theorem connectGotPacket_invalid (w : World) (hbad : w.sess.takePkt.2 = none) :
    World.connectGotPacket w =
      (({ w with sess := w.sess.takePkt.1 } : World).handleDisconnect).finishErr
        "connect" .peerInvalid := by
  unfold World.connectGotPacket
  cases h : w.sess.takePkt with
  | mk s1 res =>
    rw [h] at hbad
    simp only at hbad
    subst hbad
    rfl

end Minimq
