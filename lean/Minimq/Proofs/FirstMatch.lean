import Minimq.Out
/-
The first element of a list that satisfies a predicate. The queue lookups of `outbound.rs` all act there:
`removeFirst` (`ack_packet`, `ack_release`), `modifyFirst` (`set_written`, `complete_flush`) and `List.find?`
(`next_step`). A list that has such an element splits at it (`first_split`), and each of the three functions
is computed at a split (`removeFirst_hit`, `modifyFirst_hit`, `find?_hit`); in a list with distinct keys every entry
is such a first match (`keyed_split`).
-/
namespace Minimq
open Outbound

theorem first_split {α} {p : α → Bool} {l : List α} (h : l.any p = true) :
    ∃ l₁ a l₂, l = l₁ ++ a :: l₂ ∧ (∀ x ∈ l₁, p x = false) ∧ p a = true := by
  induction l with
  | nil => cases h
  | cons x xs ih =>
    cases hx : p x
    · simp only [List.any_cons, hx, Bool.false_or] at h
      obtain ⟨l₁, a, l₂, rfl, h2, h3⟩ := ih h
      exact ⟨x :: l₁, a, l₂, rfl, List.forall_mem_cons.mpr ⟨hx, h2⟩, h3⟩
    · exact ⟨[], x, xs, rfl, nofun, hx⟩

theorem removeFirst_hit {α} (p : α → Bool) (pre : List α) (e : α) (post : List α)
    (hpre : ∀ x ∈ pre, p x = false) (he : p e = true) : removeFirst p (pre ++ e :: post) = pre ++ post := by
  induction pre with
  | nil => simp [removeFirst, he]
  | cons x xs ih => simp [removeFirst, hpre x (by simp), ih fun y hy => hpre y (by simp [hy])]

theorem modifyFirst_hit {α} (p : α → Bool) (f : α → α) (pre : List α) (e : α) (post : List α)
    (hpre : ∀ x ∈ pre, p x = false) (he : p e = true) :
    modifyFirst p f (pre ++ e :: post) = pre ++ f e :: post := by
  induction pre with
  | nil => simp [modifyFirst, he]
  | cons x xs ih => simp [modifyFirst, hpre x (by simp), ih fun y hy => hpre y (by simp [hy])]

theorem find?_hit {α} (p : α → Bool) (pre : List α) (e : α) (post : List α)
    (hpre : ∀ x ∈ pre, p x = false) (he : p e = true) : (pre ++ e :: post).find? p = some e := by
  induction pre with
  | nil => simp [he]
  | cons x xs ih => simp [hpre x (by simp), ih fun y hy => hpre y (by simp [hy])]

theorem removeFirst_split {α} {p : α → Bool} {l : List α} (h : l.any p = true) :
    ∃ l₁ a l₂, l = l₁ ++ a :: l₂ ∧ (∀ x ∈ l₁, p x = false) ∧ p a = true ∧ removeFirst p l = l₁ ++ l₂ := by
  obtain ⟨l₁, a, l₂, rfl, h1, h2⟩ := first_split h
  exact ⟨l₁, a, l₂, rfl, h1, h2, removeFirst_hit p l₁ a l₂ h1 h2⟩

theorem modifyFirst_split {α} {p : α → Bool} (f : α → α) {l : List α} (h : l.any p = true) :
    ∃ l₁ a l₂, l = l₁ ++ a :: l₂ ∧ (∀ x ∈ l₁, p x = false) ∧ p a = true ∧ modifyFirst p f l = l₁ ++ f a :: l₂ := by
  obtain ⟨l₁, a, l₂, rfl, h1, h2⟩ := first_split h
  exact ⟨l₁, a, l₂, rfl, h1, h2, modifyFirst_hit p f l₁ a l₂ h1 h2⟩

/-- `modifyFirst_split` for the way the queues are searched: by a key (the packet identifier). -/
theorem modifyFirst_split_key {α} (key : α → Nat) (id : Nat) (f : α → α) {l : List α}
    (h : l.any (fun e => key e == id) = true) :
    ∃ l₁ a l₂, l = l₁ ++ a :: l₂ ∧ (∀ x ∈ l₁, key x ≠ id) ∧ key a = id ∧
      modifyFirst (fun e => key e == id) f l = l₁ ++ f a :: l₂ := by
  obtain ⟨l₁, a, l₂, h1, h2, h3, h4⟩ := modifyFirst_split f h
  exact ⟨l₁, a, l₂, h1, fun x hx => by simpa using h2 x hx, by simpa using h3, h4⟩

theorem find?_first {α} {p : α → Bool} {l : List α} {e : α} (h : l.find? p = some e) :
    ∃ l₁ l₂, l = l₁ ++ e :: l₂ ∧ (∀ x ∈ l₁, p x = false) ∧ p e = true := by
  obtain ⟨hm, l₁, l₂, hl, hn⟩ := List.find?_eq_some_iff_append.mp h
  exact ⟨l₁, l₂, hl, fun x hx => by simpa using hn x hx, hm⟩

theorem removeFirst_none {α} {p : α → Bool} {l : List α} (h : l.any p = false) : removeFirst p l = l := by
  induction l with
  | nil => rfl
  | cons x xs ih =>
    simp only [List.any_cons, Bool.or_eq_false_iff] at h
    simp only [removeFirst, h.1, Bool.false_eq_true, if_false, ih h.2]

theorem modifyFirst_none {α} {p : α → Bool} (f : α → α) {l : List α} (h : l.any p = false) : modifyFirst p f l = l := by
  induction l with
  | nil => rfl
  | cons x xs ih =>
    simp only [List.any_cons, Bool.or_eq_false_iff] at h
    simp only [modifyFirst, h.1, Bool.false_eq_true, if_false, ih h.2]

theorem find?_none_of_all {α} {p : α → Bool} {l : List α} (h : ∀ x ∈ l, p x = false) : l.find? p = none :=
  List.find?_eq_none.mpr (fun x hx => by simp [h x hx])

theorem find?_none_all {α} {p : α → Bool} {l : List α} (h : l.find? p = none) : ∀ x ∈ l, p x = false :=
  fun x hx => by simpa using List.find?_eq_none.mp h x hx

/-- A list with distinct keys splits around any of its entries `e`, and an operation that looks for the first
entry satisfying `p` — `p` holding of `e` and only of entries with the key of `e` — finds `e`. -/
theorem keyed_split {α} (key : α → Nat) {l : List α} (hn : (l.map key).Nodup) {e : α} (he : e ∈ l)
    (p : α → Bool) (hp : p e = true) (hk : ∀ x, p x = true → key x = key e) :
    ∃ A B, l = A ++ e :: B ∧ (∀ f, modifyFirst p f l = A ++ f e :: B) ∧ removeFirst p l = A ++ B ∧
      l.find? p = some e ∧ l.any p = true := by
  obtain ⟨A, B, rfl⟩ := List.append_of_mem he
  have hA : ∀ x ∈ A, p x = false := by
    intro x hx
    rw [List.map_append, List.map_cons, List.nodup_append] at hn
    cases hpx : p x with
    | false => rfl
    | true => exact absurd (hk x hpx) (hn.2.2 _ (List.mem_map_of_mem hx) _ List.mem_cons_self)
  refine ⟨A, B, rfl, fun f => modifyFirst_hit p f A e B hA hp, removeFirst_hit p A e B hA hp, ?_, ?_⟩
  · exact find?_hit p A e B hA hp
  · simp [hp]

theorem removeFirst_sublist {α} (p : α → Bool) (l : List α) : (removeFirst p l).Sublist l := by
  cases h : l.any p
  · rw [removeFirst_none h]; exact .refl _
  · obtain ⟨l₁, a, l₂, rfl, _, _, e⟩ := removeFirst_split h
    rw [e]; exact (List.sublist_cons_self a l₂).append_left l₁

theorem removeFirst_length {α} (p : α → Bool) (l : List α) (h : l.any p = true) :
    (removeFirst p l).length + 1 = l.length := by
  obtain ⟨l₁, a, l₂, rfl, _, _, e⟩ := removeFirst_split h
  rw [e, List.length_append, List.length_append, List.length_cons, Nat.add_assoc]

theorem any_removeFirst {α} {p q : α → Bool} {l : List α} (h : l.any q = true) (hpq : ∀ x, q x = true → p x = false) :
    (removeFirst p l).any q = true := by
  obtain ⟨x, hx, hq⟩ := List.any_eq_true.mp h
  refine List.any_eq_true.mpr ⟨x, ?_, hq⟩
  cases hp : l.any p
  · rwa [removeFirst_none hp]
  · obtain ⟨l₁, a, l₂, rfl, _, h3, h4⟩ := removeFirst_split hp
    rw [h4]
    simp only [List.mem_append, List.mem_cons] at hx ⊢
    rcases hx with hx | rfl | hx
    · exact .inl hx
    · rw [hpq x hq] at h3; cases h3
    · exact .inr hx

theorem modifyFirst_length {α} (p : α → Bool) (f : α → α) (l : List α) : (modifyFirst p f l).length = l.length := by
  induction l with
  | nil => rfl
  | cons x xs ih => simp only [modifyFirst]; split <;> simp [ih]

theorem modifyFirst_mem {α} (p : α → Bool) (f : α → α) : ∀ (l : List α) (y : α), y ∈ modifyFirst p f l →
    y ∈ l ∨ ∃ x ∈ l, y = f x
  | [], y, h => by simp [modifyFirst] at h
  | x :: xs, y, h => by
    simp only [modifyFirst] at h
    split at h
    · rcases List.mem_cons.mp h with h | h
      · exact .inr ⟨x, by simp, h⟩
      · exact .inl (by simp [h])
    · rcases List.mem_cons.mp h with h | h
      · exact .inl (by simp [h])
      · rcases modifyFirst_mem p f xs y h with h | ⟨z, hz, hy⟩
        · exact .inl (by simp [h])
        · exact .inr ⟨z, by simp [hz], hy⟩

theorem modifyFirst_map {α β} (g : α → β) (p : α → Bool) (f : α → α) (P : β → Bool) (F : β → β)
    (hp : ∀ a, p a = P (g a)) (hf : ∀ a, g (f a) = F (g a)) :
    ∀ l : List α, (modifyFirst p f l).map g = modifyFirst P F (l.map g)
  | [] => rfl
  | x :: xs => by
    simp only [modifyFirst, List.map_cons, ← hp x]
    split
    · rw [List.map_cons, hf]
    · rw [List.map_cons, modifyFirst_map g p f P F hp hf xs]

theorem removeFirst_map {α β} (F : α → β) (p : α → Bool) (P : β → Bool) :
    ∀ (l : List α), (∀ e ∈ l, p e = P (F e)) → (removeFirst p l).map F = removeFirst P (l.map F)
  | [], _ => rfl
  | x :: xs, h => by
    simp only [removeFirst, List.map_cons]
    rw [h x (by simp)]
    split
    · rfl
    · simp only [List.map_cons]
      congr 1
      exact removeFirst_map F p P xs (fun e he => h e (by simp [he]))

theorem removeFirst_map_congr {α β} (f : α → β) (p : α → Bool) (q : β → Bool) (hpq : ∀ a, q (f a) = p a) (l : List α) :
    (removeFirst p l).map f = removeFirst q (l.map f) :=
  removeFirst_map f p q l fun a _ => (hpq a).symm

theorem modifyFirst_map_id {α β} (p : α → Bool) (f : α → α) (g : α → β) (hg : ∀ a, g (f a) = g a) (l : List α) :
    (modifyFirst p f l).map g = l.map g := by
  cases h : l.any p
  · rw [modifyFirst_none f h]
  · obtain ⟨l₁, a, l₂, rfl, _, _, e⟩ := modifyFirst_split f h
    rw [e, List.map_append, List.map_append, List.map_cons, List.map_cons, hg]

/-- What holds of `f e` for every `e` of a list depends on the list `l.map f` only. -/
theorem forall_of_map_eq {α β} {f : α → β} (P : β → Prop) {l l' : List α} (hm : l'.map f = l.map f)
    (h : ∀ e ∈ l, P (f e)) : ∀ e ∈ l', P (f e) := by
  rw [← List.forall_mem_map (P := P)] at h ⊢
  rwa [hm]

theorem any_congr_mem {α} (f g : α → Bool) : ∀ (l : List α), (∀ e ∈ l, f e = g e) → l.any f = l.any g
  | [], _ => rfl
  | x :: xs, h => by
    simp only [List.any_cons]
    rw [h x (by simp), any_congr_mem f g xs (fun e he => h e (by simp [he]))]

/-- Removing the first `p`, all of which agree on `q`, takes one from the count of `q` or leaves it. -/
theorem length_filter_removeFirst {α} (p q : α → Bool) (b : Bool) (hq : ∀ x, p x = true → q x = b) :
    ∀ l : List α, l.any p = true → ((removeFirst p l).filter q).length + (if b then 1 else 0) = (l.filter q).length
  | [], h => nomatch h
  | x :: xs, h => by
    simp only [removeFirst]
    by_cases hp : p x = true
    · rw [if_pos hp, List.filter_cons, hq x hp]; cases b <;> simp
    · have hx : xs.any p = true := by simpa [hp] using h
      have ih := length_filter_removeFirst p q b hq xs hx
      rw [if_neg hp, List.filter_cons, List.filter_cons]
      split
      · simp only [List.length_cons]; omega
      · omega

theorem length_filter_modifyFirst {α} (p q : α → Bool) (f : α → α) (hq : ∀ x, q (f x) = q x) :
    ∀ l : List α, ((modifyFirst p f l).filter q).length = (l.filter q).length
  | [] => rfl
  | x :: xs => by
    simp only [modifyFirst]
    split
    · rw [List.filter_cons, List.filter_cons, hq]; split <;> rfl
    · rw [List.filter_cons, List.filter_cons]
      split <;> simp only [List.length_cons, length_filter_modifyFirst p q f hq xs]

theorem pairwise_split {α} {R : α → α → Prop} {l l1 l2 : List α} {g : α} (h : l.Pairwise R) (hl : l = l1 ++ g :: l2) :
    ∀ f ∈ l2, R g f := by
  subst hl
  rw [List.pairwise_append] at h
  exact (List.pairwise_cons.mp h.2.1).1

theorem pairwise_lt_inj {α} (f : α → Nat) : ∀ {l : List α}, (l.map f).Pairwise (· < ·) → ∀ {x y}, x ∈ l → y ∈ l →
    f x = f y → x = y
  | [], _, _, _, hx, _, _ => by simp at hx
  | a :: l, h, x, y, hx, hy, he => by
    simp only [List.map_cons, List.pairwise_cons, List.mem_map, forall_exists_index, and_imp,
      forall_apply_eq_imp_iff₂] at h
    simp only [List.mem_cons] at hx hy
    rcases hx with rfl | hx <;> rcases hy with rfl | hy
    · rfl
    · have := h.1 y hy; omega
    · have := h.1 x hx; omega
    · exact pairwise_lt_inj f h.2 hx hy he

end Minimq
