import Minimq.Proofs.Scheduler
/-
The operations of `outbound.rs` on the three queues, as equations on the entries. (What they do to the bytes of the
arena is in `Proofs/Arena.lean`, `arm_replay` on the queues in `Proofs/Scheduler.lean`.)
-/
namespace Minimq
open Gen Outbound

/-- `compact` only moves entries: what does not look at the offset does not see it. -/
theorem compactGo_map {β} (f : RetainedPacket → β) (hf : ∀ e c, f { e with offset := c } = f e)
    (es : List RetainedPacket) (buf : Bytes) (c : Nat) : (compactGo es buf c).1.map f = es.map f := by
  induction es generalizing buf c with
  | nil => rfl
  | cons e es ih => simp only [compactGo, List.map_cons, ih, hf]

theorem compact_map {β} (f : RetainedPacket → β) (hf : ∀ e c, f { e with offset := c } = f e) (o : Outbound) :
    o.compact.retained.map f = o.retained.map f :=
  compactGo_map f hf o.retained o.buf 0

@[simp] theorem compact_retained_ids (o : Outbound) : (o.compact).retained.map (·.id) = o.retained.map (·.id) :=
  compact_map _ (fun _ _ => rfl) o

@[simp] theorem compact_retained_length (o : Outbound) : (o.compact).retained.length = o.retained.length := by
  simpa using congrArg List.length (compact_map (fun _ => ()) (fun _ _ => rfl) o)

@[simp] theorem compact_release (o : Outbound) : (o.compact).release = o.release := rfl
@[simp] theorem compact_control (o : Outbound) : (o.compact).control = o.control := rfl
@[simp] theorem compact_nextSer (o : Outbound) : (o.compact).nextSer = o.nextSer := rfl
@[simp] theorem compact_nextRser (o : Outbound) : (o.compact).nextRser = o.nextRser := rfl

/-- Serial, identifier, length and send state of a retained entry: everything but its offset. -/
def RetainedPacket.key (e : RetainedPacket) : Nat × Nat × Nat × SendState := (e.ser, e.id, e.len, e.state)

/-- The retained entries, oldest first, without their offsets. -/
def Outbound.keys (o : Outbound) : List (Nat × Nat × Nat × SendState) := o.retained.map RetainedPacket.key

/-- The serial numbers of the retained packets, oldest first. -/
def Outbound.sers (o : Outbound) : List Nat := o.retained.map (·.ser)

theorem sers_eq_keys (o : Outbound) : o.sers = o.keys.map (·.1) := by
  simp [Outbound.sers, Outbound.keys, RetainedPacket.key, Function.comp_def]

@[simp] theorem compact_keys (o : Outbound) : (o.compact).keys = o.keys := compact_map _ (fun _ _ => rfl) o

/-- The entry an acknowledgement `(id, k)` is looking for. -/
def ackPred (o : Outbound) (id : Nat) (k : AckKind) (e : RetainedPacket) : Bool :=
  e.id == id && k.acknowledges (o.headerAt e.offset)

theorem ackPacket_eq (o : Outbound) (id : Nat) (k : AckKind) :
    o.ackPacket id k = if o.retained.any (ackPred o id k) then
      (compact { o with retained := removeFirst (ackPred o id k) o.retained }, true) else (o, false) := rfl

theorem ackPacket_found_iff (o : Outbound) (id : Nat) (k : AckKind) :
    (o.ackPacket id k).2 = o.retained.any (ackPred o id k) := by
  rw [ackPacket_eq]; cases o.retained.any (ackPred o id k) <;> rfl

theorem ackPacket_frame (o : Outbound) (id : Nat) (k : AckKind) :
    (o.ackPacket id k).1.keys = (removeFirst (ackPred o id k) o.retained).map RetainedPacket.key ∧
    (o.ackPacket id k).1.release = o.release ∧ (o.ackPacket id k).1.control = o.control ∧
    (o.ackPacket id k).1.nextSer = o.nextSer := by
  rw [ackPacket_eq]
  cases h : o.retained.any (ackPred o id k)
  · exact ⟨by rw [removeFirst_none h]; rfl, rfl, rfl, rfl⟩
  · exact ⟨compact_keys _, compact_release _, compact_control _, rfl⟩

theorem ackPacket_release (o : Outbound) (id : Nat) (k : AckKind) : (o.ackPacket id k).1.release = o.release :=
  (ackPacket_frame o id k).2.1

theorem ackPacket_nextRser (o : Outbound) (id : Nat) (k : AckKind) : (o.ackPacket id k).1.nextRser = o.nextRser := by
  rw [ackPacket_eq]; split <;> rfl

theorem queueControl_eq (o : Outbound) (a : ControlAction) :
    o.queueControl a = if o.control.length < MAX_PENDING_CONTROL then
      some { o with control := o.control ++ [{ action := a, state := .write 0 }] } else none := by
  unfold queueControl
  by_cases h : o.control.length ≥ MAX_PENDING_CONTROL
  · rw [if_pos h, if_neg (by omega)]
  · rw [if_neg h, if_pos (by omega)]

theorem queueControl_some {o o' : Outbound} {a : ControlAction} (h : o.queueControl a = some o') :
    o.control.length < MAX_PENDING_CONTROL ∧ o' = { o with control := o.control ++ [{ action := a, state := .write 0 }] } := by
  rw [queueControl_eq] at h
  split at h
  · exact ⟨by assumption, (Option.some.inj h).symm⟩
  · cases h

theorem queueRelease_eq (o : Outbound) (id rc ps : Nat) :
    o.queueRelease id rc ps = if o.release.length < MAX_PENDING_RELEASE then
      some { o with release := o.release ++ [{ id := id, rc := rc, state := .write 0, rser := o.nextRser, pser := ps }],
                    nextRser := o.nextRser + 1 } else none := by
  unfold queueRelease
  by_cases h : o.release.length ≥ MAX_PENDING_RELEASE
  · rw [if_pos h, if_neg (by omega)]
  · rw [if_neg h, if_pos (by omega)]

theorem queueRelease_some {o o' : Outbound} {id rc ps : Nat} (h : o.queueRelease id rc ps = some o') :
    o.release.length < MAX_PENDING_RELEASE ∧
    o' = { o with release := o.release ++ [{ id := id, rc := rc, state := .write 0, rser := o.nextRser, pser := ps }],
                  nextRser := o.nextRser + 1 } := by
  rw [queueRelease_eq] at h
  split at h
  · exact ⟨by assumption, (Option.some.inj h).symm⟩
  · cases h

theorem queueRelease_full {o : Outbound} {id rc ps : Nat} (h : o.queueRelease id rc ps = none) :
    MAX_PENDING_RELEASE ≤ o.release.length := by
  unfold Outbound.queueRelease at h
  split at h
  · assumption
  · cases h

theorem ackRelease_eq (o : Outbound) (id : Nat) :
    o.ackRelease id = if o.hasPendingRelease id then
      ({ o with release := removeFirst (fun e => e.id == id) o.release }, true) else (o, false) := rfl

theorem retainPacket_some {o o' : Outbound} {id off len : Nat} (h : o.retainPacket id off len = some o') :
    o.retained.length < MAX_RETAINED ∧
    o' = { o with retained := o.retained ++ [{ id := id, offset := off, len := len, state := .write 0, ser := o.nextSer }],
                  used := max o.used (off + len), nextSer := o.nextSer + 1 } := by
  unfold retainPacket at h
  split at h
  · cases h
  · exact ⟨by omega, (Option.some.inj h).symm⟩

/-- `encode_packet` compacts and writes into the scratch space: of the outbound state only the buffer changes on top of
what `compact` does. -/
theorem encodeAt_queues {ε} (o : Outbound) (enc : Nat → (Nat → Nat → Bytes) → Except ε (Nat × Bytes)) :
    ∃ buf, (o.encodeAt enc).1 = { o.compact with buf := buf } := by
  unfold encodeAt
  dsimp only
  split
  · exact ⟨_, rfl⟩
  · exact ⟨_, rfl⟩

theorem encodeAt_frame {ε : Type} (o : Outbound) (enc : Nat → (Nat → Nat → Bytes) → Except ε (Nat × Bytes)) :
    (o.encodeAt enc).1.keys = o.keys ∧ (o.encodeAt enc).1.release = o.release ∧
    (o.encodeAt enc).1.control = o.control ∧ (o.encodeAt enc).1.nextSer = o.nextSer := by
  obtain ⟨buf, h⟩ := encodeAt_queues o enc
  rw [h]; exact ⟨compact_keys o, rfl, rfl, rfl⟩

theorem encodeAt_nextRser {ε : Type} (o : Outbound) (enc : Nat → (Nat → Nat → Bytes) → Except ε (Nat × Bytes)) :
    (o.encodeAt enc).1.nextRser = o.nextRser := by
  obtain ⟨buf, h⟩ := encodeAt_queues o enc
  rw [h]; rfl

theorem encodeAt_allFresh {ε : Type} (o : Outbound) (enc : Nat → (Nat → Nat → Bytes) → Except ε (Nat × Bytes))
    (h : o.AllFresh) : (o.encodeAt enc).1.AllFresh := by
  obtain ⟨buf, e⟩ := encodeAt_queues o enc
  rw [e]; exact allFresh_of_states h rfl rfl (compact_map _ (fun _ _ => rfl) o)

end Minimq
