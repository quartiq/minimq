import Minimq.Proofs.Ev
/-
C15, read half, at the level of the machine. An operation suspended in `read_packet` (`Pc.waitRead`) is resumed
with read decisions `d k`. `Waiting` is the reader as `receive_buffer` leaves it when the read has to wait; one
more delivery completes the packet, makes the reader fail or leaves it waiting (`read_*`, from
`Proofs/ReaderStream.lean`), and either read loop of the machine does accordingly (`ReadLoop`).
`World.finalRead`, where the framing specification `frame1` says the reading ends, is unchanged by a partial read
and reached by a terminal one (`readPacket_final`). That the result does not depend on how the decisions cut the
bytes is `Proofs/ReadSim.lean`.
-/
namespace Minimq
open Gen World Fuel

def Reader.KnownHdr (r : Reader) : Prop :=
  ∀ l, r.packetLength = some l → ∃ hl, fixedHeader r.data = .complete hl l

theorem KnownHdr_of_none {r : Reader} (h : r.packetLength = none) : r.KnownHdr := by
  intro l hl; rw [h] at hl; cases hl

theorem KnownHdr.commit {r : Reader} (h : r.KnownHdr) (bytes : Bytes) : (r.commit bytes).KnownHdr := by
  intro l hl
  obtain ⟨k, hk⟩ := h l hl
  exact ⟨k, fixedHeader_append_complete bytes hk⟩

theorem KnownHdr.window {r r1 : Reader} {n : Nat} (h : r.KnownHdr) (hw : r.receiveWindow = some (r1, n)) :
    r1.KnownHdr := by
  rcases receiveWindow_cases hw with ⟨_, _, _, rfl, _⟩ | ⟨_, hl, t, hfh, _, rfl, _⟩ | ⟨_, _, _, rfl, _⟩
  · exact h
  · intro l e; cases e; exact ⟨hl, hfh⟩
  · exact h

/-- The reader as `receive_buffer` leaves it when `read()` has to be called: probed (asking again
gives the same non-empty window) and consistent with the stream `data ++ rx`. -/
structure Waiting (r : Reader) (rx : Bytes) : Prop where
  inv : RInv r (r.data ++ rx)
  win : ∃ n, n ≠ 0 ∧ r.receiveWindow = some (r, n)
  known : ∀ l, r.packetLength = some l → ∃ hl, fixedHeader r.data = .complete hl l

/-- The reader as `receive_buffer` leaves it (probed) when it holds `held`. -/
def Reader.holding (r : Reader) (held : Bytes) : Reader :=
  { r with data := held,
           packetLength := match fixedHeader held with
             | .complete _ t => some t
             | _ => none }

def Reader.packetOf (r : Reader) (pkt : Bytes) : Reader :=
  { r with data := pkt, packetLength := some pkt.length }

theorem packetOf_available (r : Reader) (pkt : Bytes) : (r.packetOf pkt).packetAvailable = true := by
  simp [Reader.packetOf, Reader.packetAvailable, Reader.readBytes]

theorem holding_holding (r : Reader) (a c : Bytes) : (r.holding a).holding c = r.holding c := rfl
theorem holding_data (r : Reader) (a : Bytes) : (r.holding a).data = a := rfl
theorem holding_packetOf (r : Reader) (a c : Bytes) : (r.holding a).packetOf c = r.packetOf c := rfl

theorem takePkt_packetOf {s : Session} {R : Reader} {pkt : Bytes} (hr : s.reader = R.packetOf pkt) :
    s.takePkt = (Quiesce.took s pkt, (fromBuffer pkt).map fun p => (pkt.length, p)) := by
  have hd : s.reader.data = pkt := by rw [hr]; rfl
  rw [Session.takePkt, takePacket_whole (by rw [hr]; rfl), hd]; rfl

theorem Waiting.notAvail {r : Reader} {rx : Bytes} (h : Waiting r rx) : r.packetAvailable = false :=
  probed_notAvail h.win

theorem receiveWindow_fresh (r : Reader) (hd : r.data = []) (hp : r.packetLength = none) (hc : 1 ≤ r.cap) :
    r.receiveWindow = some (r, 1) := by
  rw [receiveWindow_unknown r hp, hd]
  simp only [fixedHeader, List.length_nil]
  rw [if_pos (by omega)]

theorem Waiting_fresh (r : Reader) (rx : Bytes) (hd : r.data = []) (hp : r.packetLength = none)
    (hc : 1 ≤ r.cap) : Waiting r rx :=
  ⟨RInv_fresh _ _ hd hp, ⟨1, by omega, receiveWindow_fresh r hd hp hc⟩, by simp [hp]⟩

theorem reader_ext {a c : Reader} (h1 : a.cap = c.cap) (h2 : a.data = c.data)
    (h3 : a.packetLength = c.packetLength) (h4 : a.last = c.last) : a = c := by
  cases a; cases c; simp_all

theorem Waiting.canonical {r : Reader} {rx : Bytes} (h : Waiting r rx) : r = r.holding r.data := by
  obtain ⟨n, _, hw⟩ := h.win
  refine reader_ext rfl rfl ?_ rfl
  show r.packetLength = match fixedHeader r.data with | .complete _ t => some t | _ => none
  rcases receiveWindow_cases hw with ⟨l, hp, _⟩ | ⟨hp, _, t, _, _, e, _⟩ | ⟨hp, hfh, _⟩
  · obtain ⟨hl, hfh⟩ := h.known l hp
    rw [hp, hfh]
  · have := congrArg Reader.packetLength e
    rw [hp] at this; cases this
  · rw [hp, hfh]

def Reader.fed (r : Reader) (rx : Bytes) (c : Nat) : Reader := r.commit (rx.take c)

theorem fed_data (r : Reader) (rx : Bytes) (c : Nat) : (r.fed rx c).data = r.data ++ rx.take c := rfl
theorem fed_cap (r : Reader) (rx : Bytes) (c : Nat) : (r.fed rx c).cap = r.cap := rfl

theorem fed_stream (r : Reader) (rx : Bytes) (c : Nat) :
    (r.fed rx c).data ++ rx.drop c = r.data ++ rx := by
  simp [Reader.fed, Reader.commit]

theorem Waiting.fed_inv {r : Reader} {rx : Bytes} (h : Waiting r rx) {n c : Nat}
    (hw : r.receiveWindow = some (r, n)) (hc1 : 1 ≤ c) (hcn : c ≤ n) (hcl : c ≤ rx.length) :
    RInv (r.fed rx c) (r.data ++ rx) :=
  (window_some h.inv rfl hw).commit rfl hc1 hcn hcl

theorem read_packet {r : Reader} {rx : Bytes} (h : Waiting r rx) {n c : Nat}
    (hw : r.receiveWindow = some (r, n)) (hc1 : 1 ≤ c) (hcn : c ≤ n) (hcl : c ≤ rx.length)
    (ha : (r.fed rx c).packetAvailable = true) :
    frame1 r.cap (r.data ++ rx) = .packet (r.data ++ rx.take c) (rx.drop c) ∧
    r.fed rx c = r.packetOf (r.data ++ rx.take c) := by
  obtain ⟨hpl, hf, _⟩ := take_spec (h.fed_inv hw hc1 hcn hcl) (fed_stream r rx c).symm ha
  exact ⟨hf, reader_ext rfl rfl hpl rfl⟩

/-- The length becomes known by the delivery that completes the packet (the last header byte of a packet without
body): the next `receive_buffer` probes and offers an empty window. -/
theorem read_zero {r : Reader} {rx : Bytes} (h : Waiting r rx) {n c : Nat}
    (hw : r.receiveWindow = some (r, n)) (hc1 : 1 ≤ c) (hcn : c ≤ n) (hcl : c ≤ rx.length)
    {r3 : Reader} (hw2 : (r.fed rx c).receiveWindow = some (r3, 0)) :
    frame1 r.cap (r.data ++ rx) = .packet (r.data ++ rx.take c) (rx.drop c) ∧
    r3 = r.packetOf (r.data ++ rx.take c) := by
  have hwi := window_some (h.fed_inv hw hc1 hcn hcl) (fed_stream r rx c).symm hw2
  have ha3 : r3.packetAvailable = true := receiveWindow_available hw2
  obtain ⟨pl, rfl⟩ := receiveWindow_reader hw2
  obtain ⟨hpl, hf, _⟩ := take_spec hwi.toRInv (fed_stream r rx c).symm ha3
  exact ⟨hf, reader_ext rfl rfl hpl rfl⟩

theorem read_malformed {r : Reader} {rx : Bytes} (h : Waiting r rx) {n c : Nat}
    (hw : r.receiveWindow = some (r, n)) (hc1 : 1 ≤ c) (hcn : c ≤ n) (hcl : c ≤ rx.length)
    (hw2 : (r.fed rx c).receiveWindow = none) :
    frame1 r.cap (r.data ++ rx) = .stop (.malformed (r.data ++ rx.take c)) := by
  have hinv := h.fed_inv hw hc1 hcn hcl
  exact window_none hinv (fed_stream r rx c).symm hw2

theorem read_more {r : Reader} {rx : Bytes} (h : Waiting r rx) {n c : Nat}
    (hw : r.receiveWindow = some (r, n)) (hc1 : 1 ≤ c) (hcn : c ≤ n) (hcl : c ≤ rx.length)
    {r3 : Reader} {n' : Nat} (hw2 : (r.fed rx c).receiveWindow = some (r3, n')) (hn' : n' ≠ 0) :
    Waiting r3 (rx.drop c) ∧ r3 = r.holding (r.data ++ rx.take c) ∧
    (rx.drop c = [] → frame1 r.cap (r.data ++ rx) = .stop (.exhausted (r.data ++ rx))) := by
  have hwi := window_some (h.fed_inv hw hc1 hcn hcl) (fed_stream r rx c).symm hw2
  have hwait : Waiting r3 (rx.drop c) :=
    ⟨by obtain ⟨pl, rfl⟩ := receiveWindow_reader hw2; exact (fed_stream r rx c).symm ▸ hwi.toRInv,
      ⟨n', hn', receiveWindow_probed hw2⟩, KnownHdr.window (KnownHdr.commit h.known (rx.take c)) hw2⟩
  obtain ⟨pl, rfl⟩ := receiveWindow_reader hw2
  refine ⟨hwait, hwait.canonical, fun hnil => ?_⟩
  have hs : r.data ++ rx = (r.fed rx c).data := by rw [← fed_stream r rx c, hnil, List.append_nil]
  rw [hs]
  exact (hs ▸ hwi).stream_end hn'


/-- The deadline of the wait has not been reached (so the timer branch of `with_deadline` is not
taken). -/
def DeadlineOK (now : Nat) : Option Nat → Prop
  | none => True
  | some d => now < d

/-- The world after bytes of the inbound stream have been moved into the reader (now `rd`), `rest`
being what the transport still has to deliver, `io` the trace lines printed meanwhile, `fut` the
suspended operation; the decision is used up, no self-wake, last I/O not starved. -/
def World.withRead (W : World) (rd : Reader) (rest : Bytes) (io : List String) (fut : Option Pc) : World :=
  { W with sess := { W.sess with reader := rd },
           nets := W.nets.dropLast ++ [{ W.curNet with rx := rest }],
           out := io ++ W.out, slot := none, wakes := 0, lastIoStarved := false, fut := fut }

def World.rLine (W : World) (c : Nat) : String := s!"r {W.netIdx} {c}"
def World.rpLine (W : World) : String := s!"rp {W.netIdx}"

theorem dropLast_concat_length {α} (l : List α) (x : α) (h : l ≠ []) : (l.dropLast ++ [x]).length = l.length := by
  have : 0 < l.length := List.length_pos_iff.mpr h
  simp; omega

theorem withRead_netIdx (W : World) (rd : Reader) (rest : Bytes) (io : List String) (fut : Option Pc)
    (h : W.nets ≠ []) : (W.withRead rd rest io fut).netIdx = W.netIdx :=
  congrArg (· - 1) (dropLast_concat_length _ _ h)

theorem withRead_curNet (W : World) (rd : Reader) (rest : Bytes) (io : List String) (fut : Option Pc) :
    (W.withRead rd rest io fut).curNet = { W.curNet with rx := rest } := by
  simp [World.withRead, World.curNet]

theorem withRead_withRead (W : World) (rd rd' : Reader) (rest rest' : Bytes) (io io' : List String)
    (fut fut' : Option Pc) :
    (W.withRead rd rest io fut).withRead rd' rest' io' fut' = W.withRead rd' rest' (io' ++ io) fut' := by
  simp [World.withRead, World.curNet, List.append_assoc]

theorem nets_ne_of_rx {W : World} (h : W.curNet.rx ≠ []) : W.nets ≠ [] := by
  intro hn
  apply h
  simp [World.curNet, hn]

/-- The world in which a read loop goes on after a read (`ReadLoop.read`), in closed form. -/
theorem after_read_world (w : World) (r1 : Reader) (c : Nat) (hnets : w.nets ≠ []) (hwk : w.wakes = 0)
    (hf : w.fut = none) :
    ({ (({ w with sess := { w.sess with reader := r1 } } : World).gotBytes c) with
        sess := { w.sess with reader := r1.commit (w.curNet.rx.take c) } } : World) =
      w.withRead (r1.commit (w.curNet.rx.take c)) (w.curNet.rx.drop c) [w.rLine c] none := by
  obtain ⟨sess, conn, nets, fut, now, slot, handles, starved, wakes, lastRes, out, torn, log⟩ := w
  simp only at hwk hf hnets
  subst hwk hf
  simp only [World.withRead, World.gotBytes, World.rLine, World.emit, World.setCurNet, World.curNet,
    World.netIdx, List.cons_append, List.nil_append]
  rw [dropLast_concat_length _ _ hnets]

inductive ReadKind where
  | packet
  | malformed
  | more
  deriving DecidableEq, Repr

/-- What `read_packet` finds after `c` more bytes. -/
def readKind (r : Reader) (rx : Bytes) (c : Nat) : ReadKind :=
  if (r.fed rx c).packetAvailable then .packet else
  match (r.fed rx c).receiveWindow with
  | none => .malformed
  | some (_, 0) => .packet
  | some _ => .more

def World.window (W : World) : Nat :=
  match W.sess.reader.receiveWindow with
  | some (_, n) => n
  | none => 0

def World.readCount (W : World) (k : Nat) : Nat := takeCount k W.window W.curNet.rx.length

theorem read_setup {W : World} (hwait : Waiting W.sess.reader W.curNet.rx) (hne : W.curNet.rx ≠ [])
    {k : Nat} (hk1 : 1 ≤ k) :
    W.window ≠ 0 ∧ W.sess.reader.receiveWindow = some (W.sess.reader, W.window) ∧
    1 ≤ W.readCount k ∧ W.readCount k ≤ W.window ∧ W.readCount k ≤ W.curNet.rx.length := by
  obtain ⟨n, hn, hw⟩ := hwait.win
  have hwin : W.window = n := by simp [World.window, hw]
  have hlen : W.curNet.rx.length ≠ 0 := by
    intro h0; exact hne (List.eq_nil_of_length_eq_zero h0)
  rw [hwin]
  exact ⟨hn, hw, by unfold World.readCount; rw [hwin]; exact takeCount_bounds hk1 hn hlen⟩

/-- The first read decision of a reader at a packet boundary takes one byte (the reader asks for the first
header byte) and leaves the packet incomplete, whatever the byte: a fixed header has at least two. -/
theorem first_read_more (W : World) (hd : W.sess.reader.data = []) (hp : W.sess.reader.packetLength = none)
    (hc : 2 ≤ W.sess.reader.cap) (hrx : W.curNet.rx ≠ []) (k : Nat) (hk1 : 1 ≤ k) :
    W.readCount k = 1 ∧ readKind W.sess.reader W.curNet.rx 1 = .more := by
  obtain ⟨x, rest, hrx⟩ := List.exists_cons_of_ne_nil hrx
  have hwin : W.window = 1 := by unfold World.window; rw [receiveWindow_fresh _ hd hp (by omega)]
  have hcount : W.readCount k = 1 := by
    unfold World.readCount takeCount
    rw [hwin, hrx, List.length_cons]
    split <;> omega
  refine ⟨hcount, ?_⟩
  have hp' : (W.sess.reader.fed W.curNet.rx 1).packetLength = none := hp
  have hdat : (W.sess.reader.fed W.curNet.rx 1).data = [x] := by
    rw [fed_data, hd, hrx]; rfl
  unfold readKind
  rw [packetAvailable_false_of_none hp', receiveWindow_unknown _ hp', hdat]
  have hfh : fixedHeader [x] = .incomplete := rfl
  rw [hfh]
  simp only [Bool.false_eq_true, if_false]
  rw [if_pos (by show 1 + 1 ≤ W.sess.reader.cap; omega)]
  rfl

/-! `read_packet` under `wait_for_progress` (`doWaitRead`) and `fill_packet_reader` of the handshake
(`doConnRead`) treat the reader alike; what one read decision does to either is proved once, from the
five equations below. -/

/-- The read loop resumed from the await point `from_`: it suspends again at `pc` as long as `ok` holds,
goes on as `got` with a complete packet and ends as `bad` when the reader fails. -/
structure ReadLoop (from_ pc : Pc) (got bad : World → World) (ok : World → Prop) : Prop where
  avail : ∀ w, w.sess.reader.packetAvailable = true → ev (resumeCall w from_) = got w
  zero : ∀ w r1, w.sess.reader.packetAvailable = false → w.sess.reader.receiveWindow = some (r1, 0) →
    ev (resumeCall w from_) = got { w with sess := { w.sess with reader := r1 } }
  malformed : ∀ w, w.sess.reader.packetAvailable = false → w.sess.reader.receiveWindow = none →
    ev (resumeCall w from_) = bad w
  read : ∀ w r1 n k, w.sess.reader.packetAvailable = false → w.sess.reader.receiveWindow = some (r1, n) →
    n ≠ 0 → w.slot = some k → k ≤ 250 → takeCount k n w.curNet.rx.length ≠ 0 →
    ev (resumeCall w from_) = ev (resumeCall
      { (({ w with sess := { w.sess with reader := r1 } } : World).gotBytes (takeCount k n w.curNet.rx.length)) with
        sess := { w.sess with reader := r1.commit (w.curNet.rx.take (takeCount k n w.curNet.rx.length)) } } from_)
  pending : ∀ w r1 n, w.sess.reader.packetAvailable = false → w.sess.reader.receiveWindow = some (r1, n) →
    n ≠ 0 → w.slot = none → ok w →
    ev (resumeCall w from_) = (({ w with sess := { w.sess with reader := r1 } } : World).io s!"rp {w.netIdx}").suspend pc

theorem waitReadLoop (outer : Outer) (dl : Option Nat) (y : Bool) :
    ReadLoop (.waitRead outer dl y) (.waitRead outer dl true) (fun w => ev (.DE w outer))
      (fun w => (w.handleDisconnect).finishErr (outerName outer) .peerInvalid) (fun w => DeadlineOK w.now dl) where
  avail := fun w ha => by
    show ev (.DWR w outer dl y) = _
    rw [ev_DWR, ha, if_pos rfl]
  zero := fun w r1 hna hw => by
    show ev (.DWR w outer dl y) = _
    rw [ev_DWR]
    simp only [hna, Bool.false_eq_true, if_false, session_window_of hw, if_true]
  malformed := fun w hna hw => by
    show ev (.DWR w outer dl y) = _
    rw [ev_DWR]
    simp only [hna, Bool.false_eq_true, if_false, Session.window, hw]
  read := fun w r1 n k hna hw hn hs hk hc => by
    show ev (.DWR w outer dl y) = ev (.DWR _ outer dl y)
    rw [ev_DWR]
    simp only [hna, Bool.false_eq_true, if_false, session_window_of hw, if_neg hn]
    rw [ioRead_ok ({ w with sess := { w.sess with reader := r1 } } : World) n k hs hk hc]
    rfl
  pending := fun w r1 n hna hw hn hs hdl => by
    show ev (.DWR w outer dl y) = _
    rw [ev_DWR]
    simp only [hna, Bool.false_eq_true, if_false, session_window_of hw, if_neg hn]
    rw [ioRead_none (w := { w with sess := { w.sess with reader := r1 } }) hs]
    cases dl with
    | none => rfl
    | some d => exact if_neg (Nat.not_le.mpr hdl)

theorem readKind_spec (r : Reader) (rx : Bytes) (c : Nat) :
    match readKind r rx c with
    | .packet => (r.fed rx c).packetAvailable = true ∨
        ((r.fed rx c).packetAvailable = false ∧ ∃ r3, (r.fed rx c).receiveWindow = some (r3, 0))
    | .malformed => (r.fed rx c).packetAvailable = false ∧ (r.fed rx c).receiveWindow = none
    | .more => (r.fed rx c).packetAvailable = false ∧
        ∃ r3 n, (r.fed rx c).receiveWindow = some (r3, n + 1) := by
  unfold readKind
  by_cases ha : (r.fed rx c).packetAvailable = true
  · rw [if_pos ha]; exact .inl ha
  · rw [if_neg ha]
    have ha' := Bool.eq_false_iff.2 ha
    cases hw : (r.fed rx c).receiveWindow with
    | none => exact ⟨ha', rfl⟩
    | some p =>
      obtain ⟨r3, n⟩ := p
      cases n with
      | zero => exact .inr ⟨ha', r3, rfl⟩
      | succ m => exact ⟨ha', r3, m, rfl⟩

theorem clearSlot_congr {a b : World} (e : a = b) :
    ({ a with slot := none } : World) = { b with slot := none } := e ▸ rfl

section
variable {from_ pc : Pc} {got bad : World → World} {ok : World → Prop} (L : ReadLoop from_ pc got bad ok)
include L

/-- The first half of a read decision on a waiting reader: `c` bytes are taken and committed, and
the loop looks at the reader again (with the decision used up). -/
theorem ReadLoop.read_eq (W : World) (k : Nat) (hfut : W.fut = some from_)
    (hwait : Waiting W.sess.reader W.curNet.rx) (hne : W.curNet.rx ≠ []) (hk1 : 1 ≤ k) (hk : k ≤ 250) :
    W.execDirective (.d k) = { ev (resumeCall
      (W.withRead (W.sess.reader.fed W.curNet.rx (W.readCount k)) (W.curNet.rx.drop (W.readCount k))
        [W.rLine (W.readCount k)] none) from_) with slot := none } := by
  obtain ⟨hn, hw, hc1, _, _⟩ := read_setup hwait hne hk1
  rw [exec_d hfut, L.read ({ W with slot := some k } : World).pollBase W.sess.reader W.window k hwait.notAvail hw hn rfl hk
    (Nat.ne_of_gt hc1)]
  exact congrArg (fun x : World => ({ ev (resumeCall x from_) with slot := none } : World))
    (after_read_world ({ W with slot := some k } : World).pollBase W.sess.reader (W.readCount k) (nets_ne_of_rx hne) rfl rfl)

theorem ReadLoop.packet (W : World) (k : Nat) (hfut : W.fut = some from_)
    (hwait : Waiting W.sess.reader W.curNet.rx) (hne : W.curNet.rx ≠ []) (hk1 : 1 ≤ k) (hk : k ≤ 250)
    (hkind : readKind W.sess.reader W.curNet.rx (W.readCount k) = .packet) :
    frame1 W.sess.reader.cap (W.sess.reader.data ++ W.curNet.rx) =
      .packet (W.sess.reader.data ++ W.curNet.rx.take (W.readCount k)) (W.curNet.rx.drop (W.readCount k)) ∧
    W.execDirective (.d k) =
      { got (W.withRead (W.sess.reader.packetOf (W.sess.reader.data ++ W.curNet.rx.take (W.readCount k)))
            (W.curNet.rx.drop (W.readCount k)) [W.rLine (W.readCount k)] none) with slot := none } := by
  obtain ⟨_, hw, hc1, hcn, hcl⟩ := read_setup hwait hne hk1
  have hspec := readKind_spec W.sess.reader W.curNet.rx (W.readCount k)
  rw [hkind] at hspec
  rcases hspec with ha | ⟨ha, r3, hw2⟩
  · obtain ⟨hf1, hrd⟩ := read_packet hwait hw hc1 hcn hcl ha
    exact ⟨hf1, (L.read_eq W k hfut hwait hne hk1 hk).trans (clearSlot_congr ((L.avail _ ha).trans (hrd ▸ rfl)))⟩
  · obtain ⟨hf1, hrd⟩ := read_zero hwait hw hc1 hcn hcl hw2
    exact ⟨hf1, (L.read_eq W k hfut hwait hne hk1 hk).trans (clearSlot_congr ((L.zero _ r3 ha hw2).trans (hrd ▸ rfl)))⟩

/-- The reader fails on a remaining length of more than four bytes or a packet larger than the receive buffer. -/
theorem ReadLoop.fails (W : World) (k : Nat) (hfut : W.fut = some from_)
    (hwait : Waiting W.sess.reader W.curNet.rx) (hne : W.curNet.rx ≠ []) (hk1 : 1 ≤ k) (hk : k ≤ 250)
    (hkind : readKind W.sess.reader W.curNet.rx (W.readCount k) = .malformed) :
    frame1 W.sess.reader.cap (W.sess.reader.data ++ W.curNet.rx) =
      .stop (.malformed (W.sess.reader.data ++ W.curNet.rx.take (W.readCount k))) ∧
    W.execDirective (.d k) =
      { bad (W.withRead (W.sess.reader.fed W.curNet.rx (W.readCount k))
            (W.curNet.rx.drop (W.readCount k)) [W.rLine (W.readCount k)] none) with slot := none } := by
  obtain ⟨_, hw, hc1, hcn, hcl⟩ := read_setup hwait hne hk1
  have hspec := readKind_spec W.sess.reader W.curNet.rx (W.readCount k)
  rw [hkind] at hspec
  exact ⟨read_malformed hwait hw hc1 hcn hcl hspec.2,
    (L.read_eq W k hfut hwait hne hk1 hk).trans (clearSlot_congr (L.malformed _ hspec.1 hspec.2))⟩

theorem ReadLoop.more (W : World) (k : Nat) (hfut : W.fut = some from_)
    (hok : ok (W.withRead (W.sess.reader.fed W.curNet.rx (W.readCount k)) (W.curNet.rx.drop (W.readCount k))
      [W.rLine (W.readCount k)] none))
    (hwait : Waiting W.sess.reader W.curNet.rx) (hne : W.curNet.rx ≠ []) (hk1 : 1 ≤ k) (hk : k ≤ 250)
    (hkind : readKind W.sess.reader W.curNet.rx (W.readCount k) = .more) :
    W.execDirective (.d k) =
      W.withRead (W.sess.reader.holding (W.sess.reader.data ++ W.curNet.rx.take (W.readCount k)))
        (W.curNet.rx.drop (W.readCount k)) [W.rpLine, W.rLine (W.readCount k)] (some pc) ∧
    Waiting (W.sess.reader.holding (W.sess.reader.data ++ W.curNet.rx.take (W.readCount k)))
      (W.curNet.rx.drop (W.readCount k)) ∧
    (W.curNet.rx.drop (W.readCount k) = [] →
      frame1 W.sess.reader.cap (W.sess.reader.data ++ W.curNet.rx) =
        .stop (.exhausted (W.sess.reader.data ++ W.curNet.rx))) := by
  obtain ⟨_, hw, hc1, hcn, hcl⟩ := read_setup hwait hne hk1
  have hnets := nets_ne_of_rx hne
  have hspec := readKind_spec W.sess.reader W.curNet.rx (W.readCount k)
  rw [hkind] at hspec
  obtain ⟨ha, r3, m, hw2⟩ := hspec
  obtain ⟨hwait3, hrd, hex⟩ := read_more hwait hw hc1 hcn hcl hw2 (Nat.succ_ne_zero m)
  rw [← hrd]
  refine ⟨?_, hwait3, hex⟩
  rw [L.read_eq W k hfut hwait hne hk1 hk, L.pending _ r3 (m + 1) ha hw2 (Nat.succ_ne_zero m) rfl hok]
  unfold World.withRead World.suspend World.io World.rpLine
  simp only [List.cons_append, List.nil_append]
  simp only [World.netIdx]
  rw [dropLast_concat_length _ _ hnets]
end

def World.readDone (W : World) (k : Nat) : Bool :=
  match readKind W.sess.reader W.curNet.rx (W.readCount k) with
  | .more => (W.curNet.rx.drop (W.readCount k)).isEmpty
  | _ => true

/-- Resume the suspended `read_packet` with the read decisions `ks`, one `d k` directive each, up
to and including the one that ends the reading. -/
def readPacket : List Nat → World → World
  | [], W => W
  | k :: ks, W =>
    if W.readDone k then W.execDirective (.d k) else readPacket ks (W.execDirective (.d k))

theorem readPacket_eq_foldl : ∀ (ks : List Nat) (W : World), ∃ n, n ≤ ks.length ∧
    readPacket ks W = (ks.take n).foldl (fun w k => w.execDirective (.d k)) W := by
  intro ks
  induction ks with
  | nil => intro W; exact ⟨0, Nat.le_refl _, rfl⟩
  | cons k ks ih =>
    intro W
    simp only [readPacket]
    by_cases hd : W.readDone k = true
    · exact ⟨1, by simp, by rw [if_pos hd]; rfl⟩
    · obtain ⟨n, hn, h⟩ := ih (W.execDirective (.d k))
      exact ⟨n + 1, by simp; omega, by rw [if_neg hd, h]; rfl⟩

/-- Where reading the next packet ends, as a function of the world it starts from and the trace
lines `io` printed by the reads — nothing else of the read decisions enters. By `frame1` (the
specification of framing) on the bytes held followed by the bytes the transport has:
* a packet: `drive_packet` is entered with exactly the packet in the reader and the rest in the
  transport;
* the reader must fail: the handle is dead, the operation returns `Peer(InvalidPacket)`;
* the bytes run out first: the operation is suspended in the same read, holding them all. -/
def World.finalRead (W : World) (outer : Outer) (dl : Option Nat) (io : List String) : World :=
  match frame1 W.sess.reader.cap (W.sess.reader.data ++ W.curNet.rx) with
  | .packet pkt rest =>
    { driveEnter 3998 (W.withRead (W.sess.reader.packetOf pkt) rest io none) outer with slot := none }
  | .stop (.malformed held) =>
    { ((W.withRead (W.sess.reader.packetOf held)
          ((W.sess.reader.data ++ W.curNet.rx).drop held.length) io none).handleDisconnect).finishErr
        (outerName outer) .peerInvalid with slot := none }
  | .stop (.exhausted held) =>
    W.withRead (W.sess.reader.holding held) [] io (some (.waitRead outer dl true))

/-- `finalRead` names the fuel that is left of `pollFuel` = 4000 where the read ends; which number it is does not
matter, any fuel from `fuelBound` on gives `ev` (`run_ev`). -/
theorem driveEnter_3998 (w : World) (o : Outer) : driveEnter 3998 w o = ev (.DE w o) := run_ev (.DE w o) 3998 (by decide)

def IoLines (W : World) (io : List String) : Prop :=
  ∀ l ∈ io, l = W.rpLine ∨ ∃ c, l = W.rLine c

theorem handleDisconnect_withRead (W : World) (rd rd' : Reader) (rest : Bytes) (io : List String)
    (fut : Option Pc) (hc : rd.cap = rd'.cap) (hl : rd.last = rd'.last) :
    (W.withRead rd rest io fut).handleDisconnect = (W.withRead rd' rest io fut).handleDisconnect := by
  unfold World.handleDisconnect Session.handleDisconnect World.withRead Reader.reset
  simp only [hc, hl]

theorem finalRead_withRead (W : World) (outer : Outer) (dl : Option Nat) (d' rest : Bytes)
    (io0 io' : List String) (f : Option Pc) (hs : d' ++ rest = W.sess.reader.data ++ W.curNet.rx) :
    (W.withRead (W.sess.reader.holding d') rest io0 f).finalRead outer dl io' =
      W.finalRead outer dl (io' ++ io0) := by
  unfold World.finalRead
  rw [withRead_curNet]
  show (match frame1 W.sess.reader.cap (d' ++ rest) with
    | .packet pkt rest' => _
    | .stop (.malformed held) => _
    | .stop (.exhausted held) => _) = _
  rw [hs]
  cases frame1 W.sess.reader.cap (W.sess.reader.data ++ W.curNet.rx) with
  | packet pkt rest' =>
    simp only []
    rw [withRead_withRead]; rfl
  | stop e =>
    cases e with
    | malformed held =>
      simp only []
      rw [withRead_withRead]
      have e : (W.withRead (W.sess.reader.holding d') rest io0 f).sess.reader.data ++ rest =
          W.sess.reader.data ++ W.curNet.rx := hs
      rw [e]
      rfl
    | exhausted held =>
      simp only []
      rw [withRead_withRead]; rfl

theorem drop_append_take (a rx : Bytes) (c : Nat) :
    (a ++ rx).drop (a ++ rx.take c).length = rx.drop c := by
  rw [show a ++ rx = (a ++ rx.take c) ++ rx.drop c by rw [List.append_assoc, List.take_append_drop], List.drop_left]

theorem IoLines.r (W : World) (c : Nat) : IoLines W [W.rLine c] :=
  fun _ hl => .inr ⟨c, List.mem_singleton.mp hl⟩

theorem IoLines.rp_r (W : World) (c : Nat) : IoLines W [W.rpLine, W.rLine c] := by
  intro l hl
  rcases List.mem_cons.mp hl with rfl | hl
  · exact .inl rfl
  · exact IoLines.r W c l hl

/-- Induction on `ks`: a read that ends the reading lands on `finalRead`; a partial read leaves a world with the
same `finalRead` (`finalRead_withRead`), waiting again with fewer bytes to read. -/
theorem readPacket_final : ∀ (ks : List Nat) (W : World) (outer : Outer) (dl : Option Nat) (y : Bool),
    W.fut = some (.waitRead outer dl y) → DeadlineOK W.now dl →
    Waiting W.sess.reader W.curNet.rx → W.curNet.rx ≠ [] →
    (∀ k ∈ ks, 1 ≤ k ∧ k ≤ 250) → W.curNet.rx.length ≤ ks.length →
    ∃ io, IoLines W io ∧ readPacket ks W = W.finalRead outer dl io := by
  intro ks
  induction ks with
  | nil =>
    intro W outer dl y _ _ _ hne _ hlen
    exact absurd (List.eq_nil_of_length_eq_zero (by simpa using hlen)) hne
  | cons k ks ih =>
    intro W outer dl y hfut hdl hwait hne hks hlen
    obtain ⟨hk1, hk⟩ := hks k (by simp)
    obtain ⟨_, _, hc1, _, hcl⟩ := read_setup hwait hne hk1
    simp only [readPacket]
    cases hkind : readKind W.sess.reader W.curNet.rx (W.readCount k) with
    | packet =>
      obtain ⟨hf1, hex⟩ := (waitReadLoop outer dl y).packet W k hfut hwait hne hk1 hk hkind
      refine ⟨_, IoLines.r W (W.readCount k), ?_⟩
      rw [if_pos (by unfold World.readDone; rw [hkind]), hex]
      unfold World.finalRead
      rw [hf1]
      simp only [driveEnter_3998]
    | malformed =>
      obtain ⟨hf1, hex⟩ := (waitReadLoop outer dl y).fails W k hfut hwait hne hk1 hk hkind
      refine ⟨_, IoLines.r W (W.readCount k), ?_⟩
      rw [if_pos (by unfold World.readDone; rw [hkind]), hex]
      unfold World.finalRead
      rw [hf1]
      simp only []
      rw [drop_append_take, handleDisconnect_withRead W (W.sess.reader.fed W.curNet.rx (W.readCount k))
        (W.sess.reader.packetOf (W.sess.reader.data ++ W.curNet.rx.take (W.readCount k))) _ _ none rfl rfl]
    | more =>
      obtain ⟨hex, hwait', hexh⟩ := (waitReadLoop outer dl y).more W k hfut hdl hwait hne hk1 hk hkind
      have hd : W.readDone k = (W.curNet.rx.drop (W.readCount k)).isEmpty := by
        unfold World.readDone; rw [hkind]
      rw [hd, hex]
      by_cases hnil : W.curNet.rx.drop (W.readCount k) = []
      · refine ⟨_, IoLines.rp_r W (W.readCount k), ?_⟩
        rw [if_pos (by rw [hnil]; rfl)]
        unfold World.finalRead
        rw [hexh hnil]
        have htk : W.curNet.rx.take (W.readCount k) = W.curNet.rx := by
          have := List.take_append_drop (W.readCount k) W.curNet.rx
          rwa [hnil, List.append_nil] at this
        rw [hnil, htk]
      · rw [if_neg (by simpa using hnil)]
        obtain ⟨io', hio', hrun⟩ := ih
          (W.withRead (W.sess.reader.holding (W.sess.reader.data ++ W.curNet.rx.take (W.readCount k)))
            (W.curNet.rx.drop (W.readCount k)) [W.rpLine, W.rLine (W.readCount k)]
            (some (.waitRead outer dl true)))
          outer dl true rfl hdl
          (by rw [withRead_curNet]; exact hwait')
          (by rw [withRead_curNet]; exact hnil)
          (fun k' hk' => hks k' (by simp [hk']))
          (by rw [withRead_curNet]; simp only [List.length_drop]; simp only [List.length_cons] at hlen; omega)
        refine ⟨io' ++ [W.rpLine, W.rLine (W.readCount k)], fun l hl => ?_, ?_⟩
        · rcases List.mem_append.mp hl with hl | hl
          · have := hio' l hl
            simp only [World.rpLine, World.rLine, withRead_netIdx _ _ _ _ _ (nets_ne_of_rx hne)] at this
            exact this
          · exact IoLines.rp_r W _ l hl
        · rw [hrun]
          exact finalRead_withRead W outer dl _ _ _ _ _ (by simp)

end Minimq
