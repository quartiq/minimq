import Minimq.Proofs.WireLog
import Minimq.Proofs.Exchange
/-
Acknowledgements against the inbound log (C04 on the wire).

`Session.inlog` (ghost) records every packet handed to `handle_packet` on the current connection with
the control actions its handling queued; it is restarted by a successful CONNACK with one record that
lists what was still queued from earlier connections. `AckEq`: the control actions written completely
on the current transport (log entries tagged `.control`), followed by the ones still waiting in the
control queue, are exactly the recorded ones, in the order of the records — PINGREQ, which is queued by
the keep-alive and not by an inbound packet, left out on both sides.
-/
namespace Minimq
open Gen World Outbound

def LogEntry.ctl? (f : LogEntry) : Option ControlAction :=
  match f.tag with
  | .control a => some a
  | _ => none

/-- The control actions in a log, in the order they were written. -/
def ctlActs (l : List LogEntry) : List ControlAction := l.filterMap LogEntry.ctl?

theorem ctlActs_append (l l' : List LogEntry) : ctlActs (l ++ l') = ctlActs l ++ ctlActs l' := by
  simp [ctlActs, List.filterMap_append]

/-- Without the keep-alive probes. -/
def nonPing (l : List ControlAction) : List ControlAction := l.filter (fun a => a.typ != MT_PingReq)

theorem nonPing_append (l l' : List ControlAction) : nonPing (l ++ l') = nonPing l ++ nonPing l' := by
  simp [nonPing]

/-- The control actions in the queue that have not been written completely, oldest first. -/
def Outbound.pendActs (o : Outbound) : List ControlAction :=
  (o.control.filter (fun e => e.state.isWrite)).map PendingControl.action

/-- The control actions recorded in an inbound log. -/
def owedActs (il : List InRec) : List ControlAction := nonPing (il.flatMap (·.acks))

theorem owedActs_append (il il' : List InRec) : owedActs (il ++ il') = owedActs il ++ owedActs il' := by
  simp [owedActs, nonPing_append]

/-- **The accounting.** Written acknowledgements, then waiting ones = recorded ones, in order. -/
def AckEq (s : Session) (l : List LogEntry) : Prop :=
  nonPing (ctlActs l) ++ nonPing s.data.outbound.pendActs = owedActs s.inlog

theorem AckEq.same {s s' : Session} {l : List LogEntry} (h : AckEq s l)
    (hc : s'.data.outbound.control = s.data.outbound.control) (hi : s'.inlog = s.inlog) : AckEq s' l := by
  unfold AckEq Outbound.pendActs at *
  rw [hc, hi]; exact h

theorem pendActs_of_fresh {o : Outbound} (h : ∀ e ∈ o.control, e.state = .write 0) :
    o.pendActs = o.control.map PendingControl.action := by
  unfold Outbound.pendActs
  rw [List.filter_eq_self.mpr]
  intro e he
  rw [h e he]; rfl

theorem pendActs_cons {o : Outbound} {e : PendingControl} {rest : List PendingControl} (hc : o.control = e :: rest)
    (hrest : ∀ x ∈ rest, x.state = .write 0) :
    o.pendActs = if e.state.isWrite then e.action :: rest.map PendingControl.action else rest.map PendingControl.action := by
  have hrestW : rest.filter (fun e => e.state.isWrite) = rest :=
    List.filter_eq_self.mpr (fun x hx => by rw [hrest x hx]; rfl)
  unfold Outbound.pendActs
  rw [hc, List.filter_cons]
  split <;> simp [hrestW]

theorem AckEq.append_other {s : Session} {l : List LogEntry} (h : AckEq s l) (f : LogEntry) (hf : f.ctl? = none) :
    AckEq s (l ++ [f]) := by
  unfold AckEq at *
  have : ctlActs (l ++ [f]) = ctlActs l := by simp [ctlActs, hf]
  rw [this]; exact h

theorem AckEq.queuePing {s s' : Session} {now : Nat} {l : List LogEntry} (h : AckEq s l) (hq : s.queuePing now = .ok s') :
    AckEq s' l := by
  rcases Session.queuePing_ok hq with rfl | ⟨o, ho, rfl⟩
  · exact h
  · obtain ⟨_, rfl⟩ := queueControl_some ho
    unfold AckEq Outbound.pendActs at *
    simp only [Session.setOutbound, List.filter_append, List.map_append, nonPing_append]
    have : nonPing (List.map PendingControl.action
        (List.filter (fun e => e.state.isWrite) [{ action := ControlAction.pingReq, state := SendState.write 0 }])) = [] := by
      decide
    rw [this, List.append_nil]; exact h

theorem AckEq.setWritten {s : Session} {l : List LogEntry} {step : Outbound.Step} {j : Nat} (k : Nat) (h : AckEq s l)
    (hs : s.data.outbound.Slot step) (hst : step.state = .write j) (wr len : Nat) :
    (wr < len → AckEq (s.setWritten step.flushed wr len) l) ∧
    (len ≤ wr → AckEq (s.setWritten step.flushed wr len) (l ++ [s.data.outbound.done k step.flushed])) := by
  -- only a control action moves the accounting: while it is being written it waits (first clause); written
  -- completely it leaves the waiting ones and joins the written ones, at the same place of the sum (second clause)
  cases hs with
  | control a st rest hc hrest hrel hret =>
    simp only [Outbound.Step.state] at hst
    have hctl : (s.setWritten (.control a) wr len).data.outbound.control = ⟨a, SendState.afterWrite wr len⟩ :: rest := by
      rw [Session.setWritten_outbound]
      simp [Outbound.setWritten, setControlWritten, hc, modifyFirst]
    have hpend : s.data.outbound.pendActs = a :: rest.map PendingControl.action := by
      rw [pendActs_cons hc hrest, hst]; rfl
    constructor
    · intro hlt
      unfold AckEq at *
      show _ = owedActs s.inlog
      have : (s.setWritten (.control a) wr len).data.outbound.pendActs = a :: rest.map PendingControl.action := by
        rw [pendActs_cons hctl hrest, afterWrite_lt hlt]; rfl
      simp only [Outbound.Step.flushed]
      rw [this, ← hpend]; exact h
    · intro hge
      unfold AckEq at *
      show _ = owedActs s.inlog
      have hp' : (s.setWritten (.control a) wr len).data.outbound.pendActs = rest.map PendingControl.action := by
        rw [pendActs_cons hctl hrest, afterWrite_ge hge]; rfl
      have hd : ctlActs (l ++ [s.data.outbound.done k (.control a)]) = ctlActs l ++ [a] := by
        simp [ctlActs, Outbound.done, LogEntry.ctl?]
      simp only [Outbound.Step.flushed]
      rw [hp', hd, nonPing_append, List.append_assoc, ← h, hpend]
      congr 1
      show nonPing [a] ++ nonPing (rest.map PendingControl.action) = nonPing (a :: rest.map PendingControl.action)
      rw [← nonPing_append]; rfl
  | release pre id rc st rs ps post hr hpre hpost hctl hret hsent =>
    have hsame : AckEq (s.setWritten (.release id) wr len) l :=
      h.same (by rw [Session.setWritten_outbound]; rfl) rfl
    refine ⟨fun _ => hsame, fun _ => hsame.append_other _ ?_⟩
    simp only [Outbound.Step.flushed, Outbound.done]
    split <;> rfl
  | retained pre e post hr hpre hpost hctl hrel hsent =>
    have hsame : AckEq (s.setWritten (.retained e.id) wr len) l :=
      h.same (by rw [Session.setWritten_outbound]; rfl) rfl
    refine ⟨fun _ => hsame, fun _ => hsame.append_other _ ?_⟩
    simp only [Outbound.Step.flushed, Outbound.done]
    split <;> rfl

theorem AckEq.completeFlush {s : Session} {l : List LogEntry} {step : Outbound.Step} (h : AckEq s l)
    (hs : s.data.outbound.Slot step) (hst : step.state = .flush) (now : Nat) : AckEq (s.completeFlush step.flushed now) l := by
  cases hs with
  | control a st rest hc hrest hrel hret =>
    simp only [Outbound.Step.state] at hst
    have hrestS : rest.filter (fun e => decide (e.state ≠ SendState.sent)) = rest :=
      List.filter_eq_self.mpr (fun e he => by rw [hrest e he]; decide)
    have hpend : s.data.outbound.pendActs = rest.map PendingControl.action := by
      rw [pendActs_cons hc hrest, hst]; rfl
    have hctl' : (s.completeFlush (.control a) now).data.outbound.control = rest := by
      rw [Session.completeFlush_outbound]
      simp only [Outbound.completeFlush, flushControl, hc, modifyFirst, beq_self_eq_true, if_true, List.filter_cons]
      rw [if_neg (by simp)]
      exact hrestS
    have hp' : (s.completeFlush (.control a) now).data.outbound.pendActs = rest.map PendingControl.action := by
      rw [pendActs_of_fresh (by rw [hctl']; exact hrest), hctl']
    unfold AckEq at *
    simp only [Outbound.Step.flushed]
    show _ = owedActs s.inlog
    rw [hp', ← hpend]; exact h
  | release pre id rc st rs ps post hr hpre hpost hctl hret hsent =>
    exact h.same (by rw [Session.completeFlush_outbound]; rfl) rfl
  | retained pre e post hr hpre hpost hctl hrel hsent =>
    exact h.same (by rw [Session.completeFlush_outbound]; rfl) rfl

theorem Session.handle_inlog (s : Session) (p : Recv) :
    (s.handle p).1.inlog = s.inlog ++ [⟨some p, ((s.handle p).1.data.outbound.control.drop s.data.outbound.control.length).map
      PendingControl.action⟩] := rfl

theorem handlePacket_control_exact (d : SessionData) (r : Runtime) (p : Recv) :
    (handlePacket d r p).1.outbound.control =
      d.outbound.control ++ (ackRecorded d r p).map (fun a => ⟨a, .write 0⟩) :=
  (handlePacket_frame d r p).control

/-- **What the inbound log records.** Handling `p` appends the record `(p, acks)` where `acks` is the
acknowledgement owed for `p` — if the broker's Maximum Packet Size admits the five bytes and the control
queue has room — and nothing otherwise. -/
theorem handle_record (s : Session) (p : Recv) :
    (s.handle p).1.inlog = s.inlog ++ [⟨some p, ackRecorded s.data s.rt p⟩] := by
  rw [Session.handle_inlog, Session.handle_fst_data, handlePacket_control_exact]
  simp [List.map_map, Function.comp_def]

/-- An inbound packet is handled: the record and the queue grow by the same actions. -/
theorem AckEq.handle {s : Session} {l : List LogEntry} (h : AckEq s l) (p : Recv) : AckEq (s.handle p).1 l := by
  unfold AckEq at *
  rw [handle_record, owedActs_append, ← h, List.append_assoc]
  congr 1
  rw [Session.handle_fst_data]
  simp [Outbound.pendActs, handlePacket_control_exact, owedActs, nonPing_append, List.filter_append,
    Function.comp_def, SendState.isWrite, List.filter_eq_self.mpr]

/-- An accepted CONNACK restarts the inbound log with what is queued. -/
theorem AckEq.activate (s : Session) (sp : Bool) (block : Bytes) (now : Nat) (hok : (s.activate sp block now).2 = .ok ())
    (hfresh : ∀ e ∈ (s.activate sp block now).1.data.outbound.control, e.state = .write 0) :
    AckEq (s.activate sp block now).1 [] := by
  unfold AckEq
  rw [pendActs_of_fresh hfresh, activate_fst_of_ok hok]
  simp [Session.activated, owedActs, ctlActs, nonPing]

theorem alloc_ctl (s : Session) :
    s.alloc.1.data.outbound.control = s.data.outbound.control ∧ s.alloc.1.inlog = s.inlog := by
  rw [Session.alloc_fst]
  exact ⟨by show s.data.nextPacketId.1.outbound.control = _; rw [nextPacketId_outbound], rfl⟩

theorem encode_ctl {ε : Type} (s : Session) (enc : Nat → (Nat → Nat → Bytes) → Except ε (Nat × Bytes)) :
    (s.encode enc).1.data.outbound.control = s.data.outbound.control ∧ (s.encode enc).1.inlog = s.inlog := by
  rw [Session.encode_fst]
  exact ⟨(encodeAt_frame s.data.outbound enc).2.2.1, rfl⟩

theorem retain_ctl {s s3 : Session} {id off len : Nat} {isPub : Bool} (hr : s.retain id off len isPub = some s3) :
    s3.data.outbound.control = s.data.outbound.control ∧ s3.inlog = s.inlog := by
  obtain ⟨o, ho, rfl⟩ := Session.retain_some hr
  obtain ⟨_, rfl⟩ := retainPacket_some ho
  exact ⟨rfl, rfl⟩

theorem AckEq.encode {ε : Type} {s : Session} {l : List LogEntry} (h : AckEq s l)
    (enc : Nat → (Nat → Nat → Bytes) → Except ε (Nat × Bytes)) : AckEq (s.encode enc).1 l :=
  h.same (encode_ctl s enc).1 (encode_ctl s enc).2

theorem AckEq.retain {s s3 : Session} {l : List LogEntry} {id off len : Nat} {isPub : Bool} (h : AckEq s l)
    (hr : s.retain id off len isPub = some s3) : AckEq s3 l :=
  h.same (retain_ctl hr).1 (retain_ctl hr).2

theorem ackOwed_typ {ids : List Nat} {p : Recv} {a : ControlAction} (h : ackOwed ids p = some a) :
    a.typ = MT_PubAck ∨ a.typ = MT_PubRec ∨ a.typ = MT_PubComp := by
  unfold ackOwed at h
  split at h
  · split at h
    · cases h
    · split at h <;> cases h
      · exact .inl rfl
      · exact .inr (.inl rfl)
  · split at h <;> cases h
    exact .inr (.inr rfl)
  · cases h

theorem ackOwed_of_recorded {d : SessionData} {r : Runtime} {p : Recv} {a : ControlAction} (h : a ∈ ackRecorded d r p) :
    ackOwed d.pendingServerIds p = some a := by
  unfold ackRecorded at h
  split at h
  · cases h
  · rename_i b hb
    split at h
    · rw [hb, List.mem_singleton.mp h]
    · cases h

/-- Of all the primitives only `handle` (one record appended) and `activate` on an acceptable CONNACK
(the log restarts with the record of what is still queued) write the inbound log. -/
theorem Prim.inlog_changes {s s' : Session} (h : Prim s s') :
    s'.inlog = s.inlog ∨
    (∃ p, s' = (s.handle p).1 ∧ s'.inlog = s.inlog ++ [⟨some p, ackRecorded s.data s.rt p⟩]) ∨
    (∃ sp block now, s' = (s.activate sp block now).1 ∧ (s.activate sp block now).2 = .ok () ∧
      s'.inlog = [⟨none, s'.data.outbound.control.map PendingControl.action⟩] ∧
      (sp = false → s'.data.outbound.control = []) ∧
      (sp = true → s'.data.outbound.control = s.data.outbound.control)) := by
  rcases h.shape with ⟨p, rfl⟩ | ⟨sp, block, now, rfl⟩ | ⟨_, _, _, _, _, _, _, _, rfl⟩
  · exact .inr (.inl ⟨p, rfl, handle_record s p⟩)
  · rcases s.activate_kinds sp block now with ⟨_, e⟩ | ⟨_, e⟩
    · exact .inr (.inr ⟨sp, block, now, rfl, by rw [e], by rw [e]; exact ⟨rfl, by rintro rfl; rfl, by rintro rfl; rfl⟩⟩)
    · exact .inl (by rw [e]; cases sp <;> rfl)
  · exact .inl rfl

/-- The shape of the inbound log: only the first record can be the one written by a CONNACK, and every
other record carries, for its packet, what `ackRecorded d r` gives in some state `(d, r)` — kind and
identifier of the acknowledgement owed, or nothing; `d`, `r` are not tied to the state in which the packet
was handled (that is in `Prim.inlog_changes`). -/
structure InlogOK (s : Session) : Prop where
  recs : ∀ rec ∈ s.inlog, ∀ p, rec.pkt = some p → ∃ (d : SessionData) (r : Runtime), rec.acks = ackRecorded d r p
  carry : ∀ rec ∈ s.inlog.drop 1, rec.pkt ≠ none

theorem closed_InlogOK : Closed InlogOK :=
  (closed_iff_prim InlogOK).2 (fun s s' hp h => by
    rcases hp.inlog_changes with he | ⟨p, _, he⟩ | ⟨sp, block, now, _, _, he, _⟩
    · exact ⟨by rw [he]; exact h.recs, by rw [he]; exact h.carry⟩
    · refine ⟨?_, ?_⟩
      · rw [he]
        exact List.forall_mem_append.mpr ⟨h.recs, List.forall_mem_singleton.mpr fun q hq =>
          ⟨s.data, s.rt, by rw [← Option.some.inj hq]⟩⟩
      · intro rec hrec
        rw [he] at hrec
        cases hl : s.inlog with
        | nil => rw [hl] at hrec; simp at hrec
        | cons x xs =>
          rw [hl] at hrec
          simp only [List.cons_append, List.drop_succ_cons, List.drop_zero] at hrec
          rcases List.mem_append.mp hrec with hm | hm
          · exact h.carry rec (by rw [hl]; simpa using hm)
          · simp only [List.mem_singleton] at hm; subst hm; simp
    · refine ⟨?_, ?_⟩
      · intro rec hrec q hq
        rw [he] at hrec
        simp only [List.mem_singleton] at hrec; subst hrec
        cases hq
      · rw [he]; intro rec hrec; simp at hrec)

theorem InlogOK_new (cfg : Cfg) : InlogOK (Session.new cfg) :=
  ⟨by intro rec h; simp [Session.new] at h, by intro rec h; simp [Session.new] at h⟩

end Minimq
