import Minimq.Proofs.FirstMatch
/-
`next_step`, the scheduler of the three outbound queues.

`nextStepPrio b` is the first entry whose send state has priority `b` (`true`: in progress, `false`: fresh)
of the control queue, else of the release queue, else of the retained list — `nextStepPrio_cases`, from
which everything else about what is handed out follows: it has that priority, it comes from an entry that is
not yet sent (`StepOf`), it is the first such entry of its queue, nothing to send means everything is sent. `AllFresh` is the state
`arm_replay` leaves (`armReplay_queues`), in which `next_step` hands out the queues' heads in that order.
-/
namespace Minimq
open Gen Outbound

theorem matchesPriority_true (st : SendState) : st.matchesPriority true = st.isInProgress := by
  simp [SendState.matchesPriority]

theorem matchesPriority_false (st : SendState) : st.matchesPriority false = st.isFresh := by
  simp [SendState.matchesPriority]

theorem isFresh_iff (st : SendState) : st.isFresh = true ↔ st = .write 0 := by
  cases st with
  | write n => cases n <;> simp [SendState.isFresh]
  | flush => simp [SendState.isFresh]
  | sent => simp [SendState.isFresh]

theorem ne_sent_of_matches {st : SendState} {b : Bool} (h : st.matchesPriority b = true) : st ≠ .sent := by
  rintro rfl; cases b <;> cases h

theorem sent_of_neither (st : SendState) (h1 : st.isFresh = false) (h2 : st.isInProgress = false) : st = .sent := by
  cases st with
  | write n => cases n <;> simp [SendState.isFresh, SendState.isInProgress] at h1 h2
  | flush => simp [SendState.isInProgress] at h2
  | sent => rfl

theorem fresh_matches : (SendState.write 0).matchesPriority false = true ∧ (SendState.write 0).matchesPriority true = false :=
  ⟨rfl, rfl⟩

theorem fresh_not_inProgress (st : SendState) (h : st = .write 0) : st.isInProgress = false := by
  subst h; rfl

theorem nextStepPrio_cases (o : Outbound) (b : Bool) :
    (∃ e, o.control.find? (fun e => e.state.matchesPriority b) = some e ∧ o.nextStepPrio b = some (.control e.action e.state)) ∨
    ((∀ e ∈ o.control, e.state.matchesPriority b = false) ∧
      ((∃ e, o.release.find? (fun e => e.state.matchesPriority b) = some e ∧
          o.nextStepPrio b = some (.release e.id e.rc e.state)) ∨
       ((∀ e ∈ o.release, e.state.matchesPriority b = false) ∧
         ((∃ e, o.retained.find? (fun e => e.state.matchesPriority b) = some e ∧
             o.nextStepPrio b = some (.retained e.id e.offset e.len e.state)) ∨
          ((∀ e ∈ o.retained, e.state.matchesPriority b = false) ∧ o.nextStepPrio b = none))))) := by
  unfold nextStepPrio
  cases hc : o.control.find? (fun e => e.state.matchesPriority b) with
  | some e => exact Or.inl ⟨e, rfl, rfl⟩
  | none =>
    refine Or.inr ⟨find?_none_all hc, ?_⟩
    cases hr : o.release.find? (fun e => e.state.matchesPriority b) with
    | some e => exact Or.inl ⟨e, rfl, rfl⟩
    | none =>
      refine Or.inr ⟨find?_none_all hr, ?_⟩
      cases ht : o.retained.find? (fun e => e.state.matchesPriority b) with
      | some e => exact Or.inl ⟨e, rfl, rfl⟩
      | none => exact Or.inr ⟨find?_none_all ht, rfl⟩

/-- Nothing of priority `b` to hand out: no entry of any queue has it. -/
theorem nextStepPrio_none {o : Outbound} {b : Bool} (h : o.nextStepPrio b = none) :
    (∀ e ∈ o.control, e.state.matchesPriority b = false) ∧ (∀ e ∈ o.release, e.state.matchesPriority b = false) ∧
    (∀ e ∈ o.retained, e.state.matchesPriority b = false) := by
  rcases nextStepPrio_cases o b with ⟨e, _, h'⟩ | ⟨hc, ⟨e, _, h'⟩ | ⟨hr, ⟨e, _, h'⟩ | ⟨ht, _⟩⟩⟩
  · rw [h'] at h; cases h
  · rw [h'] at h; cases h
  · rw [h'] at h; cases h
  · exact ⟨hc, hr, ht⟩

theorem nextStepPrio_matches (o : Outbound) (b : Bool) (s : Outbound.Step) (h : o.nextStepPrio b = some s) :
    s.state.matchesPriority b = true := by
  rcases nextStepPrio_cases o b with ⟨e, he, h'⟩ | ⟨_, ⟨e, he, h'⟩ | ⟨_, ⟨e, he, h'⟩ | ⟨_, h'⟩⟩⟩ <;> rw [h'] at h <;>
    cases h <;> exact (List.find?_some he :)

/-- The step `next_step` hands out comes from an entry of one of the queues that is not yet `Sent`. -/
inductive Outbound.StepOf (o : Outbound) : Outbound.Step → Prop
  | control (e : PendingControl) (he : e ∈ o.control) (hs : e.state ≠ .sent) : StepOf o (.control e.action e.state)
  | release (e : PendingRelease) (he : e ∈ o.release) (hs : e.state ≠ .sent) : StepOf o (.release e.id e.rc e.state)
  | retained (e : RetainedPacket) (he : e ∈ o.retained) (hs : e.state ≠ .sent) :
      StepOf o (.retained e.id e.offset e.len e.state)

theorem nextStepPrio_stepOf (o : Outbound) (b : Bool) (st : Outbound.Step) (h : o.nextStepPrio b = some st) :
    o.StepOf st := by
  rcases nextStepPrio_cases o b with ⟨e, he, h'⟩ | ⟨-, ⟨e, he, h'⟩ | ⟨-, ⟨e, he, h'⟩ | ⟨-, h'⟩⟩⟩ <;> rw [h'] at h <;> cases h
  · exact .control e (List.mem_of_find?_eq_some he) (ne_sent_of_matches (List.find?_some he :))
  · exact .release e (List.mem_of_find?_eq_some he) (ne_sent_of_matches (List.find?_some he :))
  · exact .retained e (List.mem_of_find?_eq_some he) (ne_sent_of_matches (List.find?_some he :))

theorem nextStepPrio_control {o : Outbound} {ip : Bool} {a : ControlAction} {st : SendState}
    (h : o.nextStepPrio ip = some (.control a st)) :
    ∃ l₁ e l₂, o.control = l₁ ++ e :: l₂ ∧ (∀ x ∈ l₁, x.state.matchesPriority ip = false) ∧
      e.action = a ∧ e.state = st ∧ st.matchesPriority ip = true := by
  rcases nextStepPrio_cases o ip with ⟨e, he, h'⟩ | ⟨hc, ⟨e, he, h'⟩ | ⟨hr, ⟨e, he, h'⟩ | ⟨_, h'⟩⟩⟩ <;> rw [h'] at h <;>
    cases h
  obtain ⟨l₁, l₂, hl, hn, hm⟩ := find?_first he
  exact ⟨l₁, e, l₂, hl, hn, rfl, rfl, hm⟩

theorem nextStepPrio_release {o : Outbound} {ip : Bool} {id rc : Nat} {st : SendState}
    (h : o.nextStepPrio ip = some (.release id rc st)) :
    (∀ c ∈ o.control, c.state.matchesPriority ip = false) ∧
    ∃ l₁ e l₂, o.release = l₁ ++ e :: l₂ ∧ (∀ x ∈ l₁, x.state.matchesPriority ip = false) ∧
      e.id = id ∧ e.rc = rc ∧ e.state = st ∧ st.matchesPriority ip = true := by
  rcases nextStepPrio_cases o ip with ⟨e, he, h'⟩ | ⟨hc, ⟨e, he, h'⟩ | ⟨hr, ⟨e, he, h'⟩ | ⟨_, h'⟩⟩⟩ <;> rw [h'] at h <;>
    cases h
  obtain ⟨l₁, l₂, hl, hn, hm⟩ := find?_first he
  exact ⟨hc, l₁, e, l₂, hl, hn, rfl, rfl, rfl, hm⟩

theorem nextStepPrio_retained {o : Outbound} {ip : Bool} {id off len : Nat} {st : SendState}
    (h : o.nextStepPrio ip = some (.retained id off len st)) :
    (∀ c ∈ o.control, c.state.matchesPriority ip = false) ∧ (∀ x ∈ o.release, x.state.matchesPriority ip = false) ∧
    ∃ l₁ e l₂, o.retained = l₁ ++ e :: l₂ ∧ (∀ x ∈ l₁, x.state.matchesPriority ip = false) ∧
      e.id = id ∧ e.offset = off ∧ e.len = len ∧ e.state = st ∧ st.matchesPriority ip = true := by
  rcases nextStepPrio_cases o ip with ⟨e, he, h'⟩ | ⟨hc, ⟨e, he, h'⟩ | ⟨hr, ⟨e, he, h'⟩ | ⟨_, h'⟩⟩⟩ <;> rw [h'] at h <;>
    cases h
  obtain ⟨l₁, l₂, hl, hn, hm⟩ := find?_first he
  exact ⟨hc, hr, l₁, e, l₂, hl, hn, rfl, rfl, rfl, rfl, hm⟩

/-- `next_step`: in-progress entries first. -/
theorem nextStep_cases (o : Outbound) :
    (∃ s, o.nextStepPrio true = some s ∧ o.nextStep = some s) ∨
    (o.nextStepPrio true = none ∧ o.nextStep = o.nextStepPrio false) := by
  unfold nextStep
  cases o.nextStepPrio true with
  | some s => exact .inl ⟨s, rfl, rfl⟩
  | none => exact .inr ⟨rfl, rfl⟩

theorem nextStep_stepOf (o : Outbound) (st : Outbound.Step) (h : o.nextStep = some st) : o.StepOf st := by
  rcases nextStep_cases o with ⟨s, h1, e⟩ | ⟨_, e⟩ <;> rw [e] at h
  · cases h; exact nextStepPrio_stepOf o true _ h1
  · exact nextStepPrio_stepOf o false _ h

theorem nextStep_not_sent (o : Outbound) (s : Outbound.Step) (h : o.nextStep = some s) : s.state ≠ .sent := by
  cases nextStep_stepOf o s h <;> assumption

theorem nextStep_none_finds (o : Outbound) (h : o.nextStep = none) (b : Bool) :
    o.control.find? (fun e => e.state.matchesPriority b) = none ∧
    o.release.find? (fun e => e.state.matchesPriority b) = none ∧
    o.retained.find? (fun e => e.state.matchesPriority b) = none := by
  have hp : o.nextStepPrio b = none := by
    rcases nextStep_cases o with ⟨s, _, e⟩ | ⟨ht, e⟩ <;> rw [e] at h
    · cases h
    · cases b
      · exact h
      · exact ht
  obtain ⟨hc, hr, ht⟩ := nextStepPrio_none hp
  exact ⟨find?_none_of_all hc, find?_none_of_all hr, find?_none_of_all ht⟩

theorem nextStep_none_sent (o : Outbound) (h : o.nextStep = none) :
    (∀ e ∈ o.control, e.state = .sent) ∧ (∀ e ∈ o.release, e.state = .sent) ∧ (∀ e ∈ o.retained, e.state = .sent) := by
  obtain ⟨c1, r1, t1⟩ := nextStep_none_finds o h true
  obtain ⟨c2, r2, t2⟩ := nextStep_none_finds o h false
  exact ⟨fun e he => sent_of_neither _ (find?_none_all c2 e he) (find?_none_all c1 e he),
    fun e he => sent_of_neither _ (find?_none_all r2 e he) (find?_none_all r1 e he),
    fun e he => sent_of_neither _ (find?_none_all t2 e he) (find?_none_all t1 e he)⟩

theorem nextStep_of_control (o : Outbound) (e : PendingControl) (he : e ∈ o.control) (hs : e.state ≠ .sent) :
    o.nextStep ≠ none :=
  fun h => hs ((nextStep_none_sent o h).1 e he)

theorem nextStep_of_pendingPingreq (o : Outbound) (h : o.hasPendingPingreq = true) : o.nextStep ≠ none := by
  unfold Outbound.hasPendingPingreq at h
  obtain ⟨e, he, hp⟩ := List.any_eq_true.mp h
  simp only [Bool.and_eq_true, decide_eq_true_eq] at hp
  exact nextStep_of_control o e he (by simpa using hp.2)

theorem nextStep_sole_control (o : Outbound) (h : o.nextStep = none) (a : ControlAction) :
    ({ o with control := [{ action := a, state := .write 0 }] } : Outbound).nextStep = some (.control a (.write 0)) := by
  obtain ⟨_, r1, t1⟩ := nextStep_none_finds o h true
  obtain ⟨_, r2, t2⟩ := nextStep_none_finds o h false
  unfold nextStep nextStepPrio
  simp only [r1, t1, r2, t2]
  rfl

/-- **Queue order.** When `next_step` hands out a retained packet for its first byte, every
acknowledgement / PINGREQ, every PUBREL and every retained packet in front of it has been sent
completely. -/
theorem nextStep_retained_fresh (o : Outbound) (id off len : Nat)
    (h : o.nextStep = some (.retained id off len (.write 0))) :
    (∀ e ∈ o.control, e.state = .sent) ∧ (∀ e ∈ o.release, e.state = .sent) ∧
    ∃ pre e post, o.retained = pre ++ e :: post ∧ e.id = id ∧ e.offset = off ∧ e.len = len ∧ e.state = .write 0 ∧
      (∀ x ∈ pre, x.state = .sent) := by
  rcases nextStep_cases o with ⟨s, hs, e⟩ | ⟨hnone, e⟩ <;> rw [e] at h
  · cases h; cases (nextStepPrio_matches o true _ hs)
  · -- nothing is in progress, so what comes before the first fresh retained entry is sent
    obtain ⟨c1, r1, t1⟩ := nextStepPrio_none hnone
    obtain ⟨c2, r2, pre, e, post, hl, t2, h1, h2, h3, h4, _⟩ := nextStepPrio_retained h
    refine ⟨fun x hx => sent_of_neither _ (c2 x hx) (c1 x hx), fun x hx => sent_of_neither _ (r2 x hx) (r1 x hx),
      pre, e, post, hl, h1, h2, h3, h4, fun x hx => sent_of_neither _ (t2 x hx) (t1 x ?_)⟩
    rw [hl]; exact List.mem_append_left _ hx

/-- Every entry of the three queues is waiting for its first byte to be written. -/
structure Outbound.AllFresh (o : Outbound) : Prop where
  control : ∀ e ∈ o.control, e.state = .write 0
  release : ∀ e ∈ o.release, e.state = .write 0
  retained : ∀ e ∈ o.retained, e.state = .write 0

theorem nextStep_allFresh (o : Outbound) (h : o.AllFresh) :
    o.nextStep =
      match o.control with
      | e :: _ => some (.control e.action (.write 0))
      | [] =>
        match o.release with
        | e :: _ => some (.release e.id e.rc (.write 0))
        | [] =>
          match o.retained with
          | e :: _ => some (.retained e.id e.offset e.len (.write 0))
          | [] => none := by
  -- a fresh entry has the second priority and not the first, so each `find?` is decided by the head of its list
  have hnone : ∀ {α : Type} {st : α → SendState} {l : List α}, (∀ e ∈ l, st e = .write 0) →
      l.find? (fun e => (st e).matchesPriority true) = none :=
    fun hl => find?_none_of_all fun e he => by rw [hl e he]; rfl
  have hhead : ∀ {α : Type} {st : α → SendState} {e : α} {l : List α}, (∀ x ∈ e :: l, st x = .write 0) →
      (e :: l).find? (fun e => (st e).matchesPriority false) = some e ∧ st e = .write 0 :=
    fun hl => ⟨List.find?_cons_of_pos (by rw [hl _ List.mem_cons_self]; rfl), hl _ List.mem_cons_self⟩
  have hc := h.control
  have hr := h.release
  have ht := h.retained
  unfold nextStep nextStepPrio
  rw [hnone hc, hnone hr, hnone ht]
  dsimp only
  generalize o.control = c, o.release = r, o.retained = t at hc hr ht ⊢
  cases c with
  | cons e _ => simp only [(hhead hc).1, (hhead hc).2]
  | nil =>
    cases r with
    | cons e _ => simp only [List.find?_nil, (hhead hr).1, (hhead hr).2]
    | nil =>
      cases t with
      | cons e _ => simp only [List.find?_nil, (hhead ht).1, (hhead ht).2]
      | nil => rfl

theorem Quiesce.quiescent_iff' (o : Outbound) : o.isQuiescent = true ↔ o.control = [] ∧ o.retained = [] ∧ o.release = [] := by
  simp [Outbound.isQuiescent, Outbound.hasPendingState, List.isEmpty_iff, and_assoc]

/-- What `arm_replay` does to the queues and the counters. It returns early when nothing is pending; the
queues are empty then, so the equations hold in that case too. -/
theorem armReplay_queues (o : Outbound) :
    o.armReplay.retained = o.retained.map (fun e => { e with state := .write 0 }) ∧
    o.armReplay.release = o.release.map (fun e => { e with state := .write 0 }) ∧
    o.armReplay.control = o.control.map (fun e => { e with state := .write 0 }) ∧
    o.armReplay.nextSer = o.nextSer ∧ o.armReplay.nextRser = o.nextRser := by
  unfold armReplay
  split
  · rename_i h
    simp only [hasPendingState, Bool.not_eq_true', Bool.or_eq_false_iff, Bool.not_eq_false',
      List.isEmpty_iff] at h
    obtain ⟨⟨h1, h2⟩, h3⟩ := h
    simp [h1, h2, h3]
  · exact ⟨rfl, rfl, rfl, rfl, rfl⟩

/-- `arm_replay` (called by `connect` and by every disconnect) resets every entry of every queue. -/
theorem armReplay_allFresh (o : Outbound) : o.armReplay.AllFresh := by
  obtain ⟨h1, h2, h3, _⟩ := armReplay_queues o
  constructor <;> intro e he
  · rw [h3] at he; obtain ⟨x, _, rfl⟩ := List.mem_map.mp he; rfl
  · rw [h2] at he; obtain ⟨x, _, rfl⟩ := List.mem_map.mp he; rfl
  · rw [h1] at he; obtain ⟨x, _, rfl⟩ := List.mem_map.mp he; rfl

theorem armReplay_retained_fresh (o : Outbound) :
    ∀ e ∈ o.armReplay.retained, e.state = .write 0 :=
  (armReplay_allFresh o).retained

theorem armReplay_ids (o : Outbound) :
    o.armReplay.control.map (·.action) = o.control.map (·.action) ∧
    o.armReplay.release.map (fun e => (e.id, e.rc)) = o.release.map (fun e => (e.id, e.rc)) ∧
    o.armReplay.retained.map (fun e => (e.id, e.offset, e.len, e.ser)) = o.retained.map (fun e => (e.id, e.offset, e.len, e.ser)) := by
  obtain ⟨h1, h2, h3, _⟩ := armReplay_queues o
  rw [h1, h2, h3]
  simp only [List.map_map, Function.comp_def, and_self]

theorem armReplay_nextStep (o : Outbound) :
    o.armReplay.nextStep =
      match o.control, o.release, o.retained with
      | c :: _, _, _ => some (.control c.action (.write 0))
      | [], x :: _, _ => some (.release x.id x.rc (.write 0))
      | [], [], e :: _ => some (.retained e.id e.offset e.len (.write 0))
      | [], [], [] => none := by
  obtain ⟨h1, h2, h3, _⟩ := armReplay_queues o
  rw [nextStep_allFresh _ (armReplay_allFresh o), h1, h2, h3]
  cases o.control with
  | cons c cs => rfl
  | nil =>
    cases o.release with
    | cons x xs => rfl
    | nil => cases o.retained <;> rfl

theorem allFresh_of_states {o o' : Outbound} (h : o.AllFresh) (hc : o'.control = o.control) (hr : o'.release = o.release)
    (hs : o'.retained.map (·.state) = o.retained.map (·.state)) : o'.AllFresh :=
  ⟨hc ▸ h.control, hr ▸ h.release, forall_of_map_eq (· = .write 0) hs h.retained⟩

end Minimq
