import Minimq.Varint
/-
Round-trip laws of the variable byte integer codec (`src/varint.rs`). Writer and reader are written
out for the four lengths; each is first shown to peel one base-128 digit per byte
(`encodeVarint_cont`, `decodeVarint_cont`), and the laws then go by induction on the digits.
-/
namespace Minimq
@[simp] theorem b_toNat (n : Nat) : (b n).toNat = n % 256 := by
  simp [b, UInt8.toNat_ofNat']
theorem MAXV : Gen.MQTT_VARINT_MAX = 268435455 := by decide

theorem b_of_toNat (x : UInt8) (m : Nat) (h : x.toNat = m) : x = b m := by
  subst h; simp [b]

theorem encodeVarint_length (n : Nat) : (encodeVarint n).length = varintLen n := by
  unfold encodeVarint varintLen Gen.varintLen
  by_cases h1 : n < 128
  · rw [if_pos h1, if_pos (by omega)]; rfl
  by_cases h2 : n < 16384
  · rw [if_neg h1, if_pos h2, if_neg (by omega), if_pos (by omega)]; rfl
  by_cases h3 : n < 2097152
  · rw [if_neg h1, if_neg h2, if_pos h3, if_neg (by omega), if_neg (by omega), if_pos (by omega)]; rfl
  · rw [if_neg h1, if_neg h2, if_neg h3, if_neg (by omega), if_neg (by omega), if_neg (by omega)]; rfl

theorem varintLen_bounds (n : Nat) : 1 ≤ varintLen n ∧ varintLen n ≤ 4 := by
  unfold varintLen Gen.varintLen; split <;> (try split) <;> (try split) <;> omega

theorem encodeVarint_ne_nil (n : Nat) : ∃ x xs, encodeVarint n = x :: xs :=
  List.exists_cons_of_length_pos (by rw [encodeVarint_length]; exact (varintLen_bounds n).1)

theorem encodeVarint_small (n : Nat) (h : n < 128) : encodeVarint n = [b n] := by
  rw [encodeVarint, if_pos h]

theorem encodeVarint_cont (n : Nat) (h1 : ¬ n < 128) (h2 : n < 268435456) :
    encodeVarint n = b (n % 128 + 128) :: encodeVarint (n / 128) := by
  have e1 : n / 128 / 128 = n / 16384 := Nat.div_div_eq_div_mul ..
  have e2 : n / 128 / 16384 = n / 2097152 := Nat.div_div_eq_div_mul ..
  unfold encodeVarint
  by_cases h3 : n < 16384
  · rw [if_neg h1, if_pos h3, if_pos (by omega)]
  by_cases h4 : n < 2097152
  · rw [if_neg h1, if_neg h3, if_pos h4, if_neg (by omega), if_pos (by omega), e1]
  · rw [if_neg h1, if_neg h3, if_neg h4, if_neg (by omega), if_neg (by omega), if_pos (by omega),
      e1, e2, Nat.mod_eq_of_lt (a := n / 2097152) (by omega)]

theorem decodeVarint_last (x : UInt8) (r : Bytes) (h : x.toNat < 128) :
    decodeVarint (x :: r) = some (x.toNat, r) := by
  simp only [decodeVarint, if_pos h]

/-- Behind a continuation byte the reader reads the rest of the number, which must not be a
padding zero and must leave room for the seven bits in front of it (the fifth byte is never
looked at). -/
theorem decodeVarint_cont (x : UInt8) (bs : Bytes) (h : ¬ x.toNat < 128) :
    decodeVarint (x :: bs) =
      match decodeVarint bs with
      | some (m, r) => if 0 < m ∧ m < 2097152 then some (x.toNat % 128 + m * 128, r) else none
      | none => none := by
  -- cases 2, 5, 8, 11: the leaves of `decodeVarint` that return a value of one, two, three, four bytes, numbered in
  -- the order of the branches of the definition (`Varint.lean`)
  fun_cases decodeVarint bs
  case case2 x0 r0 h0 =>
    simp only [decodeVarint, if_neg h, if_pos h0]
    by_cases hz : x0.toNat = 0
    · rw [if_pos hz, if_neg (by omega)]
    · rw [if_neg hz, if_pos (by omega)]
  case case5 x0 h0 x1 r1 h1 hz =>
    simp only [decodeVarint, if_neg h, if_neg h0, if_pos h1, if_neg hz]
    rw [if_pos (by omega)]
    congr 2; omega
  case case8 x0 h0 x1 h1 x2 r2 h2 hz =>
    simp only [decodeVarint, if_neg h, if_neg h0, if_neg h1, if_pos h2, if_neg hz]
    rw [if_pos (by omega)]
    congr 2; omega
  case case11 x0 h0 x1 h1 x2 h2 x3 r3 h3 hz =>
    simp only [decodeVarint, if_neg h, if_neg h0, if_neg h1, if_neg h2]
    rw [if_neg (by omega)]
  -- where the reader gives up on `bs`, it gives up one byte earlier as well
  all_goals simp only [decodeVarint, *, Nat.zero_lt_succ, if_true, if_false]

theorem decodeVarint_cont_some {x : UInt8} {bs r : Bytes} {v : Nat} (hx : ¬ x.toNat < 128)
    (h : decodeVarint (x :: bs) = some (v, r)) :
    ∃ m, decodeVarint bs = some (m, r) ∧ 0 < m ∧ m < 2097152 ∧ v = x.toNat % 128 + m * 128 := by
  rw [decodeVarint_cont x bs hx] at h
  split at h
  · rename_i m r' hm
    split at h
    · rename_i hr
      cases h
      exact ⟨m, hm, hr.1, hr.2, rfl⟩
    · cases h
  · cases h

theorem decode_encode_varint (n : Nat) (r : Bytes) (h : n ≤ Gen.MQTT_VARINT_MAX) :
    decodeVarint (encodeVarint n ++ r) = some (n, r) := by
  rw [MAXV] at h
  induction n using Nat.strongRecOn with
  | _ n ih =>
    by_cases hn : n < 128
    · have hb : (b n).toNat = n := by rw [b_toNat]; omega
      rw [encodeVarint_small n hn, List.singleton_append, decodeVarint_last _ _ (by omega), hb]
    · have hc : (b (n % 128 + 128)).toNat = n % 128 + 128 := by rw [b_toNat]; omega
      rw [encodeVarint_cont n hn (by omega), List.cons_append, decodeVarint_cont _ _ (by omega),
        ih (n / 128) (by omega) (by omega)]
      simp only
      rw [if_pos (by omega), hc, Nat.add_mod_right, Nat.mod_mod, Nat.mod_add_div']

theorem decodeVarint_canonical (bs r : Bytes) (n : Nat) (h : decodeVarint bs = some (n, r)) :
    bs = encodeVarint n ++ r ∧ n ≤ Gen.MQTT_VARINT_MAX := by
  rw [MAXV]
  induction bs generalizing n with
  | nil => cases h
  | cons x bs ih =>
    by_cases hx : x.toNat < 128
    · rw [decodeVarint_last x bs hx] at h
      cases h
      exact ⟨by rw [encodeVarint_small _ hx, ← b_of_toNat x _ rfl]; rfl, by omega⟩
    · obtain ⟨m, hm, h0, hlt, rfl⟩ := decodeVarint_cont_some hx h
      obtain ⟨rfl, _⟩ := ih m hm
      have hlo : (x.toNat % 128 + m * 128) % 128 = x.toNat % 128 := by
        rw [Nat.add_mul_mod_self_right, Nat.mod_mod]
      have hhi : (x.toNat % 128 + m * 128) / 128 = m := by
        rw [Nat.add_mul_div_right _ _ (by decide), Nat.div_eq_of_lt (Nat.mod_lt _ (by decide)),
          Nat.zero_add]
      have := x.toNat_lt
      rw [encodeVarint_cont (x.toNat % 128 + m * 128) (by omega) (by omega), hlo, hhi,
        ← b_of_toNat x _ (by omega)]
      exact ⟨rfl, by omega⟩

theorem decodeVarint_conts {cs tl r : Bytes} {v : Nat} (hc : ∀ x ∈ cs, 128 ≤ x.toNat)
    (h : decodeVarint (cs ++ tl) = some (v, r)) :
    ∃ m, decodeVarint tl = some (m, r) ∧ (cs = [] ∨ 0 < m) := by
  induction cs generalizing v with
  | nil => exact ⟨v, h, .inl rfl⟩
  | cons x cs ih =>
    have hx := hc x (List.mem_cons_self ..)
    obtain ⟨m', hm', h0, _⟩ := decodeVarint_cont_some (by omega) h
    obtain ⟨m, hm, rfl | hpos⟩ := ih (fun y hy => hc y (List.mem_cons_of_mem _ hy)) hm'
    · exact ⟨m', hm', .inr h0⟩
    · exact ⟨m, hm, .inr hpos⟩

/-- Every byte string is continuation bytes `cs` followed by `tl`, which is empty or begins with a final
byte; so the three cases are all the ways a length field can fail to be canonical: no final byte, too
long, padded with a zero final byte (the three `Err`s of `read_mqtt_u32_varint`). -/
theorem decodeVarint_refuses {cs : Bytes} (hc : ∀ x ∈ cs, 128 ≤ x.toNat) (tl : Bytes)
    (h : tl = [] ∨ 4 ≤ cs.length ∨ cs ≠ [] ∧ ∃ r, tl = 0 :: r) : decodeVarint (cs ++ tl) = none := by
  cases hd : decodeVarint (cs ++ tl) with
  | none => rfl
  | some p =>
    obtain ⟨m, hm, hpos⟩ := decodeVarint_conts hc hd
    rcases h with rfl | h4 | ⟨hne, r, rfl⟩
    · cases hm
    · -- what is accepted is an encoding, of four bytes at most, and one of them lies in `tl`
      have h1 := congrArg List.length (decodeVarint_canonical _ _ _ hd).1
      have h2 := congrArg List.length (decodeVarint_canonical _ _ _ hm).1
      simp only [List.length_append, encodeVarint_length] at h1 h2
      have := varintLen_bounds p.1
      have := varintLen_bounds m
      omega
    · rw [decodeVarint_last 0 r (by decide)] at hm
      cases hm
      exact absurd (hpos.resolve_left hne) (Nat.lt_irrefl 0)
end Minimq
