import Minimq.Proofs.FuelAdequate
/-
The machine without fuel, as equations.

`ev c` is the value of a call at adequate fuel. Here are: one unfolding equation for each of the thirteen
machine functions (of `afterFlush` only the case that ends an operation; what it does with a request is
stated in `Proofs/Request.lean`); the equations that lead from a directive to `ev` (`poll`, `d k`, `tick`, `rx`, an operation
started on a handle); and `settle`, where `drive_packet` comes to rest when no I/O decision is left. A proof
that follows one path through the machine rewrites with these and with the I/O calls by decision
(`Proofs/IoCalls.lean`); a fuel appears only where a statement that is fixed elsewhere names one (`run_ev`).
-/
namespace Minimq
open Gen World Fuel

/-- The value of a call (fuel adequacy: any fuel from `fuelBound` on gives this value). -/
def ev (c : Call) : World := c.run fuelBound

theorem run_ev (c : Call) (f : Nat) (hf : fuelBound ≤ f) : c.run f = ev c := run_uniform c f hf

theorem ev_succ (c : Call) : ev c = c.run (fuelBound + 1) := (run_ev c _ (Nat.le_succ _)).symm

theorem run_pollFuel (c : Call) : c.run pollFuel = ev c := run_ev c pollFuel fuelBound_le_pollFuel

theorem ev_FL (w : World) (k : AfterFlush) :
    ev (.FL w k) = match w.maybeQueuePingreq w.now with
      | .error e => (w.discFail (.flush k)).finishErr (afterFlushName k) e
      | .ok w1 =>
        match w1.sess.data.outbound.nextStep with
        | none => ev (.AF w1 k)
        | some step => ev (.PS w1 (.flush k) step w1.now) := by
  rw [ev_succ, Call.run, flushLoop]
  rfl

theorem ev_FL_idle {w : World} (hq : w.sess.queuePing w.now = .ok w.sess) (k : AfterFlush) :
    ev (.FL w k) =
      match w.sess.data.outbound.nextStep with
      | none => ev (.AF w k)
      | some step => ev (.PS w (.flush k) step w.now) := by
  rw [ev_FL, maybeQueuePingreq_eq hq]

theorem ev_PS (w : World) (ctx : StepCtx) (step : Outbound.Step) (now : Nat) :
    ev (.PS w ctx step now) = match prepareStep w step with
      | .fail e => (w.failStep ctx step).finishErr (ctxName ctx) e
      | .done => ev (.SR w ctx false)
      | .flush pkt => if !w.live then (w.discFail ctx).finishErr (ctxName ctx) .disconnected else ev (.DSF w ctx pkt now)
      | .write pkt bytes written len =>
        if !w.live then (w.discFail ctx).finishErr (ctxName ctx) .disconnected else ev (.DSW w ctx pkt bytes written len now) := by
  rw [ev_succ, Call.run, performStep]
  rfl

theorem ev_DSW (w : World) (ctx : StepCtx) (pkt : Flushed) (bytes : Bytes) (written len now : Nat) :
    ev (.DSW w ctx pkt bytes written len now) = match w.ioWrite (bytes.drop written) with
      | (w, .pending) => w.suspend (.stepWrite ctx pkt bytes written len now)
      | (w, .zero) => (w.discFail ctx).finishErr (ctxName ctx) .writeZero
      | (w, .err k) => (w.handleDisconnect).finishErr (ctxName ctx) (.transport k)
      | (w, .ok count) =>
        if written + count < len then ev (.SR (w.setWritten pkt (written + count) len) ctx true)
        else ev (.DSF (w.setWritten pkt (written + count) len) ctx pkt now) := by
  rw [ev_succ, Call.run, doStepWrite]
  rfl

theorem ev_DSF (w : World) (ctx : StepCtx) (pkt : Flushed) (now : Nat) :
    ev (.DSF w ctx pkt now) = match w.ioFlush with
      | (w, .pending) => w.suspend (.stepFlush ctx pkt now)
      | (w, .err k) => (w.handleDisconnect).finishErr (ctxName ctx) (.transport k)
      | (w, .ok) => ev (.SR (w.completeFlush pkt now) ctx true) := by
  rw [ev_succ, Call.run, doStepFlush]
  rfl

theorem ev_SR (w : World) (ctx : StepCtx) (adv : Bool) :
    ev (.SR w ctx adv) = match ctx with
      | .flush k => ev (.FL w k)
      | .drive advanced outer => ev (.DAS w outer (advanced || adv)) := by
  rw [ev_succ, Call.run]
  unfold stepReturned
  cases ctx <;> rfl

theorem ev_AF_post (w : World) (name : String) (op : Op) : ev (.AF w (.post name op)) = w.finishOp name op := by
  rw [ev_succ, Call.run, afterFlush]

theorem ev_DLW (w : World) (which : Nat) (bytes : Bytes) :
    ev (.DLW w which bytes) =
      if bytes.isEmpty then ev (.DLF (w.discDone which) which) else
      match w.ioWrite bytes with
      | (w, .pending) => w.suspend (localWritePc which bytes)
      | (w, .ok n) => ev (.DLW w which (bytes.drop n))
      | (w, .zero) => w.localErr which .writeZero
      | (w, .err k) => w.localErr which (.transport k) := by
  rw [ev_succ, Call.run, doLocalWrite]
  rfl

theorem ev_DLF (w : World) (which : Nat) :
    ev (.DLF w which) =
      match w.ioFlush with
      | (w, .pending) => w.suspend (localFlushPc which)
      | (w, .err k) => w.localErr which (.transport k)
      | (w, .ok) =>
        if which = 0 then ev (.DCR { w with sess := w.sess.clearPing })
        else if which = 1 then ({ w with sess := w.sess.noteActivity w.now }).finish "ret publish ok none"
        else (w.handleDisconnect).finish "ret disconnect ok" := by
  rw [ev_succ, Call.run, doLocalFlush]
  rfl

theorem ev_DCR (w : World) :
    ev (.DCR w) =
      if w.sess.reader.packetAvailable then connectGotPacket w else
      match w.sess.window with
      | none => (w.handleDisconnect).finishErr "connect" .peerInvalid
      | some (s1, window) =>
        if window = 0 then connectGotPacket { w with sess := s1 } else
        match ({ w with sess := s1 } : World).ioRead window with
        | (w, .pending) => w.suspend .connRead
        | (w, .eof) => (w.handleDisconnect).finishErr "connect" .disconnected
        | (w, .err k) => (w.handleDisconnect).finishErr "connect" (.transport k)
        | (w, .ok bytes) => ev (.DCR { w with sess := w.sess.commit bytes }) := by
  rw [ev_succ, Call.run, doConnRead]
  rfl

theorem ev_DL (w : World) (outer : Outer) (advanced : Bool) :
    ev (.DL w outer advanced) =
      if w.sess.reader.packetAvailable then
        match w.processReceivedPacket with
        | (w, .error e) => w.finishErr (outerName outer) e
        | (w, .ok (some len)) => w.deliver (outerName outer) len
        | (w, .ok none) => ev (.DL w outer true)
      else
        if timedOut w then (w.handleDisconnect).finishErr (outerName outer) .disconnected else
        match w.maybeQueuePingreq w.now with
        | .error e => w.finishErr (outerName outer) e
        | .ok w1 =>
          match w1.sess.data.outbound.nextStep with
          | none => ev (.DAS w1 outer advanced)
          | some step => ev (.PS w1 (.drive advanced outer) step w.now) := by
  rw [ev_succ, Call.run, driveLoop]
  rfl

theorem ev_DAS (w : World) (outer : Outer) (advanced : Bool) :
    ev (.DAS w outer advanced) =
      if w.sess.reader.packetAvailable then
        match w.processReceivedPacket with
        | (w, .error e) => w.finishErr (outerName outer) e
        | (w, .ok (some len)) => w.deliver (outerName outer) len
        | (w, .ok none) => ev (.DL w outer true)
      else if w.sess.data.outbound.nextStep.isNone then
        if advanced then
          (match outer with
           | .drive => w.finish "ret drive ok none"
           | .poll => w.finish "ret poll ok none"
           | .recv => ev (.DE w .recv))
        else
          (match outer with
           | .drive => w.finish "ret drive ok none"
           | _ => ev (.DWR w outer w.sess.rt.nextDeadline false))
      else ev (.DL w outer advanced) := by
  rw [ev_succ, Call.run]
  unfold driveAfterService
  rfl

theorem ev_DE (w : World) (outer : Outer) :
    ev (.DE w outer) = if !w.live then w.finishErr (outerName outer) .disconnected else ev (.DL w outer false) := by
  rw [ev_succ, Call.run, driveEnter]
  rfl

theorem ev_DE_live {w : World} (hl : w.live = true) (outer : Outer) : ev (.DE w outer) = ev (.DL w outer false) := by
  rw [ev_DE, hl]; rfl

theorem ev_DWR (w : World) (outer : Outer) (deadline : Option Nat) (yielded : Bool) :
    ev (.DWR w outer deadline yielded) =
      if w.sess.reader.packetAvailable then ev (.DE w outer) else
      match w.sess.window with
      | none => (w.handleDisconnect).finishErr (outerName outer) .peerInvalid
      | some (s1, window) =>
        if window = 0 then ev (.DE { w with sess := s1 } outer) else
        match ({ w with sess := s1 } : World).ioRead window with
        | (w, .eof) => (w.handleDisconnect).finishErr (outerName outer) .disconnected
        | (w, .err k) => (w.handleDisconnect).finishErr (outerName outer) (.transport k)
        | (w, .ok bytes) => ev (.DWR { w with sess := w.sess.commit bytes } outer deadline yielded)
        | (w, .pending) =>
          match deadline with
          | none => w.suspend (.waitRead outer none true)
          | some d =>
            if w.now ≥ d then
              if yielded then ev (.DE w outer)
              else
                if w.wakes + 1 ≥ 64 then
                  ({ w with wakes := w.wakes + 1 }.emit "spin").suspend (.waitRead outer deadline true)
                else ev (.DWR { w with wakes := w.wakes + 1 } outer deadline true)
            else w.suspend (.waitRead outer deadline true) := by
  rw [ev_succ, Call.run, doWaitRead]
  rfl

/-- The world `poll` resumes the operation in. -/
def World.pollBase (w : World) : World := { w with wakes := 0, lastIoStarved := false, fut := none }
theorem pollBase_eq (w : World) :
    ({ sess := w.sess, conn := w.conn, nets := w.nets, fut := none, now := w.now, slot := w.slot,
       handles := w.handles, lastIoStarved := false, wakes := 0, lastRes := w.lastRes, out := w.out,
       tornNets := w.tornNets, log := w.log } : World) = w.pollBase := rfl

/-- **POLL** resumes the call of the await point in `pollBase`. One equation for the ten await points. -/
theorem poll_ev {w : World} {pc : Pc} (h : w.fut = some pc) : World.poll w = ev (resumeCall w.pollBase pc) := by
  rw [poll_eq_pollWith, World.pollWith, h]
  exact run_pollFuel _

theorem exec_d {w : World} {pc : Pc} (h : w.fut = some pc) (k : Nat) :
    w.execDirective (.d k) = { ev (resumeCall ({ w with slot := some k } : World).pollBase pc) with slot := none } := by
  rw [← poll_ev (w := { w with slot := some k }) h]
  simp only [World.execDirective, h, Option.isNone_some, Bool.false_eq_true, if_false]

/-- **`tick us`** on a suspended operation, within the clock's range: 4611686018427387904 = 2^62 µs is the guard of
`tick` in `execDirective` (`Directive.lean`), beyond which the directive is `bad-op`. -/
theorem exec_tick {w : World} {pc : Pc} (h : w.fut = some pc) (us : Nat) (hb : w.now + us ≤ 4611686018427387904) :
    w.execDirective (.tick us) = ev (resumeCall ({ w with now := w.now + us } : World).pollBase pc) := by
  rw [← poll_ev (w := { w with now := w.now + us }) h]
  simp only [World.execDirective]
  rw [if_neg (by omega), if_pos (by rw [h]; rfl)]

/-- **`poll()` / `recv()` / `drive()`** on a handle (whatever was suspended is dropped: `opStart`). -/
theorem exec_drive {w : World} (hc : w.conn.isSome = true) (d : Directive) (o : Outer) (hd : d.outer = some o) :
    w.execDirective d = ev (.DE w.opStart o) := by
  have hn : ¬ w.conn.isNone = true := by rw [← Option.not_isSome, hc]; nofun
  cases d <;> cases hd <;>
    simp only [World.execDirective, startOp_eq, if_neg hn] <;> exact run_pollFuel (.DE _ _)

theorem exec_rx (w : World) (bs : Bytes) (hn : w.nets ≠ []) :
    w.execDirective (.rx bs) = w.setCurNet { w.curNet with rx := w.curNet.rx ++ bs } := by
  simp only [World.execDirective]
  rw [if_neg (by cases h : w.nets <;> simp_all)]

/-! ### The operation-local `write_all` and flush, by branch (any of CONNECT, QoS 0 PUBLISH, DISCONNECT) -/

theorem ev_DLW_nil (w : World) (which : Nat) : ev (.DLW w which []) = ev (.DLF (w.discDone which) which) := by
  rw [ev_DLW]; rfl

theorem ev_DLW_ok {w : World} {k : Nat} (hs : w.slot = some k) (hk : k ≤ 250) (which : Nat) {rest : Bytes} (hne : rest ≠ []) :
    ev (.DLW w which rest) = ev (.DLW (w.wrote k rest) which (rest.drop (wcount k rest.length))) := by
  rw [ev_DLW, if_neg (by cases rest <;> simp_all), ioWrite_ok _ rest k hs hk]

theorem ev_DLW_pending {w : World} (hs : w.slot = none) (which : Nat) {rest : Bytes} (hne : rest ≠ []) :
    ev (.DLW w which rest) = (w.io s!"wp {w.netIdx}").suspend (localWritePc which rest) := by
  rw [ev_DLW, if_neg (by cases rest <;> simp_all), ioWrite_none hs]

theorem ev_DLF_pending {w : World} (hs : w.slot = none) (which : Nat) :
    ev (.DLF w which) = (w.io s!"fp {w.netIdx}").suspend (localFlushPc which) := by
  rw [ev_DLF, ioFlush_none hs]

/-- `drive_packet` of `o` from `w`, after `service` has queued what it had to, with no I/O decision and no
inbound packet: the next outbound step is performed up to its first I/O call, where the operation suspends;
with nothing to send the round ends — `drive()` returns, `poll()` returns if the round advanced, and otherwise
`wait_for_progress` suspends in its read with `next_deadline()` as its deadline. -/
def World.settle (w : World) (o : Outer) (adv : Bool) : World :=
  match w.sess.data.outbound.nextStep with
  | some st =>
    (match prepareStep w st with
     | .write pkt bytes wr len => (w.io s!"wp {w.netIdx}").suspend (.stepWrite (.drive adv o) pkt bytes wr len w.now)
     | .flush pkt => (w.io s!"fp {w.netIdx}").suspend (.stepFlush (.drive adv o) pkt w.now)
     | .done => w   -- cannot occur: the scheduler hands out no `Sent` entry (`nextStep_not_done`)
     | .fail e => (w.failStep (.drive adv o) st).finishErr (outerName o) e)
  | none =>
    match o, adv with
    | .drive, _ => w.finish "ret drive ok none"
    | .poll, true => w.finish "ret poll ok none"
    | o, _ => (w.io s!"rp {w.netIdx}").suspend (.waitRead o w.sess.rt.nextDeadline true)

theorem settle_write {w : World} {st : Outbound.Step} {pkt : Flushed} {bytes : Bytes} {wr len : Nat}
    (hn : w.sess.data.outbound.nextStep = some st) (hp : prepareStep w st = .write pkt bytes wr len) (o : Outer) (a : Bool) :
    w.settle o a = (w.io s!"wp {w.netIdx}").suspend (.stepWrite (.drive a o) pkt bytes wr len w.now) := by
  unfold World.settle; rw [hn]; dsimp only; rw [hp]

theorem settle_flush {w : World} {st : Outbound.Step} {pkt : Flushed}
    (hn : w.sess.data.outbound.nextStep = some st) (hp : prepareStep w st = .flush pkt) (o : Outer) (a : Bool) :
    w.settle o a = (w.io s!"fp {w.netIdx}").suspend (.stepFlush (.drive a o) pkt w.now) := by
  unfold World.settle; rw [hn]; dsimp only; rw [hp]

theorem settle_wait {w : World} (hn : w.sess.data.outbound.nextStep = none) {o : Outer} (ho : o ≠ .drive) {a : Bool}
    (ha : o = .poll → a = false) :
    w.settle o a = (w.io s!"rp {w.netIdx}").suspend (.waitRead o w.sess.rt.nextDeadline true) := by
  unfold World.settle; rw [hn]
  cases o with
  | drive => exact absurd rfl ho
  | poll => rw [ha rfl]
  | recv => rfl

theorem settle_slot {w : World} (h : w.slot = none) (o : Outer) (a : Bool) : (w.settle o a).slot = none := by
  unfold World.settle
  cases w.sess.data.outbound.nextStep with
  | none => cases o <;> cases a <;> first | rfl | exact h
  | some st =>
    dsimp only
    cases prepareStep w st with
    | fail e => exact (failStep_slot w (.drive a o) st).trans h
    | done => exact h
    | _ => rfl

theorem settle_clearSlot {w : World} (h : w.slot = none) (o : Outer) (a : Bool) :
    ({ w.settle o a with slot := none } : World) = w.settle o a := by
  have := settle_slot h o a
  generalize w.settle o a = x at this
  cases x; cases this; rfl

theorem probed_notAvail {r : Reader} (hp : r.Probed) : r.packetAvailable = false := by
  obtain ⟨n, hn, hw⟩ := hp
  rw [receiveWindow_available hw]
  exact decide_eq_false hn

/-- `wait_for_progress` on a probed reader whose read comes back pending before the deadline — no decision is
at hand, or the transport has nothing: the operation suspends. -/
theorem ev_DWR_pending {w w1 : World} (o : Outer) (y : Bool) (hp : w.sess.reader.Probed) {dl : Option Nat}
    (hio : ∀ n, n ≠ 0 → w.ioRead n = (w1, .pending)) (hf : NoSpin.Fresh w1.now dl) :
    ev (.DWR w o dl y) = w1.suspend (.waitRead o dl true) := by
  have hna := probed_notAvail hp
  obtain ⟨n, hn, hw⟩ := hp
  have hwin : w.sess.window = some (w.sess, n) := session_window_of hw
  rw [ev_DWR]
  simp only [hna, Bool.false_eq_true, if_false, hwin, if_neg hn]
  rw [show ({ w with sess := w.sess } : World) = w from rfl, hio n hn]
  cases dl with
  | none => rfl
  | some d => exact if_neg (Nat.not_le.mpr hf)

/-- `ev_DWR_pending` after a service pass with nothing to do: the deadline is fresh (`service_served`). -/
theorem ev_DWR_fresh {w : World} (o : Outer) (y : Bool) (hs : w.slot = none) (hp : w.sess.reader.Probed)
    {dl : Option Nat} (hf : NoSpin.Fresh w.now dl) :
    ev (.DWR w o dl y) = (w.io s!"rp {w.netIdx}").suspend (.waitRead o dl true) :=
  ev_DWR_pending o y hp (fun n _ => ioRead_none hs n) hf

/-- `ev_DL` when no packet is buffered: the service pass. -/
theorem ev_DL_service {w : World} (hpa : w.sess.reader.packetAvailable = false) (o : Outer) (adv : Bool) :
    ev (.DL w o adv) =
      if timedOut w then (w.handleDisconnect).finishErr (outerName o) .disconnected else
      match w.maybeQueuePingreq w.now with
      | .error e => w.finishErr (outerName o) e
      | .ok w1 =>
        match w1.sess.data.outbound.nextStep with
        | none => ev (.DAS w1 o adv)
        | some step => ev (.PS w1 (.drive adv o) step w.now) := by
  rw [ev_DL, hpa]
  rfl

/-- `drive_packet` after a service pass that found nothing to do and nothing to send. A second pass (`recv()`
after progress) finds the same. -/
theorem ev_DAS_idle {w : World} (o : Outer) (a : Bool) (hl : w.live = true) (hs : w.slot = none)
    (hp : w.sess.reader.Probed) (ht : timedOut w = false) (hq : w.sess.queuePing w.now = .ok w.sess)
    (hn : w.sess.data.outbound.nextStep = none) : ev (.DAS w o a) = w.settle o a := by
  have hna := probed_notAvail hp
  have hwait (o' : Outer) : ev (.DWR w o' w.sess.rt.nextDeadline false) =
      (w.io s!"rp {w.netIdx}").suspend (.waitRead o' w.sess.rt.nextDeadline true) :=
    ev_DWR_fresh o' false hs hp (NoSpin.service_served w w.sess ht hq hn)
  have hagain : ev (.DL w .recv false) = ev (.DAS w .recv false) := by
    rw [ev_DL_service hna, ht, maybeQueuePingreq_eq hq]
    simp only [Bool.false_eq_true, if_false, hn]
  unfold World.settle
  rw [ev_DAS]
  simp only [hna, Bool.false_eq_true, if_false, hn, Option.isNone_none, if_true]
  cases o <;> cases a <;> simp only [Bool.false_eq_true, if_false, if_true]
  · exact hwait .poll
  · exact hwait .recv
  · rw [ev_DE_live hl, hagain, ev_DAS]
    simp only [hna, Bool.false_eq_true, if_false, hn, Option.isNone_none, if_true]
    exact hwait .recv

/-- **The service pass.** From the head of `drive_packet`'s loop in a live `w` with no decision and no packet
in the reader (probed, if it comes to waiting), the timeout not expired: `service` queues a PINGREQ if one is due
(`s`), and the loop comes to rest at `settle`. -/
theorem ev_DL_settle {w : World} {s : Session} (o : Outer) (adv : Bool) (hl : w.live = true) (hs : w.slot = none)
    (hna : w.sess.reader.packetAvailable = false) (hp : s.data.outbound.nextStep = none → w.sess.reader.Probed)
    (ht : timedOut w = false) (hq : w.sess.queuePing w.now = .ok s) :
    ev (.DL w o adv) = ({ w with sess := s } : World).settle o adv := by
  rw [ev_DL_service hna, ht, maybeQueuePingreq_eq hq]
  simp only [Bool.false_eq_true, if_false]
  cases hn : s.data.outbound.nextStep with
  | none =>
    have hss : s = w.sess := (NoSpin.queuePing_served w.sess s w.now hq hn).1
    subst hss
    exact ev_DAS_idle o adv hl hs (hp hn) ht hq hn
  | some st =>
    unfold World.settle
    simp only [hn]
    rw [ev_PS]
    have hl' : ({ w with sess := s } : World).live = true := hl
    cases hpr : prepareStep { w with sess := s } st with
    | fail e => rfl
    | done =>
      have := nextStep_not_done { w with sess := s } _ st hn
      rw [hpr] at this; exact Bool.noConfusion this
    | flush pkt =>
      simp only [hl', Bool.not_true, Bool.false_eq_true, if_false]
      rw [ev_DSF, ioFlush_none (w := { w with sess := s }) hs]
    | write pkt bytes wr len =>
      simp only [hl', Bool.not_true, Bool.false_eq_true, if_false]
      rw [ev_DSW, ioWrite_none (w := { w with sess := s }) hs]

/-- `ev_DL_settle` for `drive_packet` after `service` returned with progress made (a completed flush), when no
PINGREQ is to be queued: `poll()` returns without another pass. -/
theorem ev_DAS_settle {w : World} (o : Outer) (hl : w.live = true) (hs : w.slot = none)
    (hna : w.sess.reader.packetAvailable = false) (hp : w.sess.data.outbound.nextStep = none → w.sess.reader.Probed)
    (ht : timedOut w = false) (hq : w.sess.queuePing w.now = .ok w.sess) :
    ev (.DAS w o true) = w.settle o true := by
  cases hn : w.sess.data.outbound.nextStep with
  | none => exact ev_DAS_idle o true hl hs (hp hn) ht hq hn
  | some st =>
    rw [ev_DAS]
    simp only [hna, Bool.false_eq_true, if_false, hn, Option.isNone_some]
    exact ev_DL_settle o true hl hs hna hp ht hq

end Minimq
