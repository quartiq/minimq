import Minimq.Proofs.Decode
import Minimq.Proofs.QuiesceInv
/-
Bounded quiescence (C16, liveness half) — the session.

On the views of the outbound queues (`retView`, `relView`): the answers a conformant broker owes (`expected`), the
number of rounds still needed (`owed`), and what `set_written`, `complete_flush` and the handling of an
acknowledgement do to them. A queue whose identifiers are distinct splits around the entry an operation looks for
(`keyed_split`); the effects are read off the split views.
-/
namespace Minimq
open Gen World Fuel Outbound


namespace Quiesce

theorem filterMap_cons' {α β} (g : α → Option β) (x : α) (B : List α) :
    (x :: B).filterMap g = (g x).toList ++ B.filterMap g := by
  rw [List.filterMap_cons]; cases g x <;> rfl

/-- In `Flush` or `Sent`: the packet is completely on the wire. -/
def sentish : SendState → Bool
  | .write _ => false
  | _ => true

/-- **The conformant broker**, on a packet with first byte `h` and identifier `id`: PUBACK for a
QoS 1 PUBLISH, PUBREC for a QoS 2 PUBLISH, SUBACK / UNSUBACK (one reason code, `0` = granted QoS 0 /
success) for SUBSCRIBE / UNSUBSCRIBE, all with reason Success and no properties; nothing else. -/
def ansHeader (h id : Nat) : Option Spec.ServerPacket :=
  if AckKind.pubAck.acknowledges h then some (.ack .pubAck id .none)
  else if AckKind.pubRec.acknowledges h then some (.ack .pubRec id .none)
  else if AckKind.subAck.acknowledges h then some (.subAck id [] [0])
  else if AckKind.unsubAck.acknowledges h then some (.unsubAck id [] [0])
  else none

def ansRet (v : RetV) : Option Spec.ServerPacket := if sentish v.2.2 then ansHeader (hd v.1) v.2.1 else none
def ansRel (v : RelV) : Option Spec.ServerPacket := if sentish v.2 then some (.ack .pubComp v.1 .none) else none

/-- The answers the broker owes for what is completely on the wire and not yet acknowledged. -/
def expected (o : Outbound) : List Spec.ServerPacket :=
  (retView o).filterMap ansRet ++ (relView o).filterMap ansRel

/-- Rounds a retained packet still needs once it is sent: two for a QoS 2 PUBLISH (PUBREC, then
PUBCOMP), one otherwise. -/
def wgt (v : RetV) : Nat := if AckKind.pubRec.acknowledges (hd v.1) then 2 else 1

/-- Acknowledgements still to be received before the queues are empty. -/
def owed (o : Outbound) : Nat := ((retView o).map wgt).sum + o.release.length

/-- Entries that still have something to write or flush. -/
def pending (o : Outbound) : Nat :=
  o.control.length + (relView o).countP (fun v => v.2 != .sent) + (retView o).countP (fun v => v.2.2 != .sent)

/-- Every retained packet is of a kind the broker answers: QoS 1 or QoS 2 PUBLISH, SUBSCRIBE, UNSUBSCRIBE. -/
def KnownKinds (o : Outbound) : Prop := ∀ v ∈ retView o, (ansHeader (hd v.1) v.2.1).isSome = true

/-- **The conformant broker**, on an entry of the transmission log (a packet the transport has accepted
completely): as `ansHeader` for a retained packet, PUBCOMP for a PUBREL, PINGRESP for a PINGREQ, nothing
for the client's own acknowledgements. -/
def answerOf (f : LogEntry) : Option Spec.ServerPacket :=
  match f.tag with
  | .retained _ id => ansHeader (hd f.bytes) id
  | .release _ _ id _ => some (.ack .pubComp id .none)
  | .control a => if a.typ = MT_PingReq then some .pingResp else none
  | .unknown => none

/-- Every queued packet is within the broker's Maximum Packet Size (finding F14 is the failure of the
last clause), and so is a PUBREL (5 bytes). -/
structure Fits (s : Session) : Prop where
  control : ∀ e ∈ s.data.outbound.control, ∃ bs, encodeControl e.action = .ok bs ∧ s.rt.packetTooLarge bs.length = false
  pubrel : s.rt.packetTooLarge 5 = false
  retained : ∀ v ∈ retView s.data.outbound, s.rt.packetTooLarge v.1.length = false

/-- The facts about the session that the steps of the drain keep, carried as one record. Four of them also hold
of every world a program produces (`clean`, `ctlCap`, `small`; `maxq` on a live handle:
`Theorems/C16Setting.lean`); `noPing`, `fits`, `deficit` and `quotaEq` are asked of the setting. -/
structure Tidy (s : Session) : Prop where
  clean : ∀ e ∈ s.data.outbound.control, e.state ≠ .sent
  noPing : ∀ e ∈ s.data.outbound.control, e.action.typ ≠ MT_PingReq
  ctlCap : s.data.outbound.control.length ≤ MAX_PENDING_CONTROL
  fits : Fits s
  small : ∀ id ∈ s.data.outbound.usedIds, id < 65536
  deficit : s.rt.deficit = false
  maxq : s.rt.maxSendQuota ≤ maxInflight
  quotaEq : s.rt.sendQuota + s.data.outbound.inflightPublishes = s.rt.maxSendQuota

def WriteState (s : Session) : Flushed → Prop
  | .control a => ∃ e ∈ s.data.outbound.control, e.action = a
  | .release id => ∃ e ∈ s.data.outbound.release, e.id = id ∧ sentish e.state = false
  | .retained id => ∃ e ∈ s.data.outbound.retained, e.id = id ∧ sentish e.state = false

def FlushState (s : Session) : Flushed → Prop
  | .control a => ∃ e ∈ s.data.outbound.control, e.action = a
  | .release id => ∃ e ∈ s.data.outbound.release, e.id = id ∧ e.state = .flush
  | .retained id => ∃ e ∈ s.data.outbound.retained, e.id = id ∧ e.state = .flush

/-- The broker's answer to the packet of queue entry `pkt` (by way of its log entry). -/
def ansPkt (s : Session) (pkt : Flushed) : Option Spec.ServerPacket :=
  answerOf (World.doneFrame { sess := s } pkt)

theorem answerOf_doneFrame (W : World) (pkt : Flushed) : answerOf (W.doneFrame pkt) = ansPkt W.sess pkt := by
  unfold ansPkt World.doneFrame
  cases pkt with
  | control a => rfl
  | release id => simp only []; split <;> rfl
  | retained id => simp only []; split <;> rfl

theorem _root_.Minimq.Outbound.IdInv.ret_nodup {o : Outbound} (h : o.IdInv) : (o.retained.map (·.id)).Nodup :=
  (List.nodup_append.mp h.nodup).1

theorem _root_.Minimq.Outbound.IdInv.rel_nodup {o : Outbound} (h : o.IdInv) : (o.release.map (·.id)).Nodup :=
  (List.nodup_append.mp h.nodup).2.1

theorem _root_.Minimq.Outbound.IdInv.retView_nodup {o : Outbound} (h : o.IdInv) : ((retView o).map (·.2.1)).Nodup :=
  retView_ids o ▸ h.ret_nodup

theorem _root_.Minimq.Outbound.IdInv.relView_nodup {o : Outbound} (h : o.IdInv) : ((relView o).map (·.1)).Nodup :=
  relView_ids o ▸ h.rel_nodup

theorem mem_expected {o : Outbound} {p : Spec.ServerPacket} :
    p ∈ expected o ↔ (∃ v ∈ retView o, ansRet v = some p) ∨ ∃ u ∈ relView o, ansRel u = some p := by
  simp only [expected, List.mem_append, List.mem_filterMap]

theorem sentish_false {st : SendState} (h : sentish st = false) : st ≠ .sent := by
  rintro rfl; cases h

theorem _root_.Minimq.StatesOnly.views {o o' : Outbound} (hs : StatesOnly o o') :
    (∀ u ∈ retView o', ∃ u' ∈ retView o, u'.1 = u.1 ∧ u'.2.1 = u.2.1) ∧ o'.usedIds = o.usedIds ∧
    o'.inflightPublishes = o.inflightPublishes := by
  refine ⟨fun u hu => ?_, ?_, inflight_congr hs.buf ?_ ?_⟩
  · have hm : (retView o').map (fun v => (v.1, v.2.1)) = (retView o).map (fun v => (v.1, v.2.1)) := by
      have := congrArg (List.map fun t : Nat × Nat × Nat × Nat => (slice o.buf t.2.2.1 t.2.2.2, t.2.1)) hs.retained
      simpa only [retView, List.map_map, hs.buf, Function.comp_def] using this
    have : (u.1, u.2.1) ∈ (retView o).map (fun v => (v.1, v.2.1)) := hm ▸ List.mem_map_of_mem hu
    obtain ⟨u', h1, h2⟩ := List.mem_map.mp this
    exact ⟨u', h1, (Prod.mk.inj h2).1, (Prod.mk.inj h2).2⟩
  · have := congrArg (List.map (·.2.1)) hs.retained
    simp only [List.map_map, Function.comp_def] at this
    simp only [usedIds, this, hs.release]
  · have := congrArg (List.map (·.2.2.1)) hs.retained; rwa [List.map_map, List.map_map] at this
  · have := congrArg List.length hs.release; rwa [List.length_map, List.length_map] at this

theorem relSet_effect (o : Outbound) (hid : o.IdInv) {e : PendingRelease} (he : e ∈ o.release) (st : SendState) :
    owed (relSet o e.id st) = owed o ∧
    pending (relSet o e.id st) + (if e.state = .sent then 0 else 1) = pending o + (if st = .sent then 0 else 1) ∧
    (ansRel (e.id, st) = ansRel (e.id, e.state) → expected (relSet o e.id st) = expected o) ∧
    (ansRel (e.id, e.state) = none →
      (expected (relSet o e.id st)).Perm ((ansRel (e.id, st)).toList ++ expected o)) ∧
    { e with state := st } ∈ (relSet o e.id st).release ∧
    o.release.find? (fun x => x.id == e.id) = some e := by
  obtain ⟨_, _, -, hmod, -, hfind, -⟩ := keyed_split (·.id) hid.rel_nodup he (fun x => x.id == e.id) (by simp)
    (fun x hx => by simpa using hx)
  obtain ⟨A, B, hl, hset, -⟩ := keyed_split (fun u : RelV => u.1) hid.relView_nodup (mem_relView he)
    (fun u => u.1 == e.id) (by simp) (fun x hx => by simpa using hx)
  have hrel : relView (relSet o e.id st) = A ++ (e.id, st) :: B := (relView_relSet o e.id st).trans (hset _)
  have hret : retView (relSet o e.id st) = retView o := rfl
  have hctl : (relSet o e.id st).control = o.control := rfl
  have hlen : (relSet o e.id st).release.length = o.release.length := modifyFirst_length _ _ _
  refine ⟨?_, ?_, ?_, ?_, by rw [show (relSet o e.id st).release = _ from hmod _]; simp, hfind⟩
  · simp only [owed, hret, hlen]
  · simp only [pending, hret, hctl, hrel, hl, List.countP_append, List.countP_cons]
    by_cases h1 : e.state = .sent <;> by_cases h2 : st = .sent <;> simp [h1, h2] <;> omega
  · intro h
    simp only [expected, hret, hrel, hl, List.filterMap_append, filterMap_cons', h]
  · intro h
    simp only [expected, hret, hrel, hl, List.filterMap_append, filterMap_cons', h, Option.toList_none, List.nil_append]
    exact (List.Perm.append_left _ (List.perm_append_comm_assoc _ _ _)).trans (List.perm_append_comm_assoc _ _ _)

theorem retSet_effect (o : Outbound) (hid : o.IdInv) {e : RetainedPacket} (he : e ∈ o.retained) (st : SendState) :
    owed (retSet o e.id st) = owed o ∧
    pending (retSet o e.id st) + (if e.state = .sent then 0 else 1) = pending o + (if st = .sent then 0 else 1) ∧
    (ansRet (slice o.buf e.offset e.len, e.id, st) = ansRet (slice o.buf e.offset e.len, e.id, e.state) →
      expected (retSet o e.id st) = expected o) ∧
    (ansRet (slice o.buf e.offset e.len, e.id, e.state) = none →
      (expected (retSet o e.id st)).Perm ((ansRet (slice o.buf e.offset e.len, e.id, st)).toList ++ expected o)) ∧
    { e with state := st } ∈ (retSet o e.id st).retained ∧
    o.retained.find? (fun x => x.id == e.id) = some e := by
  obtain ⟨_, _, -, hmod, -, hfind, -⟩ := keyed_split (·.id) hid.ret_nodup he (fun x => x.id == e.id) (by simp)
    (fun x hx => by simpa using hx)
  obtain ⟨A, B, hl, hset, -⟩ := keyed_split (fun u : RetV => u.2.1) hid.retView_nodup (mem_retView he)
    (fun u => u.2.1 == e.id) (by simp) (fun x hx => by simpa using hx)
  have hret : retView (retSet o e.id st) = A ++ (slice o.buf e.offset e.len, e.id, st) :: B :=
    (retView_retSet o e.id st).trans (hset _)
  have hrel : relView (retSet o e.id st) = relView o := rfl
  have hctl : (retSet o e.id st).control = o.control := rfl
  have hlen : (retSet o e.id st).release = o.release := rfl
  refine ⟨?_, ?_, ?_, ?_, by rw [show (retSet o e.id st).retained = _ from hmod _]; simp, hfind⟩
  · simp only [owed, hret, hlen, hl, List.map_append, List.map_cons, wgt]
  · simp only [pending, hrel, hctl, hret, hl, List.countP_append, List.countP_cons]
    by_cases h1 : e.state = .sent <;> by_cases h2 : st = .sent <;> simp [h1, h2] <;> omega
  · intro h
    simp only [expected, hrel, hret, hl, List.filterMap_append, filterMap_cons', h]
  · intro h
    simp only [expected, hrel, hret, hl, List.filterMap_append, filterMap_cons', h, Option.toList_none, List.nil_append,
      List.append_assoc]
    exact List.perm_append_comm_assoc _ _ _

theorem tooLarge_congr {r r' : Runtime} (h : r'.maximumPacketSize = r.maximumPacketSize) (n : Nat) :
    r'.packetTooLarge n = r.packetTooLarge n := by
  unfold Runtime.packetTooLarge; rw [h]

/-- `Tidy` looks at the control queue, the bytes of the retained packets, the identifiers in use, four fields of
the runtime and the number of publishes in flight. -/
theorem Tidy.congr {s s' : Session} (ht : Tidy s)
    (hc : ∀ e ∈ s'.data.outbound.control, e.state ≠ .sent ∧ ∃ e' ∈ s.data.outbound.control, e'.action = e.action)
    (hlen : s'.data.outbound.control.length ≤ s.data.outbound.control.length)
    (hv : ∀ u ∈ retView s'.data.outbound, ∃ u' ∈ retView s.data.outbound, u'.1 = u.1)
    (hu : ∀ id ∈ s'.data.outbound.usedIds, id ∈ s.data.outbound.usedIds)
    (hmps : s'.rt.maximumPacketSize = s.rt.maximumPacketSize) (hdef : s'.rt.deficit = s.rt.deficit)
    (hmq : s'.rt.maxSendQuota = s.rt.maxSendQuota)
    (hq : s'.rt.sendQuota + s'.data.outbound.inflightPublishes = s'.rt.maxSendQuota) : Tidy s' := by
  refine ⟨fun e he => (hc e he).1, ?_, Nat.le_trans hlen ht.ctlCap, ⟨?_, ?_, ?_⟩, fun id h => ht.small id (hu id h),
    by rw [hdef]; exact ht.deficit, by rw [hmq]; exact ht.maxq, hq⟩
  · intro e he
    obtain ⟨e', he', ha⟩ := (hc e he).2
    rw [← ha]; exact ht.noPing e' he'
  · intro e he
    obtain ⟨e', he', ha⟩ := (hc e he).2
    obtain ⟨bs, h1, h2⟩ := ht.fits.control e' he'
    exact ⟨bs, by rw [← ha]; exact h1, by rw [tooLarge_congr hmps]; exact h2⟩
  · rw [tooLarge_congr hmps]; exact ht.fits.pubrel
  · intro u hu'
    obtain ⟨u', h1, h2⟩ := hv u hu'
    rw [tooLarge_congr hmps, ← h2]; exact ht.fits.retained u' h1

theorem _root_.Minimq.StatesOnly.tidy {s s' : Session} (hs : StatesOnly s.data.outbound s'.data.outbound)
    (hr : s'.rt.sendQuota = s.rt.sendQuota ∧ s'.rt.maxSendQuota = s.rt.maxSendQuota ∧ s'.rt.deficit = s.rt.deficit ∧
      s'.rt.maximumPacketSize = s.rt.maximumPacketSize) (ht : Tidy s) :
    (KnownKinds s.data.outbound → KnownKinds s'.data.outbound) ∧
    ((∀ e ∈ s'.data.outbound.control, e.state ≠ .sent ∧ ∃ e' ∈ s.data.outbound.control, e'.action = e.action) →
      s'.data.outbound.control.length ≤ s.data.outbound.control.length → Tidy s') := by
  obtain ⟨hv, hu, hinf⟩ := hs.views
  obtain ⟨hsq, hmq, hdef, hmps⟩ := hr
  refine ⟨fun hk u hu' => ?_, fun hc hl => ht.congr hc hl (fun u hu' => (hv u hu').imp fun _ h => ⟨h.1, h.2.1⟩)
    (fun _ h => hu ▸ h) hmps hdef hmq (by rw [hinf, hsq, hmq]; exact ht.quotaEq)⟩
  obtain ⟨u', h1, h2, h3⟩ := hv u hu'
  rw [← h2, ← h3]; exact hk u' h1

/-- **`set_written` completing a packet.** The entry moves to `Flush`; nothing else changes; the broker
now owes the answer to that packet. -/
theorem written_effect (s : Session) (pkt : Flushed) (w len : Nat) (hlen : len ≤ w)
    (hid : s.data.outbound.IdInv) (hws : WriteState s pkt) (ht : Tidy s) :
    Tidy (s.setWritten pkt w len) ∧
    owed (s.setWritten pkt w len).data.outbound = owed s.data.outbound ∧
    pending (s.setWritten pkt w len).data.outbound = pending s.data.outbound ∧
    (expected (s.setWritten pkt w len).data.outbound).Perm ((ansPkt s pkt).toList ++ expected s.data.outbound) ∧
    FlushState (s.setWritten pkt w len) pkt ∧
    (s.setWritten pkt w len).rt = s.rt ∧ (s.setWritten pkt w len).reader = s.reader ∧
    (s.setWritten pkt w len).data.generation = s.data.generation ∧
    (KnownKinds s.data.outbound → KnownKinds (s.setWritten pkt w len).data.outbound) := by
  have haw : SendState.afterWrite w len = .flush := afterWrite_ge hlen
  obtain ⟨kinds, tidy⟩ := (Session.setWritten_states s pkt w len).tidy ⟨rfl, rfl, rfl, rfl⟩ ht
  cases pkt with
  | control a =>
    obtain ⟨e, he, hea⟩ := hws
    have hctl : (s.setWritten (.control a) w len).data.outbound.control =
        modifyFirst (fun e => e.action == a) (fun e => { e with state := .flush }) s.data.outbound.control := by
      simp only [Session.setWritten, Session.setOutbound, Outbound.setControlWritten, haw]
    have hact : (s.setWritten (.control a) w len).data.outbound.control.map (·.action) =
        s.data.outbound.control.map (·.action) := by
      rw [hctl]; exact acts_modifyFirst_state _ .flush _
    have hans : ansPkt s (.control a) = none := by
      unfold ansPkt World.doneFrame answerOf
      simp only []
      rw [if_neg (by rw [← hea]; exact ht.noPing e he)]
    refine ⟨tidy ?_ (by rw [hctl, modifyFirst_length]; exact Nat.le_refl _), rfl, ?_, ?_, ?_, rfl, rfl, rfl, kinds⟩
    · intro y hy
      rw [hctl] at hy
      rcases modifyFirst_mem _ _ _ y hy with h | ⟨x, hx, rfl⟩
      · exact ⟨ht.clean y h, y, h, rfl⟩
      · exact ⟨fun h => (by cases h), x, hx, rfl⟩
    · rw [pending, pending, hctl, modifyFirst_length]; rfl
    · rw [hans]; exact List.Perm.refl _
    · have : a ∈ (s.setWritten (.control a) w len).data.outbound.control.map (·.action) := by
        rw [hact, ← hea]; exact List.mem_map_of_mem he
      obtain ⟨y, hy, hya⟩ := List.mem_map.mp this
      exact ⟨y, hy, hya⟩
  | release id =>
    obtain ⟨e, he, rfl, hst⟩ := hws
    have hne := sentish_false hst
    have hout : (s.setWritten (.release e.id) w len).data.outbound = relSet s.data.outbound e.id .flush :=
      (s.setWritten_outbound _ w len).trans (congrArg (relSet _ _) haw)
    obtain ⟨h3, h4, -, h6, h7, h8⟩ := relSet_effect s.data.outbound hid he .flush
    have hans : ansPkt s (.release e.id) = ansRel (e.id, .flush) := by
      unfold ansPkt World.doneFrame
      simp only []
      rw [h8]; rfl
    rw [← hout] at h3 h4 h6 h7
    refine ⟨tidy (fun x hx => ⟨ht.clean x hx, x, hx, rfl⟩) (Nat.le_refl _), h3, ?_, ?_, ⟨_, h7, rfl, rfl⟩, rfl, rfl, rfl, kinds⟩
    · rw [if_neg hne, if_neg (by simp)] at h4; omega
    · rw [hans]; exact h6 (by simp [ansRel, hst])
  | retained id =>
    obtain ⟨e, he, rfl, hst⟩ := hws
    have hne := sentish_false hst
    have hout : (s.setWritten (.retained e.id) w len).data.outbound = retSet s.data.outbound e.id .flush :=
      (s.setWritten_outbound _ w len).trans (congrArg (retSet _ _) haw)
    obtain ⟨h3, h4, -, h6, h7, h8⟩ := retSet_effect s.data.outbound hid he .flush
    have hans : ansPkt s (.retained e.id) = ansRet (slice s.data.outbound.buf e.offset e.len, e.id, .flush) := by
      unfold ansPkt World.doneFrame
      simp only []
      rw [h8]; rfl
    rw [← hout] at h3 h4 h6 h7
    refine ⟨tidy (fun x hx => ⟨ht.clean x hx, x, hx, rfl⟩) (Nat.le_refl _), h3, ?_, ?_, ⟨_, h7, rfl, rfl⟩, rfl, rfl, rfl, kinds⟩
    · rw [if_neg hne, if_neg (by simp)] at h4; omega
    · rw [hans]; exact h6 (by simp [ansRet, hst])

theorem flushControl_clean (a : ControlAction) : ∀ (l : List PendingControl), (∀ e ∈ l, e.state ≠ .sent) →
    (modifyFirst (fun e => e.action == a) (fun e => { e with state := .sent }) l).filter (fun e => e.state ≠ .sent) =
      removeFirst (fun e => e.action == a) l
  | [], _ => rfl
  | x :: xs, h => by
    simp only [modifyFirst, removeFirst]
    have hx := h x (by simp)
    have hxs : ∀ e ∈ xs, e.state ≠ .sent := fun e he => h e (by simp [he])
    split
    · simp only [List.filter_cons]
      simp only [decide_not, Bool.not_true, decide_true, Bool.false_eq_true, if_false]
      apply List.filter_eq_self.mpr
      intro e he; simpa using hxs e he
    · simp only [List.filter_cons]
      rw [flushControl_clean a xs hxs]
      simp [hx]

/-- **`complete_flush`.** The entry is `Sent` (a control entry leaves its queue): one entry less has
work to do; what the broker owes is unchanged. -/
theorem flushed_effect (s : Session) (pkt : Flushed) (now : Nat)
    (hid : s.data.outbound.IdInv) (hfs : FlushState s pkt) (ht : Tidy s) :
    Tidy (s.completeFlush pkt now) ∧
    owed (s.completeFlush pkt now).data.outbound = owed s.data.outbound ∧
    pending (s.completeFlush pkt now).data.outbound + 1 = pending s.data.outbound ∧
    expected (s.completeFlush pkt now).data.outbound = expected s.data.outbound ∧
    (s.completeFlush pkt now).reader = s.reader ∧
    (s.completeFlush pkt now).data.generation = s.data.generation ∧
    (KnownKinds s.data.outbound → KnownKinds (s.completeFlush pkt now).data.outbound) := by
  obtain ⟨kinds, tidy⟩ := (Session.completeFlush_states s pkt now).tidy (completeFlush_quota_fields s pkt now) ht
  cases pkt with
  | control a =>
    obtain ⟨e, he, hea⟩ := hfs
    have hctl : (s.completeFlush (.control a) now).data.outbound.control =
        removeFirst (fun e => e.action == a) s.data.outbound.control := flushControl_clean a _ ht.clean
    have hsub := removeFirst_sublist (fun e : PendingControl => e.action == a) s.data.outbound.control
    have hlen := removeFirst_length (fun e : PendingControl => e.action == a) s.data.outbound.control
      (List.any_eq_true.mpr ⟨e, he, by simp [hea]⟩)
    refine ⟨tidy ?_ (by rw [hctl]; omega), rfl, ?_, rfl, rfl, rfl, kinds⟩
    · rw [hctl]; exact fun y hy => ⟨ht.clean y (hsub.subset hy), y, hsub.subset hy, rfl⟩
    · have hretv : retView (s.completeFlush (.control a) now).data.outbound = retView s.data.outbound := rfl
      have hrelv : relView (s.completeFlush (.control a) now).data.outbound = relView s.data.outbound := rfl
      rw [pending, pending, hctl, hretv, hrelv]; omega
  | release id =>
    obtain ⟨e, he, rfl, hst⟩ := hfs
    obtain ⟨h3, h4, h5, -, -, -⟩ := relSet_effect s.data.outbound hid he .sent
    refine ⟨tidy (fun x hx => ⟨ht.clean x hx, x, hx, rfl⟩) (Nat.le_refl _), h3, ?_, h5 (by simp [ansRel, sentish, hst]),
      rfl, rfl, kinds⟩
    rw [hst, if_neg (by simp), if_pos rfl] at h4; exact h4
  | retained id =>
    obtain ⟨e, he, rfl, hst⟩ := hfs
    obtain ⟨h3, h4, h5, -, -, -⟩ := retSet_effect s.data.outbound hid he .sent
    refine ⟨tidy (fun x hx => ⟨ht.clean x hx, x, hx, rfl⟩) (Nat.le_refl _), h3, ?_, h5 (by simp [ansRet, sentish, hst]),
      rfl, rfl, kinds⟩
    rw [hst, if_neg (by simp), if_pos rfl] at h4; exact h4

theorem ansHeader_cases {h id : Nat} {p : Spec.ServerPacket} (hp : ansHeader h id = some p) :
    (AckKind.pubAck.acknowledges h = true ∧ p = .ack .pubAck id .none) ∨
    (AckKind.pubRec.acknowledges h = true ∧ p = .ack .pubRec id .none) ∨
    (AckKind.subAck.acknowledges h = true ∧ AckKind.pubRec.acknowledges h = false ∧ p = .subAck id [] [0]) ∨
    (AckKind.unsubAck.acknowledges h = true ∧ AckKind.pubRec.acknowledges h = false ∧ p = .unsubAck id [] [0]) := by
  unfold ansHeader at hp
  split at hp
  · rename_i h1; exact .inl ⟨h1, (Option.some.inj hp).symm⟩
  · split at hp
    · rename_i h2; exact .inr (.inl ⟨h2, (Option.some.inj hp).symm⟩)
    · rename_i h2
      split at hp
      · rename_i h3; exact .inr (.inr (.inl ⟨h3, by simpa using h2, (Option.some.inj hp).symm⟩))
      · split at hp
        · rename_i h4; exact .inr (.inr (.inr ⟨h4, by simpa using h2, (Option.some.inj hp).symm⟩))
        · cases hp

theorem pubAck_not_pubRec {h : Nat} (h1 : AckKind.pubAck.acknowledges h = true) : AckKind.pubRec.acknowledges h = false := by
  simp only [AckKind.acknowledges, Bool.and_eq_true, beq_iff_eq] at h1 ⊢
  simp only [Bool.and_eq_false_iff, beq_eq_false_iff_ne, ne_eq]
  right; omega

structure AckEff (d : SessionData) (r : Runtime) (d' : SessionData) (r' : Runtime) (p : Spec.ServerPacket) : Prop where
  gen : d'.generation = d.generation
  mps : r'.maximumPacketSize = r.maximumPacketSize
  deficit : r'.deficit = r.deficit
  maxq : r'.maxSendQuota = r.maxSendQuota
  nextPing : r'.nextPing = r.nextPing
  pingTimeout : r'.pingTimeout = r.pingTimeout
  control : d'.outbound.control = d.outbound.control
  exp : (expected d'.outbound).Perm ((expected d.outbound).erase p)
  owed : owed d'.outbound + 1 = owed d.outbound
  pend : pending d'.outbound ≤ pending d.outbound + 1
  ret : (retView d'.outbound).Sublist (retView d.outbound)
  ids : ∀ id ∈ d'.outbound.usedIds, id ∈ d.outbound.usedIds
  quota : r.maxSendQuota ≤ maxInflight → r.sendQuota + d.outbound.inflightPublishes = r.maxSendQuota →
    r'.sendQuota + d'.outbound.inflightPublishes = r'.maxSendQuota

theorem firstFailure_zero : firstFailure [0] = none := by decide

theorem reasonSuccess_none : reasonSuccess (Spec.Tail.image .none).rc = true := by decide

theorem ansRet_some {v : RetV} {p : Spec.ServerPacket} (h : ansRet v = some p) :
    sentish v.2.2 = true ∧ ansHeader (hd v.1) v.2.1 = some p := by
  unfold ansRet at h
  split at h
  · exact ⟨by assumption, h⟩
  · cases h

theorem ansRel_some {v : RelV} {p : Spec.ServerPacket} (h : ansRel v = some p) :
    sentish v.2 = true ∧ p = .ack .pubComp v.1 .none := by
  unfold ansRel at h
  split at h
  · exact ⟨by assumption, (Option.some.inj h).symm⟩
  · cases h

theorem wgt_pos (v : RetV) : 1 ≤ wgt v ∧ wgt v ≤ 2 := by unfold wgt; split <;> omega

theorem wgt_pubRec {v : RetV} (h : AckKind.pubRec.acknowledges (hd v.1) = true) : wgt v = 2 := if_pos h

theorem wgt_other {v : RetV} (h : AckKind.pubRec.acknowledges (hd v.1) = false) : wgt v = 1 :=
  if_neg (by rw [h]; exact Bool.false_ne_true)

theorem ack_ret (o : Outbound) (hid : o.IdInv) (har : o.ArenaInv) (k : AckKind) {v : RetV}
    (hv : v ∈ retView o) (hk : k.acknowledges (hd v.1) = true) :
    (o.ackPacket v.2.1 k).2 = true ∧
    ∃ A B, retView o = A ++ v :: B ∧ retView (o.ackPacket v.2.1 k).1 = A ++ B := by
  obtain ⟨h1, h2⟩ := qv_ackPacket o v.2.1 k har
  obtain ⟨A, B, hl, -, hrem, -, hany⟩ := keyed_split (fun u : RetV => u.2.1) hid.retView_nodup hv
    (ackP v.2.1 k) (by simp [ackP, hk]) (fun u hu => by simp [ackP] at hu; exact hu.1)
  rw [show (qv o).ret.any (ackP v.2.1 k) = true from hany] at h1
  exact ⟨h1, A, B, hl, (congrArg QV.ret (h2 h1)).trans hrem⟩

/-- An accepted acknowledgement, from what it does to the views: the answer `p` is no longer owed, one round less
is needed, at most one entry more has work to do. The rest is true of every inbound packet. -/
theorem ackEff_of_handled {d d' : SessionData} {r r' : Runtime} {p : Spec.ServerPacket}
    {q : Recv} (hres : handlePacket d r q = (d', r', .ok false)) (har : d.outbound.ArenaInv)
    (hgen : d'.generation = d.generation) (hpt : r'.pingTimeout = r.pingTimeout)
    (hctl : d'.outbound.control = d.outbound.control) (hret : (retView d'.outbound).Sublist (retView d.outbound))
    (hexp : (expected d.outbound).Perm (p :: expected d'.outbound)) (howed : owed d'.outbound + 1 = owed d.outbound)
    (hpend : pending d'.outbound ≤ pending d.outbound + 1) : AckEff d r d' r' p := by
  have hh : Handled d.outbound r d'.outbound r' (.ok false) := by
    have := handlePacket_handled d r q; rwa [hres] at this
  have hr : r'.maximumPacketSize = r.maximumPacketSize ∧ r'.deficit = r.deficit ∧ r'.maxSendQuota = r.maxSendQuota ∧
      r'.nextPing = r.nextPing := by
    have := handlePacket_rt d r q; rw [hres] at this
    rcases this with rfl | rfl | rfl <;> exact ⟨rfl, rfl, rfl, rfl⟩
  have hexp' : (expected d'.outbound).Perm ((expected d.outbound).erase p) := by
    have := hexp.erase p
    rw [List.erase_cons_head] at this
    exact this.symm
  exact ⟨hgen, hr.1, hr.2.1, hr.2.2.1, hr.2.2.2, hpt, hctl, hexp', howed, hpend, hret, (hh.vstep har).ids_sub,
    fun hm hq => (hh.books har hm hq).resolve_right (by simp [HandleFatal])⟩

/-- **`handle_packet` on an acknowledgement the broker owes**: it is accepted (`Ok(false)`), the entry
it acknowledges leaves its queue (a PUBREC puts a fresh PUBREL in the release queue), what the broker
owes loses exactly this answer, and one round less is needed. -/
theorem handlePacket_owed (d : SessionData) (r : Runtime) (p : Spec.ServerPacket)
    (hp : p ∈ expected d.outbound) (hid : d.outbound.IdInv) (har : d.outbound.ArenaInv)
    (hfit : r.packetTooLarge 5 = false) (hinfl : d.outbound.inflightPublishes ≤ MAX_PENDING_RELEASE) :
    ∃ d' r', handlePacket d r p.image = (d', r', .ok false) ∧ AckEff d r d' r' p := by
  have awaits : ∀ {id k}, (d.outbound.ackPacket id k).2 = true → d.awaits id k = true :=
    fun h => (ackPacket_found_iff _ _ _).symm.trans h
  rcases mem_expected.mp hp with ⟨v, hv, hans⟩ | ⟨u, hu, hans⟩
  · obtain ⟨-, hah⟩ := ansRet_some hans
    -- the retained packet `v` leaves; a QoS 2 PUBLISH leaves the fresh PUBREL `zs` behind
    have fin : ∀ {d' r'} (k : AckKind) (zs : List RelV), k.acknowledges (hd v.1) = true →
        handlePacket d r p.image = (d', r', .ok false) → d'.generation = d.generation → r'.pingTimeout = r.pingTimeout →
        retView d'.outbound = retView (d.outbound.ackPacket v.2.1 k).1 → d'.outbound.control = d.outbound.control →
        relView d'.outbound = relView (d.outbound.ackPacket v.2.1 k).1 ++ zs → zs.filterMap ansRel = [] →
        zs.length + 1 = wgt v →
        ∃ d' r', handlePacket d r p.image = (d', r', .ok false) ∧ AckEff d r d' r' p := by
      intro d' r' k zs hk hres hgen hpt hrv hctl hrel hnone hw
      obtain ⟨-, A, B, hret, hret'⟩ := ack_ret d.outbound hid har k hv hk
      rw [← hrv] at hret'
      rw [relView_ackPacket] at hrel
      have hlen : d'.outbound.release.length = d.outbound.release.length + zs.length := by
        rw [← relView_length, hrel, List.length_append, relView_length]
      refine ⟨d', r', hres, ackEff_of_handled hres har hgen hpt hctl ?_ ?_ ?_ ?_⟩
      · rw [hret, hret']; exact List.Sublist.append (List.Sublist.refl A) (List.sublist_cons_self v B)
      · simp only [expected, hret, hret', hrel, List.filterMap_append, filterMap_cons', hans, hnone, List.append_nil,
          Option.toList_some, List.singleton_append, List.append_assoc]
        exact List.perm_middle
      · simp only [owed, hret, hret', hlen, List.map_append, List.map_cons, List.sum_append, List.sum_cons]; omega
      · have : zs.countP (fun v : RelV => v.2 != .sent) ≤ zs.length := List.countP_le_length
        have := (wgt_pos v).2
        simp only [pending, hret, hret', hrel, hctl, List.countP_append, List.countP_cons]; omega
    have found := fun k hk => (ack_ret d.outbound hid har k hv hk).1
    have hfr := fun k => ackPacket_frame d.outbound v.2.1 k
    rcases ansHeader_cases hah with ⟨hk, rfl⟩ | ⟨hk, rfl⟩ | ⟨hk, hnr, rfl⟩ | ⟨hk, hnr, rfl⟩
    · refine fin (d' := d.acked v.2.1 .pubAck) (r' := quotaInc r) .pubAck [] hk ?_ rfl rfl rfl (hfr _).2.2.1 (List.append_nil _).symm
        rfl (wgt_other (pubAck_not_pubRec hk)).symm
      show handlePacket d r (.pubAck v.2.1 _) = _
      rw [handlePacket_pubAck, if_pos (awaits (found _ hk)), if_pos reasonSuccess_none]
    · -- PUBREC: the PUBLISH leaves, its PUBREL is queued
      have hroom : d.outbound.release.length < MAX_PENDING_RELEASE := by
        have := pubRec_room d.outbound v.2.1 har (found _ hk)
        omega
      refine fin (d' := (d.acked v.2.1 .pubRec).withRelease v.2.1 (d.outbound.ackedSer v.2.1 .pubRec)) (r' := r)
        .pubRec [(v.2.1, .write 0)] hk ?_ rfl rfl rfl (hfr _).2.2.1
        (relView_queued _ _ _)
        rfl (wgt_pubRec hk).symm
      show handlePacket d r (.pubRec v.2.1 _) = _
      rw [handlePacket_pubRec, if_pos (awaits (found _ hk)), if_neg (by simp [reasonSuccess_none]), if_neg (by simp [hfit]),
        if_pos hroom]
    · refine fin (d' := d.acked v.2.1 .subAck) (r' := r) .subAck [] hk ?_ rfl rfl rfl (hfr _).2.2.1 (List.append_nil _).symm
        rfl (wgt_other hnr).symm
      show handlePacket d r (.subAck v.2.1 _ _) = _
      rw [handlePacket_subAck, if_pos (awaits (found _ hk)), firstFailure_zero]
    · refine fin (d' := d.acked v.2.1 .unsubAck) (r' := r) .unsubAck [] hk ?_ rfl rfl rfl (hfr _).2.2.1 (List.append_nil _).symm
        rfl (wgt_other hnr).symm
      show handlePacket d r (.unsubAck v.2.1 _ _) = _
      rw [handlePacket_unsubAck, if_pos (awaits (found _ hk)), firstFailure_zero]
  · -- PUBCOMP: the PUBREL leaves the release queue
    obtain ⟨-, rfl⟩ := ansRel_some hans
    obtain ⟨A, B, hl, -, hrem, -, hany⟩ := keyed_split (fun x : RelV => x.1) hid.relView_nodup hu
      (fun x => x.1 == u.1) (by simp) (fun x hx => by simpa using hx)
    have hhas : d.outbound.hasPendingRelease u.1 = true := (relView_any _ _).symm.trans hany
    have hrv : relView (relDrop d.outbound u.1) = A ++ B := (relView_relDrop _ _).trans hrem
    have hretv : retView (relDrop d.outbound u.1) = retView d.outbound := rfl
    have hlen : (relDrop d.outbound u.1).release.length + 1 = d.outbound.release.length :=
      removeFirst_length _ _ hhas
    have hres : handlePacket d r (Spec.ServerPacket.ack .pubComp u.1 .none).image =
        ({ d with outbound := relDrop d.outbound u.1 }, quotaInc r, .ok false) := by
      show handlePacket d r (.pubComp u.1 _) = _
      rw [handlePacket_pubComp, if_pos hhas, if_pos reasonSuccess_none]; rfl
    refine ⟨_, _, hres, ackEff_of_handled hres har rfl rfl rfl (by rw [hretv]; exact List.Sublist.refl _) ?_ ?_ ?_⟩
    · simp only [expected, hretv, hrv, hl, List.filterMap_append, filterMap_cons', hans, Option.toList_some,
        List.singleton_append]
      exact (List.Perm.append_left _ List.perm_middle).trans List.perm_middle
    · show owed (relDrop d.outbound u.1) + 1 = owed d.outbound
      simp only [owed, hretv]; omega
    · show pending (relDrop d.outbound u.1) ≤ pending d.outbound + 1
      have hc : (relDrop d.outbound u.1).control = d.outbound.control := rfl
      simp only [pending, hretv, hrv, hl, hc, List.countP_append, List.countP_cons]; omega

theorem took_data (s : Session) (pkt : Bytes) : (took s pkt).data = s.data ∧ (took s pkt).rt = s.rt := ⟨rfl, rfl⟩

theorem received_effect (s : Session) (pkt : Bytes) (p : Spec.ServerPacket) (hp : p ∈ expected s.data.outbound)
    (hid : s.data.outbound.IdInv) (har : s.data.outbound.ArenaInv) (ht : Tidy s)
    (hk : KnownKinds s.data.outbound) (now : Nat) (hc : KaCalm s.rt now) :
    ((took s pkt).handle p.image).2 = .ok false ∧
    Tidy ((took s pkt).handle p.image).1 ∧ KnownKinds ((took s pkt).handle p.image).1.data.outbound ∧
    KaCalm ((took s pkt).handle p.image).1.rt now ∧
    owed ((took s pkt).handle p.image).1.data.outbound + 1 = owed s.data.outbound ∧
    pending ((took s pkt).handle p.image).1.data.outbound ≤ pending s.data.outbound + 1 ∧
    (expected ((took s pkt).handle p.image).1.data.outbound).Perm ((expected s.data.outbound).erase p) ∧
    ((took s pkt).handle p.image).1.reader = (took s pkt).reader ∧
    ((took s pkt).handle p.image).1.data.generation = s.data.generation := by
  have hinfl : s.data.outbound.inflightPublishes ≤ MAX_PENDING_RELEASE := by
    have := ht.maxq; have := ht.quotaEq; have := maxInflight_le; omega
  obtain ⟨d', r', hh, eff⟩ := handlePacket_owed s.data s.rt p hp hid har ht.fits.pubrel hinfl
  have hd : ((took s pkt).handle p.image).1.data = (handlePacket s.data s.rt p.image).1 ∧
      ((took s pkt).handle p.image).1.rt = (handlePacket s.data s.rt p.image).2.1 ∧
      ((took s pkt).handle p.image).2 = (handlePacket s.data s.rt p.image).2.2 := by
    unfold Session.handle; exact ⟨rfl, rfl, rfl⟩
  rw [hh] at hd
  dsimp only at hd
  obtain ⟨hdata, hrt, hres⟩ := hd
  rw [← hdata, ← hrt] at eff
  exact ⟨hres, ht.congr (by rw [eff.control]; exact fun x hx => ⟨ht.clean x hx, x, hx, rfl⟩) (by rw [eff.control]; exact Nat.le_refl _)
      (fun u hu => ⟨u, eff.ret.subset hu, rfl⟩) eff.ids eff.mps eff.deficit eff.maxq
      (eff.quota ht.maxq ht.quotaEq), fun v hv => hk v (eff.ret.subset hv),
    by unfold KaCalm; rw [eff.nextPing, eff.pingTimeout]; exact hc, eff.owed, eff.pend, eff.exp, rfl, eff.gen⟩

/-- **The step `next_step` hands out can be performed**: its packet is within the size limit, so
`perform_outbound_step` goes to its write (of an entry that is not completely written) or to its flush
(of an entry in `Flush`). -/
theorem prepare_ok (W : World) (st : Outbound.Step) (hn : W.sess.data.outbound.nextStep = some st)
    (hf : Fits W.sess) (har : W.sess.data.outbound.ArenaInv) :
    (∃ pkt bytes wr len, prepareStep W st = .write pkt bytes wr len ∧ len ≤ wr + (bytes.drop wr).length ∧
      WriteState W.sess pkt) ∨
    (∃ pkt, prepareStep W st = .flush pkt ∧ FlushState W.sess pkt) := by
  have hso := nextStep_stepOf _ st hn
  cases hso with
  | control e he hs =>
    cases hst : e.state with
    | sent => exact absurd hst hs
    | flush => exact .inr ⟨.control e.action, prepareStep_flush W rfl, ⟨e, he, rfl⟩⟩
    | write n =>
      obtain ⟨bs, h1, h2⟩ := hf.control e he
      refine .inl ⟨.control e.action, bs, n, bs.length, ?_, by simp; omega, ⟨e, he, rfl⟩⟩
      exact prepareStep_write W rfl h1 h2
  | release e he hs =>
    cases hst : e.state with
    | sent => exact absurd hst hs
    | flush => exact .inr ⟨.release e.id, prepareStep_flush W rfl, ⟨e, he, rfl, hst⟩⟩
    | write n =>
      obtain ⟨bs, h1, h2⟩ := encodePubrel_len e.id e.rc
      refine .inl ⟨.release e.id, bs, n, bs.length, ?_, by simp; omega, ⟨e, he, rfl, by rw [hst]; rfl⟩⟩
      exact prepareStep_write W rfl h1 (by rw [h2]; exact hf.pubrel)
  | retained e he hs =>
    cases hst : e.state with
    | sent => exact absurd hst hs
    | flush => exact .inr ⟨.retained e.id, prepareStep_flush W rfl, ⟨e, he, rfl, hst⟩⟩
    | write n =>
      have hlen : (slice W.sess.data.outbound.buf e.offset e.len).length = e.len :=
        slice_length _ _ _ (by have := har.ends e he; have := har.used_le; omega)
      have hfit := hf.retained _ (mem_retView he)
      simp only [hlen] at hfit
      refine .inl ⟨.retained e.id, W.sess.data.outbound.retainedPacket e.offset e.len, n, e.len, ?_, ?_,
        ⟨e, he, rfl, by rw [hst]; rfl⟩⟩
      · simp [prepareStep_retained_write, hfit]
      · simp only [Outbound.retainedPacket, List.length_drop, hlen]; omega

theorem pending_zero_iff (o : Outbound) :
    pending o = 0 ↔ o.control = [] ∧ (∀ e ∈ o.release, e.state = .sent) ∧ ∀ e ∈ o.retained, e.state = .sent := by
  simp [pending, relView, retView, and_assoc]

theorem pending_zero_of_nextStep_none (o : Outbound) (hn : o.nextStep = none)
    (hclean : ∀ e ∈ o.control, e.state ≠ .sent) : pending o = 0 := by
  obtain ⟨h1, h2, h3⟩ := nextStep_none_sent o hn
  exact (pending_zero_iff o).mpr ⟨List.eq_nil_iff_forall_not_mem.mpr fun e he => hclean e he (h1 e he), h2, h3⟩

theorem nextStep_none_of_pending_zero (o : Outbound) (h : pending o = 0) : o.nextStep = none := by
  obtain ⟨hc, hrel, hret⟩ := (pending_zero_iff o).mp h
  cases hn : o.nextStep with
  | none => rfl
  | some st =>
    cases nextStep_stepOf o st hn with
    | control e he hs => rw [hc] at he; cases he
    | release e he hs => exact absurd (hrel e he) hs
    | retained e he hs => exact absurd (hret e he) hs

theorem quiescent_of (o : Outbound) (hp : pending o = 0) (he : expected o = []) (hk : KnownKinds o) :
    o.isQuiescent = true := by
  obtain ⟨hc, h2, h3⟩ := (pending_zero_iff o).mp hp
  -- a `Sent` entry that is still queued is owed an answer
  have hr : o.retained = [] := List.eq_nil_iff_forall_not_mem.mpr fun x hx => by
    have hv := mem_retView hx
    obtain ⟨a, ha⟩ := Option.isSome_iff_exists.mp (hk _ hv)
    have : a ∈ expected o :=
      mem_expected.mpr (.inl ⟨_, hv, by simp only [ansRet, h3 x hx, sentish, if_true]; exact ha⟩)
    rw [he] at this; cases this
  have hl : o.release = [] := List.eq_nil_iff_forall_not_mem.mpr fun x hx => by
    have : (Spec.ServerPacket.ack .pubComp x.id .none) ∈ expected o :=
      mem_expected.mpr (.inr ⟨_, mem_relView hx, by simp [ansRel, h2 x hx, sentish]⟩)
    rw [he] at this; cases this
  simp [Outbound.isQuiescent, Outbound.hasPendingState, hc, hr, hl]
theorem expected_length_le (o : Outbound) : (expected o).length ≤ o.retained.length + o.release.length := by
  unfold expected
  rw [List.length_append]
  have h1 := List.length_filterMap_le ansRet (retView o)
  have h2 := List.length_filterMap_le ansRel (relView o)
  rw [retView_length] at h1; rw [relView_length] at h2
  omega

theorem pending_le (o : Outbound) : pending o ≤ o.control.length + o.release.length + o.retained.length := by
  rw [pending]
  have h1 := List.countP_le_length (p := fun v : RelV => v.2 != .sent) (l := relView o)
  have h2 := List.countP_le_length (p := fun v : RetV => v.2.2 != .sent) (l := retView o)
  rw [relView_length] at h1; rw [retView_length] at h2
  omega

end Quiesce
end Minimq
