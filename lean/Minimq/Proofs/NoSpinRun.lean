import Minimq.Proofs.FuelAdequate
/-
No busy loop inside `poll()` — one step (`step2`), directives and programs. The worlds of an execution
satisfy `WI` (a machine-made await point, no self-wake on record): every directive keeps it (`WI.dirClosed`,
an instance of `Fuel.DirClosed`), and the line `spin` is printed only by a `go` that used up all its rounds.
-/
namespace Minimq
open Gen World Fuel
namespace NoSpin

inductive Out2 (b : Nat) (c : Call) : Prop
  | call (c' : Call) (k : K b c') (t : Lines c.world c'.world) (h : ∀ m, c.run (m + 1) = c'.run m)
  | done (r : World) (t : Lines c.world r) (hw : r.wakes ≤ b) (hf : FutOk r) (h : ∀ m, c.run (m + 1) = r)

theorem Out2.finishErr {b : Nat} (c : Call) {a : World} (hl : Lines c.world a) (hw : a.wakes ≤ b) (op : String) (e : Err)
    (h : ∀ m, c.run (m + 1) = a.finishErr op e) : Out2 b c :=
  .done _ (hl.finishErr op e) hw (.inl rfl) h

theorem Out2.finish {b : Nat} (c : Call) {a : World} (hl : Lines c.world a) (hw : a.wakes ≤ b) (line : String)
    (h : ∀ m, c.run (m + 1) = a.finish line) : Out2 b c :=
  .done _ (hl.finish line) hw (.inl rfl) h

theorem Out2.finishOp {b : Nat} (c : Call) {a : World} (hl : Lines c.world a) (hw : a.wakes ≤ b) (name : String) (op : Op)
    (h : ∀ m, c.run (m + 1) = a.finishOp name op) : Out2 b c :=
  .done _ (hl.finishOp name op) hw (.inl rfl) h

theorem Out2.deliver {b : Nat} (c : Call) {a : World} (hl : Lines c.world a) (hw : a.wakes ≤ b) (name : String) (len : Nat)
    (h : ∀ m, c.run (m + 1) = a.deliver name len) : Out2 b c := by
  obtain ⟨ls, _, e⟩ := deliver_eq a name len
  exact .done _ (hl.deliver name len) (by rw [e]; exact hw) (.inl (by rw [e]; rfl)) h

/-- The part of `Fuel.run_step` that speaks of `K`. -/
theorem step2 (b : Nat) (c : Call) (k : K b c) : Out2 b c := by
  rcases run_step c with ⟨c', e, h⟩ | ⟨r, hl, h⟩
  · exact .call c' (e.keep b k) e.lines h
  · exact .done r (hl.tidy b k).1 (hl.tidy b k).2 hl.susp.futOk h

def Calm (w r : World) : Prop := ∃ new, r.out = new ++ w.out ∧ ∀ l ∈ new, l ≠ "spin"

theorem Lines.calm {w r : World} (h : Lines w r) : Calm w r := Grew.mono ne_spin_of_space h

theorem Calm.finish {w a : World} (h : Calm w a) (line : String) : Calm w (a.finish line) :=
  Grew.finish ne_spin_of_space h line

theorem Calm.finishErr {w a : World} (h : Calm w a) (op : String) (e : Err) : Calm w (a.finishErr op e) :=
  Grew.finishErr ne_spin_of_space h op e

def WI (w : World) : Prop := FutOk w ∧ w.wakes = 0

theorem WI.of_eq {a b : World} (h : WI a) (hf : b.fut = a.fut) (hw : b.wakes = a.wakes) : WI b := by
  unfold WI FutOk; rw [hf, hw]; exact h

theorem WI.dirClosed : DirClosed (fun w r => WI w → WI r) where
  trans h1 h2 h := h2 (h1 h)
  emit _ _ _ h := h.of_eq rfl rfl
  keep _ hw hf h :=
    ⟨hf.elim .inl fun ⟨e, _⟩ => by unfold FutOk; rw [e]; exact h.1, hw.elim (·.trans h.2) id⟩
  poll w h := ⟨(poll_tidy w).2.2, poll_ok w h.1⟩
  run c hg hw _ := ⟨(start_tidy c hg hw).2.2, (start_tidy c hg hw).2.1⟩

/-- `go` ran through all its `n` rounds: every POLL (with the decision "everything") left the
operation suspended, with fewer than 64 self-wakes, and its last I/O event was not a starved read. The flag
`lastIoStarved` is cleared when a POLL begins, so this does not say that the POLL did any I/O. -/
def GoBusy : Nat → World → Prop
  | 0, _ => True
  | n + 1, w =>
    let w' : World := { World.poll { w with slot := some 250 } with slot := none }
    w'.fut.isSome = true ∧ w'.wakes < 64 ∧ w'.lastIoStarved = false ∧ GoBusy n w'

theorem goLoop_calm (n : Nat) (w : World) : Calm w (World.goLoop n w) ∨ GoBusy n w := by
  induction n generalizing w with
  | zero => exact .inr trivial
  | succ n ih =>
    rw [World.goLoop]
    have h1 : Calm w ({ World.poll { w with slot := some 250 } with slot := none } : World) :=
      Grew.of_eq (poll_tidy { w with slot := some 250 }).1.calm rfl rfl
    refine ite_ind (P := fun r => Calm w r ∨ GoBusy (n + 1) w) (fun _ => .inl h1) (fun hf => ?_)
    refine ite_ind (P := fun r => Calm w r ∨ GoBusy (n + 1) w) (fun _ => .inl h1) (fun hwk => ?_)
    refine ite_ind (P := fun r => Calm w r ∨ GoBusy (n + 1) w) (fun _ => .inl h1) (fun hst => ?_)
    exact (ih _).imp (Grew.trans h1)
      (fun g => ⟨Option.ne_none_iff_isSome.mp (by simpa using hf), Nat.lt_of_not_ge hwk, by simpa using hst, g⟩)

theorem ne_spin_of_printed (l : String) (h : Printed l) : l ≠ "spin" := h.ne (by decide) (by decide)

theorem execDirective_WI (w : World) (d : Directive) (h : WI w) :
    WI (w.execDirective d) ∧ (Calm w (w.execDirective d) ∨ d = .go ∧ GoBusy 10000 w) :=
  ⟨WI.dirClosed.exec (fun _ h => h.of_eq rfl rfl) w d h,
    (Grew.dirClosed ne_spin_of_printed).execDirective w d fun hd => (goLoop_calm 10000 w).imp id (fun g => ⟨hd, g⟩)⟩

theorem exec_WI (w : World) (line : String) (h : WI w) :
    WI (w.exec line) ∧ (Calm w (w.exec line) ∨ parseDirective line = .go ∧ GoBusy 10000 w) := by
  obtain ⟨h1, h2⟩ := execDirective_WI w (parseDirective line) h
  exact ⟨WI.dirClosed.emitState _ h1, h2.imp (fun c => Grew.trans c ((Grew.dirClosed ne_spin_of_printed).emitState _)) id⟩

theorem fold_WI {α : Type} (f : World → α → World) (isGo : α → Prop) {B : World → Prop}
    (hf : ∀ w a, WI w → WI (f w a) ∧ (Calm w (f w a) ∨ isGo a ∧ B w)) (l : List α) (w : World) (h : WI w) :
    WI (l.foldl f w) ∧
    (Calm w (l.foldl f w) ∨ ∃ l1 a l2, l = l1 ++ a :: l2 ∧ isGo a ∧ B (l1.foldl f w)) := by
  induction l generalizing w with
  | nil => exact ⟨h, .inl (Grew.refl w)⟩
  | cons a l ih =>
    obtain ⟨h1, h2⟩ := hf w a h
    obtain ⟨i1, i2⟩ := ih _ h1
    refine ⟨i1, ?_⟩
    rcases h2 with c | ⟨ha, g⟩
    · rcases i2 with c2 | ⟨l1, a', l2, e, ha', g⟩
      · exact .inl (Grew.trans c c2)
      · exact .inr ⟨a :: l1, a', l2, by rw [e]; rfl, ha', g⟩
    · exact .inr ⟨[], a, l, rfl, ha, g⟩

theorem run_WI (ds : List Directive) (w : World) (h : WI w) :
    WI (ds.foldl World.execDirective w) ∧
    (Calm w (ds.foldl World.execDirective w) ∨
      ∃ ds1 ds2, ds = ds1 ++ Directive.go :: ds2 ∧ GoBusy 10000 (ds1.foldl World.execDirective w)) :=
  (fold_WI World.execDirective (· = .go) execDirective_WI ds w h).imp id
    (Or.imp id fun ⟨ds1, _, ds2, e, hd, g⟩ => ⟨ds1, ds2, hd ▸ e, g⟩)

theorem program_WI (ls : List String) (w : World) (h : WI w) :
    WI (ls.foldl World.exec w) ∧
    (Calm w (ls.foldl World.exec w) ∨
      ∃ ls1 l ls2, ls = ls1 ++ l :: ls2 ∧ parseDirective l = .go ∧ GoBusy 10000 (ls1.foldl World.exec w)) :=
  fold_WI World.exec (parseDirective · = .go) exec_WI ls w h

theorem WI_initial (cfg : Cfg) : WI ({ sess := Session.new cfg } : World) := ⟨.inl rfl, rfl⟩

theorem no_spin_fold (ls : List String) (w : World) (h : WI w) (hw : w.out = [])
    (hgo : ∀ l ∈ ls, parseDirective l ≠ .go) : "spin" ∉ (ls.foldl World.exec w).out.reverse := by
  rcases (program_WI ls w h).2 with c | ⟨ls1, l, ls2, e, hl, _⟩
  · exact Grew.not_mem c hw
  · exact absurd hl (hgo l (by rw [e]; simp))

end NoSpin
end Minimq
