import Minimq.Proofs.Writer
import Minimq.Proofs.Queues
/-
The transmit arena (`outbound.rs`): layout invariant, correctness of `compact`, and what each
operation of the arena does to the bytes of the retained packets.
-/
namespace Minimq
open Gen Outbound

/-- One complete MQTT control packet as far as framing goes: a header byte, the canonical
remaining length, and exactly that many bytes. -/
def Framed (bs : Bytes) : Prop :=
  ∃ hdr body, bs = hdr :: (encodeVarint body.length ++ body) ∧ body.length ≤ MQTT_VARINT_MAX

/-- What an encoder handed `cap` bytes of scratch space may return: a non-empty, framed packet that
lies inside them. -/
def EncOk {ε : Type} (enc : Nat → (Nat → Nat → Bytes) → Except ε (Nat × Bytes)) : Prop :=
  ∀ cap view off pkt, (∀ i n, (view i n).length ≤ n) → enc cap view = .ok (off, pkt) →
    off + pkt.length ≤ cap ∧ 0 < pkt.length ∧ Framed pkt

/-- The packets an encoder produces are of type `typ` (high nibble of the first byte). -/
def EncTyp {ε : Type} (enc : Nat → (Nat → Nat → Bytes) → Except ε (Nat × Bytes)) (typ : Nat) : Prop :=
  ∀ cap view off pkt, enc cap view = .ok (off, pkt) → ∃ x rest, pkt = x :: rest ∧ x.toNat / 16 = typ

theorem Encoded.encOk {cap typ flags off : Nat} {body pkt : Bytes} (e : Encoded typ flags body off pkt)
    (hfit : MAX_FIXED_HEADER_SIZE + body.length ≤ cap) : off + pkt.length ≤ cap ∧ 0 < pkt.length ∧ Framed pkt :=
  ⟨e.layout ▸ hfit, by rw [e.pkt_eq]; exact Nat.succ_pos _, _, _, e.pkt_eq, e.max⟩

theorem EncTyp_encodeWithOffset (cs : List (Except SerErr Bytes)) (typ flags : Nat) (ht : typ < 16) :
    EncTyp (fun cap _ => encodeWithOffset cap cs typ flags) typ := fun _ _ _ _ h =>
  (encodeWithOffset_ok h).elim fun _ e => e.2.1.head ht

theorem EncTyp_encodePublish (h : PublishHeader) (payload : Payload) :
    EncTyp (fun cap fill => encodePublishWithOffset cap h payload fill) MT_Publish := fun _ _ _ _ he => by
  obtain ⟨_, _, _, _, e, _⟩ := encodePublish_ok he
  exact e.head (by decide)

theorem EncOk_encodeWithOffset (cs : List (Except SerErr Bytes)) (typ flags : Nat) :
    EncOk (fun cap _ => encodeWithOffset cap cs typ flags) := fun _ _ _ _ _ h =>
  (encodeWithOffset_ok h).elim fun _ e => e.2.1.encOk e.2.2

theorem EncOk_encodeConnect (c : Connect) : EncOk (fun cap _ => encodeConnect cap c) :=
  EncOk_encodeWithOffset _ _ _

theorem EncOk_encodePublish (h : PublishHeader) (payload : Payload) :
    EncOk (fun cap fill => encodePublishWithOffset cap h payload fill) := fun _ _ _ _ hv he => by
  obtain ⟨_, _, _, _, e, hfit⟩ := encodePublish_ok he
  exact e.encOk (hfit hv)

theorem getElem?_slice (bs : Bytes) (off n i : Nat) :
    (slice bs off n)[i]? = if i < n then bs[off + i]? else none := by
  simp only [slice, List.getElem?_take, List.getElem?_drop]

theorem getElem?_setRange (bs : Bytes) (off : Nat) (src : Bytes) (i : Nat) (h : off + src.length ≤ bs.length) :
    (setRange bs off src)[i]? =
      if i < off then bs[i]? else if i < off + src.length then src[i - off]? else bs[i]? := by
  unfold setRange
  have hl : (bs.take off).length = off := List.length_take_of_le (by omega)
  by_cases h1 : i < off
  · rw [if_pos h1, List.append_assoc, List.getElem?_append_left (by omega), List.getElem?_take, if_pos h1]
  · rw [if_neg h1, List.append_assoc, List.getElem?_append_right (by omega), hl]
    by_cases h2 : i < off + src.length
    · rw [if_pos h2, List.getElem?_append_left (by omega)]
    · rw [if_neg h2, List.getElem?_append_right (by omega), List.getElem?_drop]
      congr 1; omega

theorem length_setRange (bs : Bytes) (off : Nat) (src : Bytes) (h : off + src.length ≤ bs.length) :
    (setRange bs off src).length = bs.length := by
  simp [setRange]; omega

theorem slice_length (bs : Bytes) (off len : Nat) (h : off + len ≤ bs.length) : (slice bs off len).length = len := by
  simp [slice]; omega

theorem slice_setRange_same (bs : Bytes) (off : Nat) (src : Bytes) (h : off + src.length ≤ bs.length) :
    slice (setRange bs off src) off src.length = src := by
  apply List.ext_getElem?
  intro i
  rw [getElem?_slice, getElem?_setRange _ _ _ _ h]
  by_cases hi : i < src.length
  · simp only [hi, if_true]
    rw [if_neg (by omega), if_pos (by omega)]
    congr 1; omega
  · simp only [hi, if_false]
    rw [List.getElem?_eq_none (by omega)]

theorem slice_setRange_off (bs : Bytes) (off : Nat) (src : Bytes) (o2 n : Nat)
    (h : off + src.length ≤ bs.length) (h2 : o2 + n ≤ off ∨ off + src.length ≤ o2) :
    slice (setRange bs off src) o2 n = slice bs o2 n := by
  apply List.ext_getElem?
  intro i
  rw [getElem?_slice, getElem?_slice, getElem?_setRange _ _ _ _ h]
  split
  · rcases h2 with h2 | h2
    · rw [if_pos (by omega)]
    · rw [if_neg (by omega), if_neg (by omega)]
  · rfl

/-- Entries are in increasing offset order, do not overlap, start at or after `lo`, end within `cap`. -/
def Sorted (lo cap : Nat) : List RetainedPacket → Prop
  | [] => lo ≤ cap
  | e :: es => lo ≤ e.offset ∧ Sorted (e.offset + e.len) cap es

theorem Sorted.le_cap {lo cap : Nat} {es : List RetainedPacket} (h : Sorted lo cap es) : lo ≤ cap := by
  induction es generalizing lo with
  | nil => exact h
  | cons e es ih => have := ih h.2; have := h.1; omega

theorem Sorted.mono {lo lo' cap : Nat} {es : List RetainedPacket} (h : Sorted lo cap es) (hl : lo' ≤ lo) :
    Sorted lo' cap es := by
  cases es with
  | nil => exact Nat.le_trans hl h
  | cons e es => exact ⟨Nat.le_trans hl h.1, h.2⟩

theorem Sorted.mem {lo cap : Nat} {es : List RetainedPacket} (h : Sorted lo cap es) :
    ∀ x ∈ es, lo ≤ x.offset ∧ x.offset + x.len ≤ cap := by
  induction es generalizing lo with
  | nil => intro x hx; simp at hx
  | cons e es ih =>
    intro x hx
    simp only [List.mem_cons] at hx
    rcases hx with rfl | hx
    · exact ⟨h.1, h.2.le_cap⟩
    · have := ih h.2 x hx; exact ⟨by have := h.1; omega, this.2⟩

/-- The bytes of each retained packet, in order. -/
def contents (buf : Bytes) (es : List RetainedPacket) : List Bytes := es.map fun e => slice buf e.offset e.len

theorem contents_congr (buf buf' : Bytes) (es : List RetainedPacket)
    (h : ∀ x ∈ es, slice buf' x.offset x.len = slice buf x.offset x.len) : contents buf' es = contents buf es := by
  simp only [contents]
  exact List.map_congr_left h

/-- **`compact` is correct**: every retained packet keeps its bytes (identifier, length and send state:
`compact_map`); the packets end up packed from the cursor on; nothing below the cursor is touched; the buffer
keeps its size. -/
theorem compactGo_spec (es : List RetainedPacket) (buf : Bytes) (c cap : Nat)
    (hs : Sorted c cap es) (hb : buf.length = cap) :
    let r := compactGo es buf c
    contents r.2.1 r.1 = contents buf es ∧
    Sorted c cap r.1 ∧ r.2.2 = c + (es.map (·.len)).sum ∧ r.2.1.length = cap ∧
    (∀ o n, o + n ≤ c → slice r.2.1 o n = slice buf o n) ∧
    (∀ x ∈ r.1, x.offset + x.len ≤ r.2.2) ∧ r.2.2 ≤ cap := by
  induction es generalizing buf c with
  | nil =>
    simp only [compactGo, contents, List.map_nil, List.sum_nil, Nat.add_zero]
    exact ⟨trivial, hs, trivial, hb, fun _ _ _ => trivial, by simp, hs⟩
  | cons e es ih =>
    obtain ⟨h1, h2⟩ := hs
    have hend : e.offset + e.len ≤ cap := h2.le_cap
    simp only [compactGo]
    -- the buffer after moving `e` down to the cursor
    generalize hbuf1 : (if e.offset ≠ c then setRange buf c (slice buf e.offset e.len) else buf) = buf1
    have hsl : (slice buf e.offset e.len).length = e.len := slice_length _ _ _ (by omega)
    have hb1 : buf1.length = cap := by
      rw [← hbuf1]; split
      · rw [length_setRange _ _ _ (by omega)]; exact hb
      · exact hb
    have he1 : slice buf1 c e.len = slice buf e.offset e.len := by
      rw [← hbuf1]; split
      · have := slice_setRange_same buf c (slice buf e.offset e.len) (by omega)
        rw [hsl] at this; exact this
      · rename_i hne; simp at hne; rw [hne]
    have htail : ∀ o n, e.offset + e.len ≤ o → slice buf1 o n = slice buf o n := by
      intro o n ho
      rw [← hbuf1]; split
      · exact slice_setRange_off _ _ _ _ _ (by omega) (.inr (by omega))
      · rfl
    have hlow : ∀ o n, o + n ≤ c → slice buf1 o n = slice buf o n := by
      intro o n ho
      rw [← hbuf1]; split
      · exact slice_setRange_off _ _ _ _ _ (by omega) (.inl ho)
      · rfl
    have ih' := ih buf1 (c + e.len) (h2.mono (by omega)) hb1
    simp only [] at ih'
    obtain ⟨i1, i3, i4, i5, i6, i7, i8⟩ := ih'
    refine ⟨?_, ?_, ?_, i5, ?_, ?_, i8⟩
    · simp only [contents, List.map_cons]
      congr 1
      · rw [i6 c e.len (by omega), he1]
      · have := i1
        simp only [contents] at this
        rw [this]
        exact List.map_congr_left (fun x hx => htail _ _ (h2.mem x hx).1)
    · exact ⟨Nat.le_refl _, i3⟩
    · simp only [List.map_cons, List.sum_cons, i4]; omega
    · intro o n ho
      rw [i6 o n (by omega), hlow o n ho]
    · intro x hx
      simp only [List.mem_cons] at hx
      rcases hx with rfl | hx
      · simp only [i4]; omega
      · exact i7 x hx

theorem Sorted.sublist {lo cap : Nat} {es es' : List RetainedPacket} (h : Sorted lo cap es) (hs : es'.Sublist es) :
    Sorted lo cap es' := by
  induction hs generalizing lo with
  | slnil => exact h
  | cons a _ ih => exact ih (h.2.mono (by have := h.1; omega))
  | cons_cons a _ ih => exact ⟨h.1, ih h.2⟩

/-- The arena is laid out sanely: retained packets in increasing offset order without overlap, all
inside `used`, `used` inside the buffer. -/
structure Outbound.ArenaInv (o : Outbound) : Prop where
  sorted : Sorted 0 o.buf.length o.retained
  ends : ∀ x ∈ o.retained, x.offset + x.len ≤ o.used
  used_le : o.used ≤ o.buf.length
  pos : ∀ x ∈ o.retained, 0 < x.len

def Outbound.contents (o : Outbound) : List Bytes := Minimq.contents o.buf o.retained

/-- Identifier, length, send state and serial of every retained packet, in order. -/
def Outbound.meta (o : Outbound) : List (Nat × Nat × SendState × Nat) := o.retained.map fun e => (e.id, e.len, e.state, e.ser)

theorem ArenaInv_new (cap : Nat) : (Outbound.new cap).ArenaInv := by
  constructor <;> simp [Outbound.new, Sorted]

theorem ArenaInv_clear (o : Outbound) : (o.clear).ArenaInv := by
  constructor <;> simp [Outbound.clear, Sorted]

theorem compact_spec (o : Outbound) (h : o.ArenaInv) :
    (o.compact).ArenaInv ∧ (o.compact).contents = o.contents ∧ (o.compact).meta = o.meta ∧
    (o.compact).used = (o.retained.map (·.len)).sum ∧ (o.compact).buf.length = o.buf.length ∧
    (o.compact).release = o.release ∧ (o.compact).control = o.control ∧ (o.compact).nextSer = o.nextSer := by
  have hs := compactGo_spec o.retained o.buf 0 o.buf.length h.sorted rfl
  simp only [] at hs
  obtain ⟨h1, h3, h4, h5, _, h7, h8⟩ := hs
  have h2 := compact_map (fun e => (e.id, e.len, e.state, e.ser)) (fun _ _ => rfl) o
  refine ⟨⟨?_, ?_, ?_, ?_⟩, ?_, ?_, ?_, ?_, rfl, rfl, rfl⟩
  · simp only [compact]; rw [h5]; exact h3
  · simp only [compact]; exact h7
  · simp only [compact]; rw [h5]; exact h8
  · simp only [compact]
    exact forall_of_map_eq (fun t => 0 < t.2.1) h2 h.pos
  · simp only [Outbound.contents, compact]; exact h1
  · simp only [Outbound.meta, compact]; exact h2
  · simp only [compact]; rw [h4]; simp
  · simp only [compact]; exact h5

theorem ArenaInv_sub (o : Outbound) (es : List RetainedPacket) (h : o.ArenaInv) (hs : es.Sublist o.retained) :
    ({ o with retained := es } : Outbound).ArenaInv :=
  ⟨h.sorted.sublist hs, fun x hx => h.ends x (hs.subset hx), h.used_le, fun x hx => h.pos x (hs.subset hx)⟩

theorem ackPacket_spec (o : Outbound) (id : Nat) (k : AckKind) (h : o.ArenaInv) :
    let p := fun (e : RetainedPacket) => e.id == id && k.acknowledges (o.headerAt e.offset)
    (o.ackPacket id k).1.ArenaInv ∧
    ((o.ackPacket id k).2 = true →
      (o.ackPacket id k).1.contents = contents o.buf (removeFirst p o.retained) ∧
      (o.ackPacket id k).1.meta = (removeFirst p o.retained).map (fun e => (e.id, e.len, e.state, e.ser))) ∧
    ((o.ackPacket id k).2 = false → (o.ackPacket id k).1 = o) ∧ (o.ackPacket id k).1.nextSer = o.nextSer ∧
    (o.ackPacket id k).1.buf.length = o.buf.length := by
  intro p
  unfold ackPacket
  simp only []
  split
  · have hi := ArenaInv_sub o (removeFirst p o.retained) h (removeFirst_sublist p _)
    have hc := compact_spec _ hi
    exact ⟨hc.1, fun _ => ⟨hc.2.1, hc.2.2.1⟩, fun hf => by simp at hf, hc.2.2.2.2.2.2.2, hc.2.2.2.2.1⟩
  · exact ⟨h, fun hf => by simp at hf, fun _ => rfl, rfl, rfl⟩

theorem slice_length_le (bs : Bytes) (off n : Nat) : (slice bs off n).length ≤ n := by
  simp [slice]; omega

theorem compact_used (o : Outbound) (h : o.ArenaInv) :
    o.compact.used = o.usedAfterCompact ∧ o.compact.capacity - o.compact.used = o.scratchLen := by
  obtain ⟨_, _, _, c4, c5, _⟩ := compact_spec o h
  refine ⟨c4, ?_⟩
  simp only [scratchLen, capacity, usedAfterCompact, c4, c5]

/-- What the encoder is shown of the scratch space: the arena content behind the compacted retained
packets (only a `lie` payload — a `ToPayload` that reports more bytes than it wrote — ever looks at it). -/
def Outbound.scratchView (o : Outbound) : Nat → Nat → Bytes :=
  fun idx n => slice o.compact.buf (o.usedAfterCompact + idx) n

/-- `encode_packet` / `encode_publish`: the arena is compacted, the encoder gets the whole scratch space
(`scratchLen` bytes behind the retained packets), and a packet it returns at offset `off` of that space
is written at `usedAfterCompact + off` of the arena. -/
theorem encodeAt_eq {ε : Type} (o : Outbound) (enc : Nat → (Nat → Nat → Bytes) → Except ε (Nat × Bytes))
    (h : o.ArenaInv) :
    o.encodeAt enc =
      match enc o.scratchLen o.scratchView with
      | .error e => (o.compact, .error e)
      | .ok (off, pkt) =>
        ({ o.compact with buf := setRange o.compact.buf (o.usedAfterCompact + off) pkt },
          .ok (o.usedAfterCompact + off, pkt.length)) := by
  obtain ⟨hu, hs⟩ := compact_used o h
  unfold encodeAt Outbound.scratchView
  simp only [hs]
  rw [hu]
  cases enc o.scratchLen fun idx n => slice o.compact.buf (o.usedAfterCompact + idx) n <;> rfl

theorem encodeAt_spec {ε : Type} (o : Outbound) (enc : Nat → (Nat → Nat → Bytes) → Except ε (Nat × Bytes))
    (h : o.ArenaInv) (he : EncOk enc) :
    (o.encodeAt enc).1.ArenaInv ∧ (o.encodeAt enc).1.contents = o.contents ∧
    (o.encodeAt enc).1.meta = o.meta ∧ (o.encodeAt enc).1.used = (o.retained.map (·.len)).sum ∧
    (o.encodeAt enc).1.buf.length = o.buf.length ∧
    (o.encodeAt enc).1.release = o.release ∧ (o.encodeAt enc).1.control = o.control ∧
    (o.encodeAt enc).1.nextSer = o.nextSer ∧
    (∀ off len, (o.encodeAt enc).2 = .ok (off, len) →
      (o.encodeAt enc).1.used ≤ off ∧ off + len ≤ o.buf.length ∧ 0 < len) := by
  obtain ⟨c1, c2, c3, c4, c5, c6, c7, c8⟩ := compact_spec o h
  unfold encodeAt
  simp only []
  generalize hres : enc (o.compact.capacity - o.compact.used)
    (fun idx n => slice o.compact.buf (o.compact.used + idx) n) = res
  cases res with
  | error e => exact ⟨c1, c2, c3, c4, c5, c6, c7, c8, fun _ _ hf => by simp at hf⟩
  | ok r =>
    obtain ⟨off, pkt⟩ := r
    obtain ⟨hb, hp, _⟩ := he _ _ off pkt (fun i n => slice_length_le _ _ _) hres
    have hu := c1.used_le
    simp only [capacity] at hb
    have hfit : o.compact.used + off + pkt.length ≤ o.compact.buf.length := by omega
    have hlen := length_setRange o.compact.buf (o.compact.used + off) pkt hfit
    -- after `compact` every retained packet ends at or below `used`, and the encoder writes behind it
    have hkeep : ∀ x ∈ o.compact.retained,
        slice (setRange o.compact.buf (o.compact.used + off) pkt) x.offset x.len = slice o.compact.buf x.offset x.len := by
      intro x hx
      exact slice_setRange_off _ _ _ _ _ hfit (.inl (by have := c1.ends x hx; omega))
    refine ⟨⟨?_, c1.ends, ?_, c1.pos⟩, ?_, c3, c4, ?_, c6, c7, c8, ?_⟩
    · simp only []; rw [hlen]; exact c1.sorted
    · simp only []; rw [hlen]; exact hu
    · simp only [Outbound.contents]
      rw [contents_congr _ _ _ hkeep]; exact c2
    · simp only []; rw [hlen]; exact c5
    · intro off' len' heq
      simp only [Except.ok.injEq, Prod.mk.injEq] at heq
      obtain ⟨rfl, rfl⟩ := heq
      simp only []
      exact ⟨by omega, by omega, hp⟩

theorem encodeAt_bytes {ε : Type} (o : Outbound) (enc : Nat → (Nat → Nat → Bytes) → Except ε (Nat × Bytes))
    (h : o.ArenaInv) (he : EncOk enc)
    (off : Nat) (pkt : Bytes) (hok : enc o.scratchLen o.scratchView = .ok (off, pkt)) :
    (o.encodeAt enc).2 = .ok (o.usedAfterCompact + off, pkt.length) ∧
    (o.encodeAt enc).1.retained = o.compact.retained ∧
    slice (o.encodeAt enc).1.buf (o.usedAfterCompact + off) pkt.length = pkt ∧
    o.usedAfterCompact + off + pkt.length ≤ o.buf.length ∧ 0 < pkt.length := by
  obtain ⟨c1, _, _, c4, c5, _⟩ := compact_spec o h
  obtain ⟨hb, hpos, _⟩ := he o.scratchLen o.scratchView off pkt (fun _ _ => slice_length_le _ _ _) hok
  have hule := c1.used_le
  rw [c4, c5] at hule
  have hfit : o.usedAfterCompact + off + pkt.length ≤ o.buf.length := by
    simp only [scratchLen, capacity] at hb; omega
  rw [encodeAt_eq o enc h, hok]
  exact ⟨rfl, rfl, slice_setRange_same _ _ _ (c5 ▸ hfit), hfit, hpos⟩

theorem encodeAt_packet {ε : Type} (o : Outbound) (enc : Nat → (Nat → Nat → Bytes) → Except ε (Nat × Bytes))
    (h : o.ArenaInv) (he : EncOk enc) (off len : Nat) (hres : (o.encodeAt enc).2 = .ok (off, len)) :
    ∃ off0 pkt, enc o.scratchLen o.scratchView = .ok (off0, pkt) ∧
      slice (o.encodeAt enc).1.buf off len = pkt ∧ len = pkt.length := by
  cases hr : enc o.scratchLen o.scratchView with
  | error e => rw [encodeAt_eq o enc h, hr] at hres; cases hres
  | ok r =>
    obtain ⟨off0, pkt⟩ := r
    obtain ⟨b1, _, b3, _⟩ := encodeAt_bytes o enc h he off0 pkt hr
    rw [b1] at hres
    cases hres
    exact ⟨off0, pkt, rfl, b3, rfl⟩

theorem Sorted.append {lo cap : Nat} {es : List RetainedPacket} (e : RetainedPacket) (h : Sorted lo cap es)
    (hlo : lo ≤ e.offset) (hpre : ∀ x ∈ es, x.offset + x.len ≤ e.offset) (hend : e.offset + e.len ≤ cap) :
    Sorted lo cap (es ++ [e]) := by
  induction es generalizing lo with
  | nil => exact ⟨hlo, hend⟩
  | cons x xs ih =>
    refine ⟨h.1, ih h.2 (hpre x (by simp)) (fun y hy => hpre y (by simp [hy]))⟩

theorem retainPacket_spec (o o' : Outbound) (id off len : Nat) (h : o.ArenaInv)
    (hoff : o.used ≤ off) (hend : off + len ≤ o.buf.length) (hpos : 0 < len) (hr : o.retainPacket id off len = some o') :
    o'.ArenaInv ∧ o'.contents = o.contents ++ [slice o.buf off len] ∧
    o'.meta = o.meta ++ [(id, len, .write 0, o.nextSer)] ∧ o'.buf = o.buf ∧ o'.release = o.release ∧ o'.control = o.control ∧
    o'.nextSer = o.nextSer + 1 := by
  obtain ⟨_, rfl⟩ := retainPacket_some hr
  refine ⟨⟨?_, ?_, ?_, ?_⟩, ?_, ?_, rfl, rfl, rfl, rfl⟩
  · exact Sorted.append _ h.sorted (Nat.zero_le _) (fun x hx => by have := h.ends x hx; simp only []; omega) hend
  · exact List.forall_mem_append.mpr ⟨fun x hx => by have := h.ends x hx; simp only []; omega,
      List.forall_mem_singleton.mpr (by simp only []; omega)⟩
  · simp only []; have := h.used_le; omega
  · exact List.forall_mem_append.mpr ⟨h.pos, List.forall_mem_singleton.mpr hpos⟩
  · simp [Outbound.contents, Minimq.contents]
  · simp [Outbound.meta]

/-- `byte | 1 << 3`, as the term that `Outbound.orDupAt` (`Out.lean`) writes into the buffer — high nibble, bit 3
replaced by 1, low three bits —, so that the two agree by unfolding. -/
def dupByte (x : UInt8) : UInt8 := b (x.toNat / 16 * 16 + (x.toNat % 16 / 8 * 0 + 8) + x.toNat % 8)

/-- A packet with bit 3 of its first byte set. -/
def setDup : Bytes → Bytes
  | [] => []
  | x :: r => dupByte x :: r

theorem dupByte_parts (x : UInt8) : (dupByte x).toNat / 16 = x.toNat / 16 ∧ (dupByte x).toNat % 8 = x.toNat % 8 := by
  have hh : x.toNat / 16 < 16 := Nat.div_lt_of_lt_mul x.toNat_lt
  have hl : x.toNat % 8 < 8 := Nat.mod_lt _ (by decide)
  simp only [dupByte, b, UInt8.toNat_ofNat', Nat.mul_zero, Nat.zero_add]
  generalize x.toNat / 16 = h at *
  generalize x.toNat % 8 = l at *
  rw [Nat.mod_eq_of_lt (by omega : h * 16 + 8 + l < 256), Nat.add_assoc]
  constructor
  · rw [Nat.add_comm, Nat.add_mul_div_right _ _ (by decide), Nat.div_eq_of_lt (by omega), Nat.zero_add]
  · omega

theorem dupByte_idem (x : UInt8) : dupByte (dupByte x) = dupByte x := by
  obtain ⟨h1, h2⟩ := dupByte_parts x
  show b (_ / 16 * 16 + _ + _ % 8) = b (_ / 16 * 16 + _ + _ % 8)
  rw [h1, h2, Nat.mul_zero, Nat.mul_zero]

theorem getElem?_orDupAt (buf : Bytes) (off i : Nat) :
    (orDupAt buf off)[i]? = if i = off then buf[i]?.map dupByte else buf[i]? := by
  unfold orDupAt
  cases h : buf[off]? with
  | none =>
    simp only []
    split
    · rename_i he; subst he; simp [h]
    · rfl
  | some x =>
    simp only []
    rw [List.getElem?_set]
    by_cases he : off = i
    · subst he
      have hl : off < buf.length := by
        rcases Nat.lt_or_ge off buf.length with hl | hl
        · exact hl
        · rw [List.getElem?_eq_none hl] at h; simp at h
      have hx : buf[off] = x := by
        rw [List.getElem?_eq_getElem hl] at h; simpa using h
      simp [hl, hx, dupByte]
    · rw [if_neg he, if_neg (fun h' => he h'.symm)]

theorem length_orDupAt (buf : Bytes) (off : Nat) : (orDupAt buf off).length = buf.length := by
  unfold orDupAt; split <;> simp

theorem foldl_orDupAt (es : List RetainedPacket) (buf : Bytes) :
    (es.foldl (fun buf e => orDupAt buf e.offset) buf).length = buf.length ∧
    ∀ i, (es.foldl (fun buf e => orDupAt buf e.offset) buf)[i]? =
      if es.any (fun e => e.offset == i) then buf[i]?.map dupByte else buf[i]? := by
  induction es generalizing buf with
  | nil => simp
  | cons e es ih =>
    simp only [List.foldl_cons]
    obtain ⟨l, g⟩ := ih (orDupAt buf e.offset)
    refine ⟨by rw [l, length_orDupAt], ?_⟩
    intro i
    rw [g i, getElem?_orDupAt]
    simp only [List.any_cons]
    by_cases h1 : i = e.offset
    · subst h1
      simp only [beq_self_eq_true, Bool.true_or, if_true]
      split
      · cases buf[e.offset]? with
        | none => rfl
        | some x => simp [dupByte_idem]
      · rfl
    · have : (e.offset == i) = false := by simp; omega
      simp only [h1, this, if_false, Bool.false_or]

theorem Sorted.disjoint {lo cap : Nat} {es : List RetainedPacket} (h : Sorted lo cap es) :
    ∀ x ∈ es, ∀ y ∈ es, y.offset + y.len ≤ x.offset ∨ x.offset + x.len ≤ y.offset ∨ x.offset = y.offset := by
  induction es generalizing lo with
  | nil => intro x hx; simp at hx
  | cons e es ih =>
    intro x hx y hy
    simp only [List.mem_cons] at hx hy
    rcases hx with rfl | hx <;> rcases hy with rfl | hy
    · exact Or.inr (Or.inr rfl)
    · exact Or.inr (Or.inl (h.2.mem y hy).1)
    · exact Or.inl (h.2.mem x hx).1
    · exact ih h.2 x hx y hy

theorem getElem?_setDup (l : Bytes) (i : Nat) : (setDup l)[i]? = if i = 0 then l[i]?.map dupByte else l[i]? := by
  cases l with
  | nil => simp [setDup]
  | cons x r =>
    cases i with
    | zero => simp [setDup]
    | succ i => simp [setDup]

theorem markRetainedDup_spec (o : Outbound) (h : o.ArenaInv) :
    (o.markRetainedDup).contents = o.contents.map setDup ∧ (o.markRetainedDup).buf.length = o.buf.length := by
  obtain ⟨l, g⟩ := foldl_orDupAt o.retained o.buf
  refine ⟨?_, l⟩
  simp only [Outbound.contents, markRetainedDup, contents, List.map_map]
  apply List.map_congr_left
  intro x hx
  simp only [Function.comp]
  apply List.ext_getElem?
  intro i
  rw [getElem?_slice, getElem?_setDup, getElem?_slice, g]
  -- byte `x.offset + i` is the first byte of a retained packet iff `i = 0`: the packets are disjoint and not empty
  by_cases hi : i < x.len
  · simp only [hi, if_true]
    by_cases h0 : i = 0
    · subst h0
      have : o.retained.any (fun e => e.offset == x.offset + 0) = true := by
        rw [List.any_eq_true]; exact ⟨x, hx, by simp⟩
      rw [this]; simp
    · have : o.retained.any (fun e => e.offset == x.offset + i) = false := by
        rw [List.any_eq_false]
        intro y hy
        have hd := h.sorted.disjoint x hx y hy
        have hp := h.pos y hy
        simp only [beq_iff_eq]
        omega
      rw [this]; simp [h0]
  · simp only [hi, if_false]
    split <;> rfl

def layout (es : List RetainedPacket) : List (Nat × Nat) := es.map fun e => (e.offset, e.len)

theorem Sorted_of_layout {lo cap : Nat} {es es' : List RetainedPacket} (h : Sorted lo cap es)
    (hl : layout es' = layout es) : Sorted lo cap es' := by
  induction es generalizing lo es' with
  | nil => cases es' with
    | nil => exact h
    | cons x xs => simp [layout] at hl
  | cons e es ih =>
    cases es' with
    | nil => simp [layout] at hl
    | cons x xs =>
      simp only [layout, List.map_cons, List.cons.injEq, Prod.mk.injEq] at hl
      obtain ⟨⟨ho, hn⟩, ht⟩ := hl
      exact ⟨by rw [ho]; exact h.1, by rw [ho, hn]; exact ih h.2 ht⟩

theorem ArenaInv_of_layout {o o' : Outbound} (h : o.ArenaInv) (hl : layout o'.retained = layout o.retained)
    (hb : o'.buf.length = o.buf.length) (hu : o'.used = o.used) : o'.ArenaInv :=
  ⟨by rw [hb]; exact Sorted_of_layout h.sorted hl,
   by rw [hu]; exact forall_of_map_eq (fun p => p.1 + p.2 ≤ o.used) hl h.ends,
   by rw [hu, hb]; exact h.used_le,
   forall_of_map_eq (fun p => 0 < p.2) hl h.pos⟩

theorem layout_modifyFirst (p : RetainedPacket → Bool) (f : RetainedPacket → RetainedPacket)
    (hf : ∀ e, (f e).offset = e.offset ∧ (f e).len = e.len) (es : List RetainedPacket) :
    layout (modifyFirst p f es) = layout es :=
  modifyFirst_map_id p f _ (fun e => by rw [(hf e).1, (hf e).2]) es

theorem armReplay_spec (o : Outbound) (h : o.ArenaInv) :
    (o.armReplay).ArenaInv ∧
    ((o.armReplay).contents = o.contents.map setDup ∨ ((o.armReplay) = o ∧ o.retained = [])) ∧
    (o.armReplay).retained.map (fun e => (e.id, e.len, e.ser)) = o.retained.map (fun e => (e.id, e.len, e.ser)) ∧
    (o.armReplay).used = o.used ∧ (o.armReplay).buf.length = o.buf.length ∧ (o.armReplay).nextSer = o.nextSer := by
  unfold armReplay
  split
  · rename_i hq
    refine ⟨h, Or.inr ⟨rfl, ?_⟩, rfl, rfl, rfl, rfl⟩
    simp [hasPendingState] at hq
    exact hq.1.2
  · obtain ⟨hc, hl⟩ := markRetainedDup_spec o h
    refine ⟨ArenaInv_of_layout h ?_ hl rfl, Or.inl ?_, ?_, rfl, hl, rfl⟩
    · simp only [layout, markRetainedDup, List.map_map, Function.comp_def]
    · rw [← hc]
      simp [Outbound.contents, contents, markRetainedDup, List.map_map, Function.comp]
    · simp [markRetainedDup, List.map_map, Function.comp]

end Minimq
