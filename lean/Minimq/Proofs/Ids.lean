import Minimq.Proofs.Queues
import Minimq.SessOps
/-
Packet identifiers: the allocator finds a free identifier (pigeonhole), and the identifiers in
flight stay pairwise distinct and non-zero under every operation on the outbound state.
-/
namespace Minimq
open Gen Outbound

/-- Pigeonhole on lists: distinct elements that all occur in `used` are at most `used.length` many. -/
theorem nodup_subset_length (l used : List Nat) (hn : l.Nodup) (hs : ∀ x ∈ l, x ∈ used) :
    l.length ≤ used.length := by
  induction l generalizing used with
  | nil => simp
  | cons x l ih =>
    have hx : x ∈ used := hs x (by simp)
    have hn' := List.nodup_cons.mp hn
    have := ih (used.erase x) hn'.2 (fun y hy => by
      have hne : y ≠ x := fun h => hn'.1 (h ▸ hy)
      exact (List.mem_erase_of_ne hne).mpr (hs y (by simp [hy])))
    have hl := List.length_erase_of_mem hx
    simp only [List.length_cons]
    have : 0 < used.length := List.length_pos_of_mem hx
    omega

/-- The `k`-th candidate after `p` in the cyclic order 1, 2, …, 65535, 1, …. -/
def cand (p k : Nat) : Nat := (p - 1 + k) % 65535 + 1

theorem cand_zero (p : Nat) (h : 1 ≤ p ∧ p ≤ 65535) : cand p 0 = p := by
  unfold cand; omega

theorem bump_cand (p k : Nat) : SessionData.bumpId (cand p k) = cand p (k + 1) := by
  unfold SessionData.bumpId cand
  split <;> omega

theorem cand_range (p k : Nat) : 1 ≤ cand p k ∧ cand p k ≤ 65535 := by
  unfold cand; omega

theorem cand_inj (p i j : Nat) (hi : i < 65535) (hj : j < 65535) (h : cand p i = cand p j) : i = j := by
  unfold cand at h; omega

def Outbound.usedIds (o : Outbound) : List Nat := o.retained.map (·.id) ++ o.release.map (·.id)

theorem usedIds_mem (o : Outbound) (id : Nat) :
    id ∈ o.usedIds ↔ (o.hasRetained id = true ∨ o.hasPendingRelease id = true) := by
  simp [Outbound.usedIds, Outbound.hasRetained, Outbound.hasPendingRelease, List.any_eq_true]

theorem nextPacketIdFuel_fst (fuel : Nat) (d : SessionData) :
    ∃ pid, (d.nextPacketIdFuel fuel).1 = { d with packetId := pid } := by
  induction fuel generalizing d with
  | zero => exact ⟨d.packetId, rfl⟩
  | succ n ih =>
    simp only [SessionData.nextPacketIdFuel]
    split
    · exact ⟨_, rfl⟩
    · exact ih _

theorem nextPacketId_fst (d : SessionData) : ∃ pid, d.nextPacketId.1 = { d with packetId := pid } :=
  nextPacketIdFuel_fst _ d

theorem nextPacketId_outbound (d : SessionData) : (d.nextPacketId).1.outbound = d.outbound := by
  obtain ⟨pid, h⟩ := nextPacketId_fst d
  rw [h]

theorem Session.alloc_fst (s : Session) : s.alloc.1 = { s with data := s.data.nextPacketId.1 } := by
  unfold Session.alloc
  cases s.data.nextPacketId; rfl

theorem Session.alloc_snd (s : Session) : s.alloc.2 = s.data.nextPacketId.2 := by
  unfold Session.alloc
  cases s.data.nextPacketId; rfl

theorem Session.alloc_outbound (s : Session) : s.alloc.1.data.outbound = s.data.outbound := by
  rw [Session.alloc_fst]; exact nextPacketId_outbound s.data

theorem Session.retain_some {s s3 : Session} {id off len : Nat} {isPub : Bool} (h : s.retain id off len isPub = some s3) :
    ∃ o, s.data.outbound.retainPacket id off len = some o ∧
      s3 = { s with data := { s.data with outbound := o },
                    rt := { s.rt with sendQuota := if isPub then s.rt.sendQuota - 1 else s.rt.sendQuota } } := by
  unfold Session.retain at h
  cases ho : s.data.outbound.retainPacket id off len with
  | none => rw [ho] at h; cases h
  | some o => rw [ho] at h; cases h; cases isPub <;> exact ⟨o, rfl, rfl⟩

theorem Session.alloc_rt (s : Session) : s.alloc.1.rt = s.rt := by rw [Session.alloc_fst]

theorem canPublishS_alloc (s : Session) (rt : Runtime) (q : Nat) :
    canPublishS s.alloc.1.data rt q = canPublishS s.data rt q := by
  unfold canPublishS
  rw [Session.alloc_outbound]

/-- What the allocator loop returns after starting at candidate `k`: a free candidate `j ≥ k`, with
the counter moved just behind it — or all `fuel` candidates from `k` on are in use. -/
theorem nextPacketIdFuel_spec (fuel : Nat) (d : SessionData) (p k : Nat) (hp : d.packetId = cand p k) :
    (∃ j, k ≤ j ∧ j < k + fuel ∧ (d.nextPacketIdFuel fuel).2 = cand p j ∧
        cand p j ∉ d.outbound.usedIds ∧ (d.nextPacketIdFuel fuel).1.packetId = cand p (j + 1)) ∨
    (∀ j, k ≤ j → j < k + fuel → cand p j ∈ d.outbound.usedIds) := by
  induction fuel generalizing d k with
  | zero => right; intro j h1 h2; omega
  | succ fuel ih =>
    unfold SessionData.nextPacketIdFuel
    by_cases hfree : (!d.outbound.hasRetained d.packetId && !d.outbound.hasPendingRelease d.packetId) = true
    · left
      rw [if_pos hfree]
      refine ⟨k, Nat.le_refl _, by omega, hp, ?_, by rw [hp]; exact bump_cand p k⟩
      rw [← hp, usedIds_mem]
      simpa using hfree
    · rw [if_neg hfree]
      have hused : cand p k ∈ d.outbound.usedIds := by
        rw [← hp, usedIds_mem]
        revert hfree
        cases d.outbound.hasRetained d.packetId <;> cases d.outbound.hasPendingRelease d.packetId <;> decide
      rcases ih { d with packetId := SessionData.bumpId d.packetId } (k + 1) (by rw [hp]; exact bump_cand p k) with
        ⟨j, h1, h2, h3⟩ | hall
      · exact .inl ⟨j, by omega, by omega, h3⟩
      · right
        intro j h1 h2
        by_cases hjk : j = k
        · subst hjk; exact hused
        · exact hall j (by omega) (by omega)

theorem cands_nodup (p n : Nat) (hn : n ≤ 65535) : ((List.range n).map (cand p)).Nodup := by
  unfold List.Nodup
  rw [List.pairwise_map]
  have hr : (List.range n).Pairwise (· ≠ ·) := List.nodup_range
  refine List.Pairwise.imp_of_mem ?_ hr
  intro i j hi hj hne h
  simp at hi hj
  exact hne (cand_inj p i j (by omega) (by omega) h)

/-- The fuel `MAX_RETAINED + MAX_PENDING_RELEASE + 1` of the allocator is never exhausted, and what it returns is free
(`C07_allocator_fresh`). -/
theorem nextPacketId_fresh (d : SessionData)
    (hpid : 1 ≤ d.packetId ∧ d.packetId ≤ 65535)
    (hret : d.outbound.retained.length ≤ MAX_RETAINED) (hrel : d.outbound.release.length ≤ MAX_PENDING_RELEASE) :
    let r := d.nextPacketId
    1 ≤ r.2 ∧ r.2 ≤ 65535 ∧ d.outbound.hasRetained r.2 = false ∧ d.outbound.hasPendingRelease r.2 = false ∧
    1 ≤ r.1.packetId ∧ r.1.packetId ≤ 65535 ∧ r.1.outbound = d.outbound ∧ r.1.generation = d.generation ∧
    r.1.pendingServerIds = d.pendingServerIds ∧ r.1.sessionPresent = d.sessionPresent := by
  have hspec := nextPacketIdFuel_spec (MAX_RETAINED + MAX_PENDING_RELEASE + 1) d d.packetId 0
    (by rw [cand_zero _ hpid])
  rcases hspec with ⟨j, _, _, h3, h4, h5⟩ | hall
  · obtain ⟨pid, hd⟩ := nextPacketId_fst d
    simp only [SessionData.nextPacketId] at hd ⊢
    rw [usedIds_mem, not_or, Bool.not_eq_true, Bool.not_eq_true] at h4
    have hr := cand_range d.packetId j
    have hr2 := cand_range d.packetId (j + 1)
    rw [h3, h5]
    refine ⟨hr.1, hr.2, h4.1, h4.2, hr2.1, hr2.2, ?_⟩
    rw [hd]
    exact ⟨rfl, rfl, rfl, rfl⟩
  · -- all 17 candidates in use: pigeonhole against the 16 slots of the two lists
    exfalso
    have hlen : d.outbound.usedIds.length ≤ 16 := by
      simp only [Outbound.usedIds, List.length_append, List.length_map]
      have : MAX_RETAINED = 8 := rfl
      have : MAX_PENDING_RELEASE = 8 := rfl
      omega
    have h17 := nodup_subset_length ((List.range 17).map (cand d.packetId)) d.outbound.usedIds
      (cands_nodup d.packetId 17 (by omega))
      (by
        intro x hx
        simp at hx
        obtain ⟨j, hj, rfl⟩ := hx
        exact hall j (Nat.zero_le _) (by
          have : MAX_RETAINED + MAX_PENDING_RELEASE + 1 = 17 := rfl
          omega))
    simp at h17
    omega

theorem removeFirst_not_mem_of_nodup {α} {f : α → Nat} {l : List α} {id : Nat} {p : α → Bool}
    (hn : (l.map f).Nodup) (hp : ∀ e, p e = true → f e = id) (h : l.any p = true) :
    id ∉ (removeFirst p l).map f := by
  obtain ⟨l₁, a, l₂, rfl, _, ha, e⟩ := removeFirst_split h
  rw [List.map_append, List.map_cons, hp a ha, List.nodup_append] at hn
  rw [e, List.map_append, List.mem_append, not_or]
  exact ⟨fun hm => hn.2.2 _ hm _ List.mem_cons_self rfl, (List.nodup_cons.mp hn.2.1).1⟩

/-- In-flight identifiers: distinct, non-zero, within the two capacities. -/
structure Outbound.IdInv (o : Outbound) : Prop where
  nodup : o.usedIds.Nodup
  nonzero : 0 ∉ o.usedIds
  retCap : o.retained.length ≤ MAX_RETAINED
  relCap : o.release.length ≤ MAX_PENDING_RELEASE

theorem IdInv_new (cap : Nat) : (Outbound.new cap).IdInv := by
  constructor <;> simp [Outbound.new, usedIds]

theorem IdInv_clear (o : Outbound) : (o.clear).IdInv := by
  constructor <;> simp [Outbound.clear, usedIds]

theorem Outbound.IdInv.of_sublist {o o' : Outbound} (h : o.IdInv)
    (h1 : (o'.retained.map (·.id)).Sublist (o.retained.map (·.id)))
    (h2 : (o'.release.map (·.id)).Sublist (o.release.map (·.id))) : o'.IdInv := by
  have l1 := h1.length_le
  have l2 := h2.length_le
  rw [List.length_map, List.length_map] at l1 l2
  exact ⟨h.nodup.sublist (h1.append h2), fun hm => h.nonzero ((h1.append h2).subset hm),
    Nat.le_trans l1 h.retCap, Nat.le_trans l2 h.relCap⟩

theorem usedIds_compact (o : Outbound) : (o.compact).usedIds = o.usedIds := by
  simp [usedIds]

theorem usedIds_encodeAt {ε} (o : Outbound) (enc : Nat → (Nat → Nat → Bytes) → Except ε (Nat × Bytes)) :
    (o.encodeAt enc).1.usedIds = o.usedIds := by
  obtain ⟨buf, e⟩ := encodeAt_queues o enc
  rw [e]; exact usedIds_compact o

theorem Outbound.IdInv.insert {o o' : Outbound} {id : Nat} (h : o.IdInv) (hfresh : id ∉ o.usedIds) (hnz : id ≠ 0)
    (hp : o'.usedIds.Perm (id :: o.usedIds)) (hret : o'.retained.length ≤ MAX_RETAINED)
    (hrel : o'.release.length ≤ MAX_PENDING_RELEASE) : o'.IdInv :=
  ⟨hp.nodup_iff.mpr (List.nodup_cons.mpr ⟨hfresh, h.nodup⟩),
    fun h0 => (List.mem_cons.mp (hp.mem_iff.mp h0)).elim (fun e => hnz e.symm) h.nonzero, hret, hrel⟩

theorem Outbound.IdInv.push {o o' : Outbound} {id : Nat} (h : o.IdInv) (hfresh : id ∉ o.usedIds) (hnz : id ≠ 0)
    (hcap : o.retained.length < MAX_RETAINED) (hret : o'.retained.map (·.id) = o.retained.map (·.id) ++ [id])
    (hrel : o'.release.map (·.id) = o.release.map (·.id)) : o'.IdInv := by
  have hl : o'.retained.length = o.retained.length + 1 := by simpa using congrArg List.length hret
  have hlr : o'.release.length = o.release.length := by simpa using congrArg List.length hrel
  refine h.insert hfresh hnz ?_ (by omega) (hlr ▸ h.relCap)
  simp only [usedIds, hret, hrel, List.append_assoc, List.singleton_append]
  exact List.perm_middle

theorem IdInv_retainPacket {o o' : Outbound} {id off len : Nat} (h : o.IdInv)
    (hfresh : id ∉ o.usedIds) (hnz : id ≠ 0) (hr : o.retainPacket id off len = some o') : o'.IdInv := by
  obtain ⟨hc, rfl⟩ := retainPacket_some hr
  exact h.push hfresh hnz hc (by simp) rfl

theorem IdInv_ackPacket {o : Outbound} {id : Nat} {k : AckKind} (h : o.IdInv) :
    (o.ackPacket id k).1.IdInv ∧ ((o.ackPacket id k).2 = true → id ∉ (o.ackPacket id k).1.usedIds) := by
  unfold ackPacket
  simp only []
  split
  · rename_i hany
    refine ⟨h.of_sublist ?_ (.refl _), ?_⟩
    · rw [compact_retained_ids]; exact (removeFirst_sublist _ _).map _
    · intro _
      rw [usedIds_compact]
      have hn := h.nodup
      simp only [usedIds] at hn ⊢
      rw [List.nodup_append] at hn
      have h1 := removeFirst_not_mem_of_nodup (id := id) hn.1
        (p := fun e => e.id == id && k.acknowledges (o.headerAt e.offset))
        (by intro e he; simp at he; exact he.1) hany
      simp only [List.mem_append, not_or]
      refine ⟨h1, ?_⟩
      intro hrel
      -- id is in the original retained list (the entry found), so it cannot be in release
      simp only [List.any_eq_true] at hany
      obtain ⟨e, he, hpe⟩ := hany
      simp at hpe
      exact hn.2.2 id (by rw [← hpe.1]; exact List.mem_map_of_mem he) id hrel rfl
  · exact ⟨h, by simp⟩

theorem IdInv_queueRelease {o o' : Outbound} {id rc ps : Nat} (h : o.IdInv) (hfresh : id ∉ o.usedIds) (hnz : id ≠ 0)
    (hq : o.queueRelease id rc ps = some o') : o'.IdInv := by
  obtain ⟨hc, rfl⟩ := queueRelease_some hq
  refine h.insert hfresh hnz ?_ h.retCap (by simp only [List.length_append, List.length_singleton]; omega)
  simp only [usedIds, List.map_append, List.map_cons, List.map_nil, ← List.append_assoc]
  exact List.perm_append_singleton _ _

theorem IdInv_ackRelease {o : Outbound} {id : Nat} (h : o.IdInv) : (o.ackRelease id).1.IdInv := by
  unfold ackRelease
  split
  · exact h.of_sublist (.refl _) ((removeFirst_sublist _ _).map _)
  · exact h

theorem IdInv_flush_like {o o' : Outbound} (h : o.IdInv)
    (h1 : o'.retained.map (·.id) = o.retained.map (·.id)) (h2 : o'.release.map (·.id) = o.release.map (·.id)) :
    o'.IdInv :=
  h.of_sublist (h1 ▸ .refl _) (h2 ▸ .refl _)

theorem IdInv_armReplay {o : Outbound} (h : o.IdInv) : (o.armReplay).IdInv := by
  obtain ⟨h1, h2, _⟩ := armReplay_queues o
  exact IdInv_flush_like h (by rw [h1, List.map_map]; rfl) (by rw [h2, List.map_map]; rfl)

theorem IdInv_rearm {o : Outbound} (h : o.IdInv) : (o.rearm).IdInv :=
  IdInv_armReplay (IdInv_flush_like (o' := o.dropPingreq) h rfl rfl)

theorem IdInv_queueControl {o o' : Outbound} {a : ControlAction} (h : o.IdInv) (hq : o.queueControl a = some o') : o'.IdInv := by
  obtain ⟨_, rfl⟩ := queueControl_some hq
  exact IdInv_flush_like h rfl rfl

theorem ackPacket_found_mem {o : Outbound} {id : Nat} {k : AckKind} (h : (o.ackPacket id k).2 = true) :
    id ∈ o.usedIds := by
  rw [ackPacket_found_iff, List.any_eq_true] at h
  obtain ⟨e, he, hpe⟩ := h
  simp only [ackPred, Bool.and_eq_true, beq_iff_eq] at hpe
  exact List.mem_append_left _ (hpe.1 ▸ List.mem_map_of_mem he)

structure SessionData.IdInv (d : SessionData) : Prop where
  out : d.outbound.IdInv
  pid : 1 ≤ d.packetId ∧ d.packetId ≤ 65535

/-- The allocator under the invariant: the identifier it hands out is not zero and not in use, and moving the
counter keeps the invariant. -/
theorem SessionData.IdInv.alloc {d : SessionData} (h : d.IdInv) :
    d.nextPacketId.2 ≠ 0 ∧ d.nextPacketId.2 ∉ d.outbound.usedIds ∧ d.nextPacketId.1.IdInv := by
  have hf := nextPacketId_fresh d h.pid h.out.retCap h.out.relCap
  simp only [] at hf
  obtain ⟨h1, _, h3, h4, h5, h6, h7, _⟩ := hf
  exact ⟨by omega, by rw [usedIds_mem]; simp [h3, h4], h7 ▸ h.out, h5, h6⟩

theorem IdInv_init (cap : Nat) : ({ outbound := Outbound.new cap } : SessionData).IdInv := ⟨IdInv_new cap, by simp⟩

theorem IdInv_encodeAt {ε} {o : Outbound} (enc : Nat → (Nat → Nat → Bytes) → Except ε (Nat × Bytes)) (h : o.IdInv) :
    (o.encodeAt enc).1.IdInv := by
  obtain ⟨buf, e⟩ := encodeAt_queues o enc
  rw [e]; exact IdInv_flush_like h (compact_retained_ids o) rfl

theorem enqueue_IdInv {ε} (d : SessionData) (h : d.IdInv)
    (enc : Nat → (Nat → Nat → Bytes) → Except ε (Nat × Bytes)) (off len : Nat) (o3 : Outbound)
    (hr : ((d.nextPacketId).1.outbound.encodeAt enc).1.retainPacket (d.nextPacketId).2 off len = some o3) :
    (d.nextPacketId).2 ≠ 0 ∧ (d.nextPacketId).2 ∉ d.outbound.usedIds ∧
    ({ (d.nextPacketId).1 with outbound := o3 } : SessionData).IdInv := by
  obtain ⟨hnz, hfree, hinv1⟩ := h.alloc
  refine ⟨hnz, hfree, ?_, hinv1.pid⟩
  have hfree2 : (d.nextPacketId).2 ∉ ((d.nextPacketId).1.outbound.encodeAt enc).1.usedIds := by
    rw [usedIds_encodeAt, nextPacketId_outbound]; exact hfree
  exact IdInv_retainPacket (IdInv_encodeAt enc hinv1.out) hfree2 hnz hr

end Minimq
