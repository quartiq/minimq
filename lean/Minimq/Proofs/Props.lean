import Minimq.Proofs.Codec
/-
The property encoder chunk by chunk: what a successful concatenation of chunks says about each
chunk, the value reader on what the value writer wrote, `Property::size`, and a list of properties as
the concatenation of its members' encodings (`encodeProps`).
-/
namespace Minimq
open Gen

theorem lenPrefixed_ok {bs out : Bytes} (h : lenPrefixed bs = .ok out) :
    out = u16be bs.length ++ bs ∧ bs.length ≤ 65535 := by
  unfold lenPrefixed at h
  split at h
  · cases h
  · cases h; exact ⟨rfl, by omega⟩

theorem varintField_ok {v : Nat} {out : Bytes} (h : varintField v = .ok out) :
    out = encodeVarint v ∧ v ≤ MQTT_VARINT_MAX := by
  unfold varintField writeVarint at h
  by_cases hv : v > MQTT_VARINT_MAX
  · rw [if_pos hv] at h; cases h
  · rw [if_neg hv] at h; cases h; exact ⟨rfl, by omega⟩

theorem catChunks_cons {c : Except SerErr Bytes} {cs : List (Except SerErr Bytes)} {out : Bytes}
    (h : catChunks (c :: cs) = .ok out) : ∃ x r, c = .ok x ∧ catChunks cs = .ok r ∧ out = x ++ r := by
  cases c with
  | error e => cases h
  | ok x =>
    rw [catChunks] at h
    cases hr : catChunks cs with
    | error e => rw [hr] at h; cases h
    | ok r => rw [hr] at h; cases h; exact ⟨x, r, rfl, rfl, rfl⟩

theorem catChunks_nil {out : Bytes} (h : catChunks [] = .ok out) : out = [] := by
  cases h; rfl

theorem catChunks_singleton {c : Except SerErr Bytes} {out : Bytes} (h : catChunks [c] = .ok out) :
    c = .ok out := by
  obtain ⟨x, r, rfl, hr, rfl⟩ := catChunks_cons h
  rw [catChunks_nil hr, List.append_nil]

theorem catChunks_append {xs ys : List (Except SerErr Bytes)} {out : Bytes}
    (h : catChunks (xs ++ ys) = .ok out) :
    ∃ a c, catChunks xs = .ok a ∧ catChunks ys = .ok c ∧ out = a ++ c := by
  induction xs generalizing out with
  | nil => exact ⟨[], out, rfl, h, rfl⟩
  | cons x xs ih =>
    obtain ⟨y, r, rfl, hr, rfl⟩ := catChunks_cons h
    obtain ⟨a, c, ha, hc, rfl⟩ := ih hr
    exact ⟨y ++ a, c, by rw [catChunks, ha], hc, by rw [List.append_assoc]⟩

theorem catChunks_append_ok {xs ys : List (Except SerErr Bytes)} {a c : Bytes}
    (ha : catChunks xs = .ok a) (hc : catChunks ys = .ok c) : catChunks (xs ++ ys) = .ok (a ++ c) := by
  induction xs generalizing a with
  | nil => cases ha; exact hc
  | cons x xs ih =>
    obtain ⟨y, r, rfl, hr, rfl⟩ := catChunks_cons ha
    rw [List.cons_append, catChunks, ih hr, List.append_assoc]

theorem readU32_u32be (n : Nat) (r : Bytes) (h : n < 4294967296) :
    readU32 (u32be n ++ r) = some (n, r) := by
  simp only [u32be, readU32, u32of, List.cons_append, List.nil_append, b_toNat, Nat.mod_mod]
  congr 2; omega

/-- The chunks `impl Serialize for Property` pushes after the identifier. -/
def valChunks (sh : Shape) (v : PVal) : List (Except SerErr Bytes) :=
  match sh, v with
  | .u8, .n v => [.ok [b v]]
  | .u16, .n v => [.ok (u16be v)]
  | .u32, .n v => [.ok (u32be v)]
  | .varint, .n v => [varintField v]
  | .str, .s bs => [lenPrefixed bs]
  | .bin, .s bs => [lenPrefixed bs]
  | .pair, .p k v => [lenPrefixed k, lenPrefixed v]
  | _, _ => [.error .custom]

theorem Property.chunks_eq (p : Property) :
    p.chunks = varintField p.kind.id :: valChunks p.kind.serShape p.val := by
  unfold Property.chunks valChunks
  cases p.kind.serShape <;> cases p.val <;> rfl

theorem Property.encode_ok {p : Property} {out : Bytes} (h : p.encode = .ok out) :
    ∃ body, catChunks (valChunks p.kind.serShape p.val) = .ok body ∧
      out = encodeVarint p.kind.id ++ body ∧ p.kind.id ≤ MQTT_VARINT_MAX := by
  rw [Property.encode, Property.chunks_eq] at h
  obtain ⟨x, body, hx, hb, rfl⟩ := catChunks_cons h
  obtain ⟨rfl, hid⟩ := varintField_ok hx
  exact ⟨body, hb, rfl, hid⟩

theorem valChunks_ok {sh : Shape} {v : PVal} {body : Bytes}
    (h : catChunks (valChunks sh v) = .ok body) :
    match (generalizing := false) sh, v with
    | .u8, .n v => body = [b v]
    | .u16, .n v => body = u16be v
    | .u32, .n v => body = u32be v
    | .varint, .n v => body = encodeVarint v ∧ v ≤ MQTT_VARINT_MAX
    | .str, .s bs => body = u16be bs.length ++ bs ∧ bs.length ≤ 65535
    | .bin, .s bs => body = u16be bs.length ++ bs ∧ bs.length ≤ 65535
    | .pair, .p k v =>
      body = (u16be k.length ++ k) ++ (u16be v.length ++ v) ∧ k.length ≤ 65535 ∧ v.length ≤ 65535
    | _, _ => False := by
  cases sh <;> cases v <;> simp only [valChunks] at h ⊢
  case pair.p k v =>
    obtain ⟨x, r, hx, hr, rfl⟩ := catChunks_cons h
    obtain ⟨rfl, lk⟩ := lenPrefixed_ok hx
    obtain ⟨rfl, lv⟩ := lenPrefixed_ok (catChunks_singleton hr)
    exact ⟨rfl, lk, lv⟩
  all_goals have h := catChunks_singleton h
  case u8.n | u16.n | u32.n => cases h; rfl
  case varint.n => exact varintField_ok h
  case str.s | bin.s => exact lenPrefixed_ok h
  all_goals cases h

/-- The value fits the wire shape `sh` (for `varint` the writer itself checks the range). -/
def valOk (sh : Shape) (v : PVal) : Bool :=
  match sh, v with
  | .u8, .n v => v < 256
  | .u16, .n v => v < 65536
  | .u32, .n v => v < 4294967296
  | .varint, .n _ => true
  | .str, .s bs => validUtf8 bs
  | .bin, .s _ => true
  | .pair, .p k v => validUtf8 k && validUtf8 v
  | _, _ => false

/-- Also for `SubscriptionIdentifier`: declared `u32`, written as a varint, so any number fits and the
writer refuses what is out of range. -/
theorem Property.wf_valOk (p : Property) (h : p.wf = true) : valOk p.kind.serShape p.val = true := by
  obtain ⟨k, v⟩ := p
  cases k <;> cases v <;> first | exact h | cases h | rfl

theorem readVal_valChunks (sh : Shape) (v : PVal) (body rest : Bytes) (hok : valOk sh v = true)
    (h : catChunks (valChunks sh v) = .ok body) : readVal sh (body ++ rest) = some (v, rest) := by
  have hv := valChunks_ok h
  cases sh <;> cases v <;>
    simp only [valOk, decide_eq_true_eq, Bool.and_eq_true, Bool.false_eq_true] at hok hv <;>
    simp only [readVal]
  case u8.n v =>
    rw [hv, List.singleton_append]
    simp only [b_toNat, Nat.mod_eq_of_lt hok]
  case u16.n v => rw [hv, codec_u16.read hok]; rfl
  case u32.n v => rw [hv, readU32_u32be v rest hok]; rfl
  case varint.n v => rw [hv.1, codec_varint.read hv.2]; rfl
  case str.s s => rw [hv.1, codec_str.read (v := s) ⟨by omega, hok⟩]; rfl
  case bin.s s => rw [hv.1, codec_bin.read (v := s) (by omega)]; rfl
  case pair.p k v =>
    rw [hv.1, List.append_assoc, codec_str.read (v := k) ⟨by omega, hok.1⟩]
    simp only
    rw [codec_str.read (v := v) ⟨by omega, hok.2⟩]

theorem sizeExpr_eq (k : PropKind) (l1 l2 vl il : Nat) :
    k.sizeExpr l1 l2 vl il =
      (match k.serShape with
       | .u8 => 1 | .u16 => 2 | .u32 => 4 | .varint => vl
       | .str => l1 + 2 | .bin => l1 + 2 | .pair => (l2 + 2) + (l1 + 2)) + il := by
  cases k <;> rfl

theorem Property.size_eq_encode_length (p : Property) (out : Bytes) (h : p.encode = .ok out) :
    out.length = p.size := by
  obtain ⟨body, hb, rfl, _⟩ := p.encode_ok h
  have hv := valChunks_ok hb
  rw [Property.size, sizeExpr_eq, List.length_append, encodeVarint_length, Nat.add_comm]
  congr 1
  generalize p.kind.serShape = sh at hv
  cases sh <;> cases hp : p.val <;> rw [hp] at hv <;> simp only at hv
  case u8.n | u16.n | u32.n => rw [hv]; rfl
  case varint.n => rw [hv.1, encodeVarint_length]; rfl
  case str.s | bin.s => rw [hv.1, List.length_append]; exact Nat.add_comm ..
  case pair.p =>
    rw [hv.1, List.length_append, List.length_append, List.length_append]
    simp only [PVal.len1, PVal.len2, u16be, List.length_cons, List.length_nil]
    omega
theorem Property.encode_nonempty (p : Property) (out : Bytes) (h : p.encode = .ok out) : out ≠ [] := by
  obtain ⟨body, _, rfl, _⟩ := p.encode_ok h
  obtain ⟨y, ys, hy⟩ := encodeVarint_ne_nil p.kind.id
  rw [hy]
  exact List.cons_ne_nil _ _

def encodeProps (l : List Property) : Except SerErr Bytes := catChunks (l.flatMap Property.chunks)

theorem encodeProps_cons {p : Property} {l : List Property} {out : Bytes}
    (h : encodeProps (p :: l) = .ok out) :
    ∃ a c, p.encode = .ok a ∧ encodeProps l = .ok c ∧ out = a ++ c := by
  rw [encodeProps, List.flatMap_cons] at h
  exact catChunks_append h

theorem encodeProps_length (l : List Property) (out : Bytes) (h : encodeProps l = .ok out) :
    out.length = (l.map Property.size).sum := by
  induction l generalizing out with
  | nil => cases h; rfl
  | cons p l ih =>
    obtain ⟨a, c, ha, hc, rfl⟩ := encodeProps_cons h
    rw [List.length_append, p.size_eq_encode_length a ha, ih c hc, List.map_cons, List.sum_cons]

end Minimq
