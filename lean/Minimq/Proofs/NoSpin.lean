import Minimq.Proofs.Fuel
/-
No busy loop inside `poll()` — the vocabulary and the service pass.

`doWaitRead` counts a *self-wake* when `with_deadline` is entered with a deadline that has already
passed (the timer registers, is woken at once, and is polled again); after 64 of them in one POLL the
model prints `spin` (finding F13 was exactly this: an expired `next_deadline` while a PINGREQ was
outstanding). The argument: after a service pass with nothing left to send, `next_deadline()` is strictly in the
future (`Served`, `service_served`: a ping timeout that has expired would have closed the connection, and a
PINGREQ that is due has been queued, so that there *is* something left to send); hence `doWaitRead` with
`yielded = false` always has a fresh deadline (`Good`). Only a hand-made await point `waitRead _ d false` can
carry an expired one — the machine itself suspends with `yielded = true` only (`PcOk`) — and that costs one
self-wake (`K 1`).
-/
namespace Minimq
open Gen World Fuel
namespace NoSpin

def Fresh (now : Nat) : Option Nat → Prop
  | none => True
  | some d => now < d

/-- After a service pass: if nothing is left to send, the next deadline is fresh. -/
def Served (w : World) : Prop :=
  w.sess.data.outbound.nextStep = none → Fresh w.now w.sess.rt.nextDeadline

def Good : Call → Prop
  | .DWR w _ d false => Fresh w.now d
  | .DAS w _ false => Served w
  | .SR w (.drive adv _) a => (adv || a) = false → Served w
  | .PS w (.drive false _) step _ => isDone (prepareStep w step) = true → Served w
  | _ => True

/-- `doWaitRead` before its timer has yielded. -/
def isWait : Call → Bool
  | .DWR _ _ _ false => true
  | _ => false

/-- `Good`, and at most `b` self-wakes; for `b = 1` also a not yet yielded `doWaitRead` with an
arbitrary deadline, as long as it has not woken itself. -/
def K (b : Nat) (c : Call) : Prop :=
  c.world.wakes ≤ b ∧ (Good c ∨ (b = 1 ∧ isWait c = true ∧ c.world.wakes = 0))

theorem K.same {b : Nat} {c c' : Call} (k : K b c) (hw : c'.world.wakes = c.world.wakes) (hg : Good c') :
    K b c' := ⟨by rw [hw]; exact k.1, .inl hg⟩

/-- An await point as the machine creates it: `wait_for_progress` is always suspended with
`yielded = true`. -/
def PcOk : Pc → Prop
  | .waitRead _ _ y => y = true
  | _ => True

def FutOk (r : World) : Prop := r.fut = none ∨ ∃ pc, r.fut = some pc ∧ PcOk pc

/-- An await point as the machine creates it, in the world it leaves: `PcOk`, and at `waitRead` the
reader is as `receive_buffer` has just left it, with a non-empty window. -/
def PcReady (a : World) : Pc → Prop
  | .waitRead _ _ y => y = true ∧ a.sess.reader.Probed
  | _ => True

theorem PcReady.ok {a : World} {pc : Pc} (h : PcReady a pc) : PcOk pc := by
  cases pc <;> first | exact h.1 | trivial

def Ready (r : World) : Prop := r.fut = none ∨ ∃ pc, r.fut = some pc ∧ PcReady r pc

theorem Ready.futOk {r : World} (h : Ready r) : FutOk r := h.imp id fun ⟨pc, hf, hp⟩ => ⟨pc, hf, hp.ok⟩

/-! ### An entry that is not yet sent keeps the scheduler busy -/

theorem nextStepPrio_control (o : Outbound) (b : Bool) (e : PendingControl) (he : e ∈ o.control)
    (hm : e.state.matchesPriority b = true) : o.nextStepPrio b ≠ none := by
  intro h
  rw [(nextStepPrio_none h).1 e he] at hm; cases hm

theorem queueControl_nextStep {o o' : Outbound} {a : ControlAction} (h : o.queueControl a = some o') :
    o'.nextStep ≠ none := by
  unfold Outbound.queueControl at h
  split at h
  · cases h
  · cases h
    exact nextStep_of_control _ { action := a, state := .write 0 } (by simp) (by intro h; cases h)

theorem queuePing_served (s s' : Session) (now : Nat) (hq : s.queuePing now = .ok s')
    (hn : s'.data.outbound.nextStep = none) :
    s' = s ∧ (s.rt.pingTimeout = none → ∀ np, s.rt.nextPing = some np → now < np) := by
  rw [queuePing_eq] at hq
  split at hq
  · split at hq
    · cases hq
    · split at hq
      · cases hq
      · rename_i o ho; cases hq; exact absurd hn (queueControl_nextStep ho)
  · rename_i hw
    cases hq
    -- a PINGREQ that is due and not wanted is pending, and a pending one is something to send
    refine ⟨rfl, fun hpt np hnp => Nat.lt_of_not_le fun hle => hw ((pingWantedB_iff s now).2 ⟨hpt, ⟨np, hnp, hle⟩, ?_⟩)⟩
    exact Bool.eq_false_iff.2 fun hp => nextStep_of_pendingPingreq _ hp hn

theorem service_served (w : World) (s : Session) (ht : timedOut w = false) (hq : w.sess.queuePing w.now = .ok s) :
    Served { w with sess := s } := by
  intro hn
  show Fresh w.now s.rt.nextDeadline
  obtain ⟨rfl, hdue⟩ := queuePing_served w.sess s w.now hq hn
  cases hpt : w.sess.rt.pingTimeout with
  | some pt =>
    rw [nextDeadline_of_timeout _ pt hpt]
    unfold timedOut at ht
    rw [hpt] at ht
    exact Nat.lt_of_not_le (of_decide_eq_false ht)
  | none =>
    rw [nextDeadline_no_timeout _ hpt]
    cases hnp : w.sess.rt.nextPing with
    | none => trivial
    | some np => exact hdue hpt np hnp

def Lines (w w' : World) : Prop := ∃ new, w'.out = new ++ w.out ∧ ∀ l ∈ new, ' ' ∈ l.toList

theorem Lines.finish {w a : World} (h : Lines w a) (line : String) : Lines w (a.finish line) :=
  Grew.finish (fun _ h => h) h line

theorem Lines.finishErr {w a : World} (h : Lines w a) (op : String) (e : Err) : Lines w (a.finishErr op e) :=
  Grew.finishErr (fun _ h => h) h op e

theorem Lines.finishOp {w a : World} (h : Lines w a) (name : String) (op : Op) : Lines w (a.finishOp name op) :=
  Grew.finishOp (fun _ h => h) h name op

theorem Lines.deliver {w a : World} (h : Lines w a) (name : String) (len : Nat) : Lines w (a.deliver name len) :=
  Grew.deliver (fun _ h => h) h name len

theorem ne_spin_of_space (s : String) (h : ' ' ∈ s.toList) : s ≠ "spin" := by
  intro e; subst e; revert h; decide

end NoSpin
end Minimq
