import Minimq.Proofs.ConnectStart
import Minimq.Proofs.FuelAdequate
import Minimq.Proofs.WireAgree
/-
C01 / C14, whole machine — the invariant. The bytes accepted by the current transport are the CONNECT, then
whole framed packets each within the Maximum Packet Size of the current connection (`WireIs`), followed by
the written part of at most one more packet, and that part is accounted for by the one queue entry in
progress or by the operation-local write that is suspended. The invariant is stated on a `View` of the
world (session, connection handle, wire and log of the current transport): what holds at each await point
(`PcOK`), between directives (`PhaseV`, `Post`), and before a call of each of the thirteen machine functions
(`Fuel.Call.Pre`). It also carries the ghost transmission log of the current transport (`Lv.log`: it agrees
with the retained and the release queue, `Proofs/WireLog.lean`; its packets are among the whole packets on the
wire, `WireIs`). What `Lv` says of session and log alone is `Agree` (`Proofs/WireAgree.lean`). That the machine
keeps it is `Proofs/Wire.lean`.
-/
namespace Minimq
open Gen World Outbound
open Fuel (Call)

def Fits (lim : Option Nat) (n : Nat) : Prop := ∀ m, lim = some m → n ≤ m

theorem Fits.mono {lim : Option Nat} {a c : Nat} (h : Fits lim c) (hle : a ≤ c) : Fits lim a :=
  fun m hm => Nat.le_trans hle (h m hm)

theorem fits_of_not_tooLarge {r : Runtime} {n : Nat} (h : r.packetTooLarge n = false) : Fits r.maximumPacketSize n :=
  (packetTooLarge_false_iff r n).1 h

def IsConnect (bs : Bytes) : Prop := ∃ x rest, bs = x :: rest ∧ x.toNat / 16 = MT_Connect

/-- `wire` is the CONNECT packet `c`, then whole framed packets each within the limit `lim`, then `part`;
the packets recorded in the transmission log (`logb`, their bytes in order) are among the whole packets, in that order. -/
def WireIs (lim : Option Nat) (wire : Bytes) (logb : List Bytes) (part : Bytes) : Prop :=
  ∃ (c : Bytes) (frames : List Bytes), Framed c ∧ IsConnect c ∧ (∀ f ∈ frames, Framed f ∧ Fits lim f.length) ∧
    logb.Sublist frames ∧ wire = c ++ frames.flatten ++ part

def Pfx (wire : Bytes) : Prop :=
  ∃ frames : List Bytes, (∀ f ∈ frames, Framed f) ∧ ∃ rest, frames.flatten = wire ++ rest

theorem WireIs.first {wire : Bytes} (lim : Option Nat) (h : Framed wire) (hc : IsConnect wire) : WireIs lim wire [] [] :=
  ⟨wire, [], h, hc, by simp, List.Sublist.refl _, by simp⟩

theorem Pfx.of_framed {wire rest : Bytes} (h : Framed (wire ++ rest)) : Pfx wire :=
  ⟨[wire ++ rest], by simpa using h, rest, by simp⟩

theorem WireIs.pfx_nil {lim : Option Nat} {wire : Bytes} {logb : List Bytes} (h : WireIs lim wire logb []) : Pfx wire := by
  obtain ⟨c, fs, hc, _, hf, _, hw⟩ := h
  refine ⟨c :: fs, ?_, [], by simp [hw]⟩
  intro f hm
  rcases List.mem_cons.mp hm with rfl | hm
  · exact hc
  · exact (hf f hm).1

theorem WireIs.pfx_framed {lim : Option Nat} {wire part rest : Bytes} {logb : List Bytes} (h : WireIs lim wire logb part)
    (hfr : Framed (part ++ rest)) : Pfx wire := by
  obtain ⟨c, fs, hc, _, hf, _, hw⟩ := h
  refine ⟨c :: (fs ++ [part ++ rest]), ?_, rest, ?_⟩
  · intro f hm
    rcases List.mem_cons.mp hm with rfl | hm
    · exact hc
    · rcases List.mem_append.mp hm with hm | hm
      · exact (hf f hm).1
      · simp only [List.mem_singleton] at hm; subst hm; exact hfr
  · simp [hw]

theorem WireIs.append {lim : Option Nat} {wire part : Bytes} {logb : List Bytes} (h : WireIs lim wire logb part) (bs : Bytes) :
    WireIs lim (wire ++ bs) logb (part ++ bs) := by
  obtain ⟨c, fs, hc, hcc, hf, hl, hw⟩ := h
  exact ⟨c, fs, hc, hcc, hf, hl, by simp [hw]⟩

theorem WireIs.closeLog {lim : Option Nat} {wire part : Bytes} {logb : List Bytes} (h : WireIs lim wire logb part)
    (hfr : Framed part) (hfit : Fits lim part.length) : WireIs lim wire (logb ++ [part]) [] := by
  obtain ⟨c, fs, hc, hcc, hf, hl, hw⟩ := h
  refine ⟨c, fs ++ [part], hc, hcc, ?_, hl.append (List.Sublist.refl _), by simp [hw]⟩
  intro f hm
  rcases List.mem_append.mp hm with hm | hm
  · exact hf f hm
  · simp only [List.mem_singleton] at hm; subst hm; exact ⟨hfr, hfit⟩

theorem WireIs.close {lim : Option Nat} {wire part : Bytes} {logb : List Bytes} (h : WireIs lim wire logb part) (hfr : Framed part)
    (hfit : Fits lim part.length) : WireIs lim wire logb [] := by
  obtain ⟨c, fs, hc, hcc, hf, hl, hw⟩ := h.closeLog hfr hfit
  exact ⟨c, fs, hc, hcc, hf, (List.sublist_append_left _ _).trans hl, hw⟩

theorem Pfx.nil : Pfx [] := ⟨[], by simp, [], by simp⟩

theorem encodeWithOffset_framed {cs : List (Except SerErr Bytes)} {typ flags : Nat} {bs : Bytes}
    (h : (encodeWithOffset CONTROL_PACKET_LEN cs typ flags).map (·.2) = .ok bs) : Framed bs ∧ 0 < bs.length := by
  cases hr : encodeWithOffset CONTROL_PACKET_LEN cs typ flags with
  | error e => rw [hr] at h; cases h
  | ok r =>
    rw [hr] at h
    cases h
    have := EncOk_encodeWithOffset cs typ flags CONTROL_PACKET_LEN (fun _ _ => []) r.1 r.2 (by simp) hr
    exact ⟨this.2.2, this.2.1⟩

theorem retained_entry_bytes {o : Outbound} (ha : o.ArenaInv) (hf : o.FramedInv) {e : RetainedPacket} (he : e ∈ o.retained) :
    (slice o.buf e.offset e.len).length = e.len ∧ Framed (slice o.buf e.offset e.len) ∧ 0 < e.len := by
  have h1 := ha.ends e he
  have h2 := ha.used_le
  refine ⟨slice_length _ _ _ (by omega), ?_, ha.pos e he⟩
  apply hf
  simp only [Outbound.contents, contents, List.mem_map]
  exact ⟨e, he, rfl⟩

theorem prepareStep_write_framed (w : World) (step : Outbound.Step) (hs : w.sess.data.outbound.Slot step) (hsp : SP w.sess)
    {pkt : Flushed} {bytes : Bytes} {written len : Nat} (h : prepareStep w step = .write pkt bytes written len) :
    pkt = step.flushed ∧ step.state = .write written ∧ w.sess.data.outbound.StepBytes step bytes ∧
      len = bytes.length ∧ Framed bytes ∧ 0 < bytes.length ∧ w.sess.rt.packetTooLarge bytes.length = false := by
  obtain ⟨h1, h2, h3, h4⟩ := (prepareStep_spec w step).2.2.1 _ _ _ _ h
  cases hs with
  | control | release =>
    obtain ⟨he, rfl⟩ := h4
    exact ⟨h1, h2, he, rfl, (encodeWithOffset_framed he).1, (encodeWithOffset_framed he).2, h3⟩
  | retained pre e post hr hpre hpost hctl hrel =>
    obtain ⟨rfl, rfl⟩ := h4
    obtain ⟨e1, e2, e3⟩ := retained_entry_bytes hsp.arena hsp.framed (e := e) (by rw [hr]; simp)
    exact ⟨h1, h2, ⟨rfl, e1⟩, e1.symm, e2, by rw [Outbound.retainedPacket, e1]; exact e3,
      by rw [Outbound.retainedPacket, e1]; exact h3⟩

structure View where
  sess : Session
  conn : Option Conn
  net : Bool
  wire : Bytes
  /-- Ordinal of the current transport. -/
  ord : Nat
  /-- The part of the transmission log that belongs to the current transport. -/
  log : List LogEntry

def World.curLog (w : World) : List LogEntry := w.log.filter (fun f => f.net == w.nets.length)

def World.view (w : World) : View :=
  { sess := w.sess, conn := w.conn, net := !w.nets.isEmpty, wire := w.curNet.wire, ord := w.nets.length, log := w.curLog }

namespace View
def live (v : View) : Bool :=
  match v.conn with
  | some c => c.live
  | none => false
def o (v : View) : Outbound := v.sess.data.outbound
def avail (v : View) : Bool := v.sess.reader.packetAvailable
/-- The Maximum Packet Size the CONNACK of the current connection announced, if any. -/
def lim (v : View) : Option Nat := v.sess.rt.maximumPacketSize
/-- What `perform_outbound_step` checked before offering the first byte of a packet. -/
def ok (v : View) : Bytes → Prop := fun bs => Fits v.lim bs.length
end View

theorem View.lim_sess (v : View) {s : Session} (hm : s.rt.maximumPacketSize = v.sess.rt.maximumPacketSize) :
    ({ v with sess := s } : View).lim = v.lim := hm

theorem View.ok_sess (v : View) {s : Session} (hm : s.rt.maximumPacketSize = v.sess.rt.maximumPacketSize) :
    ({ v with sess := s } : View).ok = v.ok := by
  unfold View.ok; rw [View.lim_sess v hm]

theorem view_live (w : World) : w.view.live = w.live := rfl

@[simp] theorem view_emit (w : World) (l : String) : (w.emit l).view = w.view := rfl
@[simp] theorem view_finish (w : World) (l : String) : (w.finish l).view = w.view := rfl
@[simp] theorem view_finishErr (w : World) (o : String) (e : Err) : (w.finishErr o e).view = w.view := rfl
@[simp] theorem view_suspend (w : World) (pc : Pc) : (w.suspend pc).view = w.view := rfl
@[simp] theorem view_finishOp (w : World) (n : String) (op : Op) : (w.finishOp n op).view = w.view := rfl
theorem view_sess (w : World) (s : Session) : ({ w with sess := s } : World).view = { w.view with sess := s } := rfl
theorem view_handleDisconnect (w : World) :
    w.handleDisconnect.view = { w.view with sess := w.sess.handleDisconnect, conn := w.conn.map (fun c => { c with live := false }) } := rfl

theorem view_deliver (w : World) (n : String) (len : Nat) : (w.deliver n len).view = w.view ∧ (w.deliver n len).fut = none := by
  obtain ⟨ls, _, e⟩ := Fuel.deliver_eq w n len
  rw [e]; exact ⟨rfl, rfl⟩

theorem hd_live (v : View) (s : Session) : ({ v with sess := s, conn := v.conn.map (fun c => { c with live := false }) } : View).live = false := by
  unfold View.live
  cases v.conn <;> rfl

theorem isEmpty_of_length {l l' : List Net} (h : l'.length = l.length) : l'.isEmpty = l.isEmpty := by
  cases l <;> cases l' <;> simp_all

theorem nets_ne_of_view {w : World} (h : w.view.net = true) : w.nets ≠ [] := by
  intro h0
  simp [World.view, h0] at h

theorem view_io {c : Char} {w w' : World} (hc : ∃ l, IoCall c w w' l) (hn : w'.nets.length = w.nets.length) :
    w'.view = { w.view with wire := w'.curNet.wire } := by
  obtain ⟨l, hc⟩ := hc
  simp only [World.view, World.curLog, show w'.sess = w.sess from hc.sess, show w'.conn = w.conn from hc.conn, hn,
    show w'.log = w.log from hc.log, isEmpty_of_length hn]

theorem ioFlush_view {w w' : World} {r : FlushRes} (heq : w.ioFlush = (w', r)) : w'.view = w.view := by
  have h2 := (ioFlush_net w w' r heq).2
  rw [view_io (ioFlush_call heq) (by rw [h2])]
  simp only [World.curNet, h2]; rfl

theorem ioRead_view {w w' : World} {n : Nat} {r : ReadRes} (hn : w.view.net = true) (heq : w.ioRead n = (w', r)) :
    w'.view = w.view := by
  obtain ⟨_, h2, _, h4⟩ := ioRead_net w w' n r (nets_ne_of_view hn) heq
  rw [view_io (ioRead_call heq) h2, h4]; rfl

theorem ioWrite_view {w w' : World} {bs : Bytes} {r : WriteRes} (hn : w.view.net = true) (heq : w.ioWrite bs = (w', r))
    (hr : ∀ k, r ≠ .ok k) : w'.view = w.view := by
  obtain ⟨_, h2, _, h4⟩ := ioWrite_net w w' bs r (nets_ne_of_view hn) heq
  rw [view_io (ioWrite_call heq) h2]
  cases r with
  | ok k => exact absurd rfl (hr k)
  | _ => rw [h4]; rfl

theorem ioWrite_view_ok {w w' : World} {bs : Bytes} {k : Nat} (hn : w.view.net = true) (heq : w.ioWrite bs = (w', .ok k)) :
    k ≤ bs.length ∧ w'.view = { w.view with wire := w.view.wire ++ bs.take k } := by
  obtain ⟨_, h2, _, h4⟩ := ioWrite_net w w' bs _ (nets_ne_of_view hn) heq
  exact ⟨h4.1, by rw [view_io (ioWrite_call heq) h2, h4.2]; rfl⟩

theorem view_setWritten (w : World) (pkt : Flushed) (a c : Nat) :
    (w.setWritten pkt a c).view =
      { w.view with sess := w.view.sess.setWritten pkt a c,
                    log := if a ≥ c then w.view.log ++ [w.view.sess.data.outbound.done w.view.ord pkt] else w.view.log } := by
  unfold World.setWritten
  by_cases h : a ≥ c
  · simp only [h, if_true, World.view, World.curLog, World.curNet, List.filter_append, doneFrame_eq]
    congr 1
    simp [(w.sess.data.outbound.done_is w.nets.length pkt).net]
  · simp only [h, if_false, World.view, World.curLog, World.curNet]

/-- A live connection on an existing transport whose wire is the CONNECT, whole packets within the
Maximum Packet Size of this connection, and then `part`; the log of this transport is on the wire and
agrees with the retained and the release queue. -/
structure Lv (v : View) (part : Bytes) : Prop where
  net : v.net = true
  live : v.live = true
  sp : SP v.sess
  wire : WireIs v.lim v.wire (v.log.map (·.bytes)) part
  log : v.o.Log v.ord v.log
  /-- a connection is live only after an accepted CONNACK (ghost flag) -/
  acc : v.sess.data.everAccepted = true
  /-- written acknowledgements, then waiting ones, are the ones recorded in the inbound log -/
  acks : AckEq v.sess v.log
  /-- a PUBREL created on this connection has a transmission of its PUBLISH in this transport's log -/
  relpub : RelPub v.sess v.log

/-- Between steps of `flush_outbound` and whenever no operation is suspended on a live connection:
the queues account for the incomplete packet on the wire, and no complete inbound packet is waiting. -/
def FlushPre (v : View) : Prop := ∃ part, Lv v part ∧ v.o.OState v.ok part ∧ v.avail = false

/-- In `drive_packet`: a complete inbound packet may be waiting, but then nothing is in progress and
nothing is unsent (`drive_packet` reads only when `next_step` has nothing left to do, and the reader
never reads past the packet it is assembling). -/
def DrivePre (v : View) : Prop :=
  ∃ part, Lv v part ∧ v.o.OState v.ok part ∧ (v.avail = true → v.o.Quiet ∧ v.o.nextStep = none)

/-- At the `write` await of `perform_outbound_step`. -/
def WritePre (v : View) (step : Outbound.Step) (bytes : Bytes) (written : Nat) : Prop :=
  Lv v (bytes.take written) ∧ v.o.Slot step ∧ step.state = .write written ∧ v.o.StepBytes step bytes ∧
    written < bytes.length ∧ Framed bytes ∧ v.avail = false ∧ v.ok bytes ∧ v.o.nextStep = some step

/-- At the `flush` await of `perform_outbound_step`. -/
def FlushingPre (v : View) (step : Outbound.Step) : Prop :=
  Lv v [] ∧ v.o.Slot step ∧ step.state = .flush ∧ v.avail = false

def QuietPre (v : View) : Prop := Lv v [] ∧ v.o.Quiet

/-- While `drive_packet` waits for inbound bytes: nothing is left to send. -/
def IdlePre (v : View) : Prop := QuietPre v ∧ v.o.nextStep = none

/-- The handshake: no connection handle, a fresh transport whose log is empty, every queue entry
waiting for its first byte. -/
structure Hand (v : View) : Prop where
  conn : v.conn = none
  log : v.log = []
  fresh : v.o.AllFresh

/-- An operation-local `write_all` with `bytes` still to go. The handshake (`which = 0`) runs without a
connection handle on a fresh transport: what is on the wire and `bytes` make up the CONNECT. A QoS 0
PUBLISH or a DISCONNECT runs on a live connection: whole packets, then `pre`, and `pre ++ bytes` is a
whole packet within the limit. -/
def LocalPre (v : View) (which : Nat) (bytes : Bytes) : Prop :=
  v.net = true ∧ SP v.sess ∧ v.o.Quiet ∧
  ((which = 0 ∧ Hand v ∧ Framed (v.wire ++ bytes) ∧ IsConnect (v.wire ++ bytes)) ∨
   (which ≠ 0 ∧ v.avail = false ∧ ∃ pre, Lv v pre ∧ Framed (pre ++ bytes) ∧ Fits v.lim (pre ++ bytes).length))

/-- `LocalPre` with nothing left to write: at the flush behind an operation-local `write_all` and, for the
handshake, while the CONNACK is read. -/
def LocalFlushPre (v : View) (which : Nat) : Prop :=
  v.net = true ∧ SP v.sess ∧ v.o.Quiet ∧
  ((which = 0 ∧ Hand v ∧ Framed v.wire ∧ IsConnect v.wire) ∨ (which ≠ 0 ∧ v.avail = false ∧ Lv v []))

/-- What is kept about a connection that is not live (dead, dropped, or not yet established): its
wire is whole packets and possibly the beginning of one more, and its log has each retained packet at
most once, in serial order. -/
def DeadOK (v : View) : Prop := Pfx v.wire ∧ LogSorted v.log

/-- At the `flush` await of `disconnect_with` the DISCONNECT is wholly on the transport and the handle is
already finished (`handle_disconnect()` runs before that flush is awaited): what is kept is what is kept
about any dead connection. -/
def DiscFlushPre (v : View) : Prop := v.net = true ∧ v.live = false ∧ DeadOK v ∧ v.conn.isSome = true

/-- At the flush of operation-local buffer `which`: the DISCONNECT's runs on a handle that is already finished. -/
def LFPre (v : View) (which : Nat) : Prop :=
  if which = 0 then LocalFlushPre v 0 else if which = 1 then LocalFlushPre v 1 else DiscFlushPre v

/-- At the `read` await of `wait_for_progress`: the stored deadline is the session's next keep-alive
deadline, the timer has been registered (`yielded`), and the reader has already probed the fixed header
and offered a non-empty window — `receive_buffer` is idempotent, so a fresh call offers the same. -/
def ReadOK (v : View) (d : Option Nat) (y : Bool) : Prop :=
  y = true ∧ d = v.sess.rt.nextDeadline ∧ ∃ n, n ≠ 0 ∧ v.sess.window = some (v.sess, n)

/-- The invariant at each await point. -/
def PcOK (v : View) : Pc → Prop
  | .stepWrite _ pkt bytes written len _ => ∃ step, WritePre v step bytes written ∧ pkt = step.flushed ∧ len = bytes.length
  | .stepFlush _ pkt _ => ∃ step, FlushingPre v step ∧ pkt = step.flushed
  | .connWrite bytes => LocalPre v 0 bytes
  | .connFlush => LocalFlushPre v 0
  | .connRead => LocalFlushPre v 0
  | .q0Write bytes => LocalPre v 1 bytes
  | .q0Flush => LocalFlushPre v 1
  | .discWrite bytes => LocalPre v 2 bytes
  | .discFlush => DiscFlushPre v
  | .waitRead _ d y => IdlePre v ∧ v.avail = false ∧ ReadOK v d y

/-- The invariant between directives. -/
def PhaseV (v : View) (fut : Option Pc) : Prop :=
  match fut with
  | some pc => PcOK v pc
  | none => if v.live = true then FlushPre v else DeadOK v

/-- What every machine function establishes when it returns to the caller or suspends: the invariant. -/
def Post (w : World) : Prop := PhaseV w.view w.fut

theorem Post.of_phase {w : World} (h : PhaseV w.view w.fut) : Post w := h
theorem Post.phase {w : World} (h : Post w) : PhaseV w.view w.fut := h
theorem Post.congr {w w' : World} (h : Post w) (hv : w'.view = w.view) (hf : w'.fut = w.fut) : Post w' := by
  unfold Post at *; rw [hv, hf]; exact h

theorem Post.suspend {w : World} {pc : Pc} (h : PcOK w.view pc) : Post (w.suspend pc) := h

theorem PhaseV.live {v : View} (h : FlushPre v) : PhaseV v none := by
  obtain ⟨part, hl, _⟩ := h
  simp only [PhaseV, hl.live, if_true]
  exact ⟨part, hl, by assumption⟩

theorem PhaseV.dead {v : View} (hl : v.live = false) (hp : DeadOK v) : PhaseV v none := by
  simp only [PhaseV, hl, Bool.false_eq_true, if_false]; exact hp

theorem Post.finish {w : World} (l : String) (h : PhaseV w.view none) : Post (w.finish l) := by
  unfold Post; rw [view_finish]; exact h
theorem Post.finishErr {w : World} (n : String) (e : Err) (h : PhaseV w.view none) : Post (w.finishErr n e) := by
  unfold Post; rw [view_finishErr]; exact h
theorem Post.finishOp {w : World} (n : String) (op : Op) (h : PhaseV w.view none) : Post (w.finishOp n op) := by
  unfold Post; rw [view_finishOp]; exact h

theorem Post.live_finish {w : World} (l : String) (h : FlushPre w.view) : Post (w.finish l) := .finish l (.live h)
theorem Post.live_finishErr {w : World} (n : String) (e : Err) (h : FlushPre w.view) : Post (w.finishErr n e) :=
  .finishErr n e (.live h)
theorem Post.live_finishOp {w : World} (n : String) (op : Op) (h : FlushPre w.view) : Post (w.finishOp n op) :=
  .finishOp n op (.live h)
theorem Post.live_deliver {w : World} (n : String) (len : Nat) (h : FlushPre w.view) : Post (w.deliver n len) := by
  obtain ⟨h1, h2⟩ := view_deliver w n len
  unfold Post; rw [h1, h2]; exact PhaseV.live h

theorem Post.dead_finish {w : World} (l : String) (hl : w.view.live = false) (hp : DeadOK w.view) : Post (w.finish l) :=
  .finish l (.dead hl hp)
theorem Post.dead_finishErr {w : World} (n : String) (e : Err) (hl : w.view.live = false) (hp : DeadOK w.view) :
    Post (w.finishErr n e) := .finishErr n e (.dead hl hp)

theorem Post.hd_finishErr {w : World} (n : String) (e : Err) (hp : DeadOK w.view) : Post ((w.handleDisconnect).finishErr n e) :=
  .finishErr n e (.dead (hd_live w.view w.sess.handleDisconnect) hp)
theorem Post.hd_finish {w : World} (l : String) (hp : DeadOK w.view) : Post ((w.handleDisconnect).finish l) :=
  .finish l (.dead (hd_live w.view w.sess.handleDisconnect) hp)

/- From here on `Post` is used through the lemmas above only. Left unfoldable, every term elaborated against an
expected type `Post r` makes the elaborator evaluate `r.fut` — that is, run the operation that `r` is the
result of — to see whether the type is a function type. -/
attribute [irreducible] Post

/-- The precondition of each machine function. -/
def Fuel.Call.Pre : Call → Prop
  | .FL w _ => FlushPre w.view
  | .PS w _ step _ => FlushPre w.view ∧ w.view.o.nextStep = some step
  | .DSW w ctx pkt bytes wr len now => PcOK w.view (.stepWrite ctx pkt bytes wr len now)
  | .DSF w ctx pkt now => PcOK w.view (.stepFlush ctx pkt now)
  | .SR w _ _ => FlushPre w.view
  | .AF w _ => QuietPre w.view ∧ w.view.avail = false
  | .DLW w which bytes => LocalPre w.view which bytes
  | .DLF w which => LFPre w.view which
  | .DCR w => LocalFlushPre w.view 0
  | .DL w _ _ => DrivePre w.view
  | .DAS w _ _ => DrivePre w.view
  | .DE w _ => DrivePre w.view
  | .DWR w _ d _ => IdlePre w.view ∧ d = w.sess.rt.nextDeadline

end Minimq
