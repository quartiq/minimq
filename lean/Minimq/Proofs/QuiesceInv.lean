import Minimq.Proofs.WireQuota
import Minimq.Proofs.LiftWorld
/-
Bounded quiescence (C16, liveness half) — the hypotheses of `Setting` that hold of every world a program
produces (`Produced`, `Proofs/Program.lean`), so that a statement about such a world need not assume them.

* `CtlInv` and `SmallIds` are predicates of the view of the queues that every move preserves
  (`Produced.view` below; the moves are `QStep` of `Proofs/QueueView.lean`). `CtlInv`: the control queue holds at most
  `MAX_PENDING_CONTROL` entries (`queue_control` checks the capacity; nothing else lengthens the queue) and
  none of them is `Sent` (`flush_control` drops the entry it marks; `set_written` only ever writes `Write n`
  or `Flush`; `arm_replay` writes `Write 0`). `SmallIds`: the identifiers in use are below 65536 — those of
  retained packets come from the allocator (`next_packet_id`, 1 … 65535, given the counter is in that range:
  `SessionData.IdInv`), those of release entries are identifiers of retained packets (`handle_packet` queues a
  PUBREL only for a PUBREC that `ack_packet` matched).
* A live handle has accepted a CONNACK (`Produced.accepted`): the handle becomes live only when a CONNACK is
  accepted (`live_run`). An accepted CONNACK sets the maximum send quota to at most 8 (`closed_MaxQ`); on a
  live handle that is the first half of `Produced.bal`.

The send-quota books balance (C06 / C16): on a live connection, unless the last CONNACK announced a Receive
Maximum below the number of publishes that had to be replayed (ghost flag `deficit`, finding F5c), the
remaining send quota plus the number of QoS 1/2 exchanges in flight IS the maximum send quota — not only at
most (`QuotaP`, `Proofs/Quota.lean`).

Who keeps the books:
* an accepted CONNACK sets `send_quota = max_send_quota - inflight_publishes` (`activate`);
* an accepted QoS 1/2 publish takes one from the quota and adds one retained PUBLISH, in one synchronous
  step (`retain`; `can_publish` has checked that the quota is not 0);
* PUBACK, PUBREC with a failure code and PUBCOMP remove one exchange and return one to the quota — the
  `min(…, max_send_quota)` and the saturation at 65535 do not bite, because the books balanced before and the
  maximum is at most 8;
* PUBREC with a success code replaces the retained PUBLISH by a release entry — unless the PUBREL would be
  over the broker's Maximum Packet Size (`Resource.PacketTooLarge`: the PUBLISH is gone, no release entry is
  made, nothing is returned — the books are short by one; but `process_received_packet` ends the connection
  at once, and the next accepted CONNACK recomputes the quota), or the release queue is full (impossible:
  a retained QoS 2 PUBLISH plus `MAX_PENDING_RELEASE` release entries are more than the maximum send quota);
* a CONNACK that is rejected after it reset the session (F19) leaves the quota of the old session beside
  the emptied queues — with the handle dead.

Hence the statement is about live handles, and the lifting is `live_runH` of `Proofs/LiftWorld.lean`.
-/
namespace Minimq
open Gen World Outbound

def bOk (o : Outbound) (r : Runtime) : Prop :=
  r.maxSendQuota ≤ maxInflight ∧ (r.deficit = false → r.sendQuota + o.inflightPublishes = r.maxSendQuota)

def Bal (s : Session) : Prop := bOk s.data.outbound s.rt

/-- Every inbound packet keeps the books balanced — or its handling fails with an error that ends the
connection. The only case of the second kind that unbalances them is a PUBREC whose PUBREL is over the
broker's Maximum Packet Size; one that finds the release queue full beside a retained QoS 2 PUBLISH has more in
flight than the window holds. -/
theorem Handled.books {o o' : Outbound} {r r' : Runtime} {res : Except Err Bool} (h : Handled o r o' r' res)
    (ha : o.ArenaInv) (hm : r.maxSendQuota ≤ maxInflight) (hq : r.sendQuota + o.inflightPublishes = r.maxSendQuota) :
    r'.sendQuota + o'.inflightPublishes = r'.maxSendQuota ∨ HandleFatal res := by
  have := maxInflight_le
  exact (((h.vstep (K := fun _ _ => True) ha).move ha (h.arena ha)).eq hm hq).imp_right fun hf =>
    hf.resolve_right (by omega)

/-- `Handled.books` with the ghost flag `deficit` in front. -/
theorem Handled.bal {o o' : Outbound} {r r' : Runtime} {res : Except Err Bool} (h : Handled o r o' r' res)
    (ha : o.ArenaInv) (hb : bOk o r) : bOk o' r' ∨ HandleFatal res := by
  rcases ((h.vstep (K := fun _ _ => True) ha).move ha (h.arena ha)).bal hb with hb' | ⟨hf | hfull, hd⟩
  · exact .inl hb'
  · exact .inr hf
  · have := hb.2 hd; have := hb.1; have := maxInflight_le; omega

theorem handlePacket_bal (d : SessionData) (r : Runtime) (p : Recv) (ha : d.outbound.ArenaInv) (h : bOk d.outbound r) :
    bOk (handlePacket d r p).1.outbound (handlePacket d r p).2.1 ∨ HandleFatal (handlePacket d r p).2.2 :=
  (handlePacket_handled d r p).bal ha h

theorem activated_Bal (s : Session) (sp : Bool) (block : Bytes) (now : Nat) : Bal (s.activated sp block now) := by
  obtain ⟨hm, hr⟩ := s.activated_reset sp block now
  exact ⟨by rw [hm]; exact negotiatedQuota_le block, hr.eq⟩

theorem VStep.bal {s s' : Session}
    (st : VStep (fun _ _ => True) False s.data.outbound s.rt s'.data.outbound s'.rt) (hI : QuotaP s) (hI' : QuotaP s')
    (h : Bal s) : Bal s' := by
  exact ((st.move hI.1.1 hI'.1.1).bal h).resolve_right fun hf => hf.1

/-- Given the window invariant `QuotaP` (for the layout of the arena), every primitive that leaves the handle
as it is keeps the books balanced, and an accepted CONNACK balances them. -/
theorem liveClosed_Bal : LiveClosed QuotaP Bal where
  queuePing := fun s now s' hI h hq => (Session.queuePing_vstep hq).bal hI (closed_QuotaP.queuePing s now s' hI hq) h
  completeFlush := fun s pkt now hI h => (s.completeFlush_vstep pkt now).bal hI (closed_QuotaP.completeFlush s pkt now hI) h
  setWritten := fun s pkt a c hI h => (s.setWritten_vstep pkt a c).bal hI (closed_QuotaP.setWritten s pkt a c hI) h
  takePkt := by intro s _ h; unfold Bal; rw [(Session.takePkt_data s).1, (Session.takePkt_data s).2]; exact h
  handle := fun s p hI h hn => (handlePacket_bal s.data s.rt p hI.1.1 h).resolve_right hn
  activateOk := by
    intro s sp block now _ hok
    rw [activate_fst_of_ok hok]
    exact activated_Bal s sp block now
  alloc := fun s hI h => s.alloc_vstep.bal hI (closed_QuotaP.alloc s hI) h
  encodeConnect := fun s c hI h =>
    (s.encode_vstep _ (EncOk_encodeConnect c) hI.1.1).bal hI (closed_QuotaP.encodeConnect s c hI) h
  encodeAfterAlloc := fun s enc he hI h =>
    (s.alloc_encode_vstep enc he hI.1.1).bal hI (closed_QuotaP.encodeAfterAlloc s enc he hI) h
  encodeScratch := fun s enc he hI h => (s.encode_vstep enc he hI.1.1).bal hI (closed_QuotaP.encodeScratch s enc he hI) h
  enqueue := fun s enc off len isPub s3 typ he ht hiff hI h hquota hres hr =>
    -- `can_publish` has checked that the quota is not 0
    (Session.enqueue_vstep he ht hiff (fun _ _ _ _ _ _ => trivial) hI.1.1 hquota hres hr).bal hI
      (closed_QuotaP.enqueue s enc off len isPub s3 typ he ht hiff hI hquota hres hr) h
  clearPing := fun _ _ h => h
  noteActivity := fun _ _ _ h => h
  window := by intro s s' n _ h hw; obtain ⟨rd, -, rfl⟩ := Session.window_some hw; exact h
  commit := fun _ _ _ h => h
  beginConnect := fun s hI h => (s.beginConnect_vstep hI.1.1).bal hI (closed_QuotaP.beginConnect s hI) h
  setPid := fun _ _ _ _ _ h => h

namespace Quiesce

theorem Produced.quotaP {W : World} (h : Produced W) : QuotaP W.sess := by
  obtain ⟨cfg, ds, rfl⟩ := h
  exact run_inv closed_QuotaP ds { sess := Session.new cfg } (QuotaP_init cfg)

theorem Produced.arena {W : World} (h : Produced W) : W.sess.data.outbound.ArenaInv := h.quotaP.1.1

theorem Produced.quota {W : World} (h : Produced W) : quotaOk W.sess := h.quotaP.2

theorem Produced.ids {W : World} (h : Produced W) : W.sess.data.outbound.IdInv := by
  obtain ⟨cfg, ds, rfl⟩ := h
  exact (run_inv closed_IdInv ds { sess := Session.new cfg } (IdInv_init cfg.tx)).out

theorem Produced.view {P : QV → Prop}
    (hP : ∀ K, (∀ bs id, K bs id → Framed bs ∧ id < 65536) → ∀ δ a b, QStep K δ a b → P a → P b) (h0 : P ⟨[], [], []⟩)
    {W : World} (h : Produced W) : P (qv W.sess.data.outbound) := by
  obtain ⟨cfg, ds, rfl⟩ := h
  exact (run_inv (closed_view hP) ds { sess := Session.new cfg }
    ⟨⟨IdInv_init cfg.tx, arena_init cfg⟩, h0⟩).2

structure CtlInv (o : Outbound) : Prop where
  cap : o.control.length ≤ MAX_PENDING_CONTROL
  clean : ∀ e ∈ o.control, e.state ≠ .sent

theorem ctlInv_iff (o : Outbound) : CtlInv o ↔ (qv o).CtlOk := by
  simp only [QV.CtlOk, qv, List.length_map, List.forall_mem_map]
  exact ⟨fun h => ⟨h.cap, h.clean⟩, fun h => ⟨h.1, h.2⟩⟩

theorem CtlInv.queueControl {o o' : Outbound} {a : ControlAction} (h : CtlInv o) (hq : o.queueControl a = some o') :
    CtlInv o' :=
  (ctlInv_iff _).2 ((qv_queueControl (K := fun _ _ => True) hq).ctlOk ((ctlInv_iff _).1 h))

theorem CtlInv.armReplay {o : Outbound} (h : CtlInv o) : CtlInv o.armReplay := by
  have hc := (armReplay_queues o).2.2.1
  refine ⟨by rw [hc, List.length_map]; exact h.cap, fun e he => ?_⟩
  rw [hc] at he
  obtain ⟨x, _, rfl⟩ := List.mem_map.mp he
  exact fun h0 => nomatch h0

theorem Produced.ctl {W : World} (h : Produced W) : CtlInv W.sess.data.outbound :=
  (ctlInv_iff _).2 (h.view (fun _ _ _ _ _ st => st.ctlOk) ⟨Nat.zero_le _, fun _ he => nomatch he⟩)

def SmallIds (o : Outbound) : Prop := ∀ id ∈ o.usedIds, id < 65536

theorem smallIds_iff (o : Outbound) : SmallIds o ↔ (qv o).Small := by unfold SmallIds QV.Small; rw [qv_ids]

theorem SmallIds.queueControl {o o' : Outbound} {a : ControlAction} (h : SmallIds o) (hq : o.queueControl a = some o') :
    SmallIds o' :=
  (smallIds_iff _).2 ((qv_queueControl (K := fun _ _ => False) hq).small (fun _ _ h => h.elim) ((smallIds_iff _).1 h))

theorem SmallIds.queueRelease {o o' : Outbound} {id rc ps : Nat} (h : SmallIds o) (hid : id < 65536)
    (hq : o.queueRelease id rc ps = some o') : SmallIds o' := by
  obtain ⟨_, rfl⟩ := queueRelease_some hq
  intro x hx
  simp only [usedIds, List.map_append, List.map_cons, List.map_nil, List.mem_append, List.mem_singleton] at hx
  rcases hx with hx | hx | rfl
  · exact h x (by simp only [usedIds, List.mem_append]; exact .inl hx)
  · exact h x (by simp only [usedIds, List.mem_append]; exact .inr hx)
  · exact hid

theorem SmallIds.retainPacket {o o' : Outbound} {id off len : Nat} (h : SmallIds o) (hid : id < 65536)
    (hr : o.retainPacket id off len = some o') : SmallIds o' :=
  (smallIds_iff _).2 (((QStep.retPush (K := fun _ i => i < 65536) (qv o) _ id hid).to (qv_retainPacket hr).symm).small
    (fun _ _ h => h) ((smallIds_iff _).1 h))

theorem SmallIds.encodeAt {ε} {o : Outbound} (h : SmallIds o) (enc : Nat → (Nat → Nat → Bytes) → Except ε (Nat × Bytes)) :
    SmallIds (o.encodeAt enc).1 := by
  exact fun id hid => h id (usedIds_encodeAt o enc ▸ hid)

/-- `SmallIds` rides on the identifier invariant: the allocator hands out identifiers below 65536. -/
theorem Produced.small {W : World} (h : Produced W) : SmallIds W.sess.data.outbound :=
  (smallIds_iff _).2 (h.view (fun _ hK _ _ _ st => st.small fun bs id hk => (hK bs id hk).2) fun _ he => nomatch he)

/-- On a live handle a CONNACK has been accepted (ghost flag) — whether or not the transport is marked
torn. -/
theorem Produced.accepted {W : World} (h : Produced W) (hl : W.live = true) : W.sess.data.everAccepted = true := by
  obtain ⟨cfg, ds, rfl⟩ := h
  exact live_run ((closed_iff_prim _).mpr (fun _ _ hp h => hp.everAccepted_changes.1 h))
    (fun _ _ _ _ => activate_everAccepted)
    cfg ds hl

theorem Produced.bal {W : World} (h : Produced W) (hl : W.live = true) : Bal W.sess := by
  obtain ⟨cfg, ds, rfl⟩ := h
  exact live_runH closed_QuotaP liveClosed_Bal cfg (QuotaP_init cfg) ds hl

end Quiesce
end Minimq
