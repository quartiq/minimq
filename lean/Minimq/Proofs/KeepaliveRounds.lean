import Minimq.Proofs.KeepaliveMachine
/-
Keep-alive over arbitrarily many rounds (for `Theorems/C10Rounds.lean`). A stretch of a run is a `Leg`: what went out,
how the last result changed, and that nothing went wrong at any point of it; with the state it ends in it is a `LegTo`,
and legs compose (`LegTo.seq`). Seen from outside, keep-alive is a timer with two states (`ArmedAt`, `PingedAt`) and
four moves between them, each a `LegTo`; a round, and a schedule of rounds, are moves in sequence.
-/
namespace Minimq
open Gen World Outbound

/-- `poll()` called where a service pass has nothing to do: the operation suspends in `wait_for_progress`. -/
theorem poll_again (W : World) (hfut : W.fut = none) (hlive : W.live = true) (hslot : W.slot = none)
    (hwait : Waiting W.sess.reader W.curNet.rx) (hn : W.sess.data.outbound.nextStep = none) (hnets : W.nets ≠ [])
    (hto : ∀ t, W.sess.rt.pingTimeout = some t → W.now < t)
    (hq : W.sess.queuePing W.now = .ok W.sess) :
    let R := W.execDirective .poll
    IdleWait R .poll ∧ Suspended W R R.fut W.sess W.nets W.now W.log := by
  intro R
  have hR : R = _ := exec_drive_settle .poll .poll rfl hlive hslot hwait.notAvail (fun _ => hwait.win) hto hq
  rw [opStart_of_idle hfut] at hR
  clear_value R
  subst hR
  rw [settle_wait (o := .poll) (a := false) ?_ nofun (fun _ => rfl)]
  · exact ⟨⟨nofun, rfl, hlive, rfl, hwait, hn, hnets⟩, rfl, rfl, rfl, rfl, rfl, rfl, rfl, rfl⟩
  · exact hn


def run (ds : List Directive) (W : World) : World := ds.foldl World.execDirective W

theorem run_nil (W : World) : run [] W = W := rfl
theorem run_cons (d : Directive) (ds : List Directive) (W : World) : run (d :: ds) W = run ds (W.execDirective d) := rfl
theorem run_append (a c : List Directive) (W : World) : run (a ++ c) W = run c (run a W) := by
  unfold run; rw [List.foldl_append]

def Stays (P : World → Prop) : List Directive → World → Prop
  | [], W => P W
  | d :: ds, W => P W ∧ Stays P ds (W.execDirective d)

theorem Stays.append {P : World → Prop} : ∀ (a c : List Directive) (W : World),
    Stays P a W → Stays P c (run a W) → Stays P (a ++ c) W
  | [], _, _, _, h2 => h2
  | d :: a, c, W, h1, h2 => ⟨h1.1, Stays.append a c (W.execDirective d) h1.2 h2⟩

theorem Stays.prefix {P : World → Prop} (ds : List Directive) (W : World) (h : Stays P ds W) (n : Nat) :
    P (run (ds.take n) W) := by
  induction ds generalizing W n with
  | nil => rw [List.take_nil]; exact h
  | cons d ds ih =>
    cases n with
    | zero => exact h.1
    | succ n => exact ih (W.execDirective d) h.2 n

theorem Stays.mono {P Q : World → Prop} (hpq : ∀ W, P W → Q W) : ∀ (ds : List Directive) (W : World),
    Stays P ds W → Stays Q ds W
  | [], W, h => hpq W h
  | d :: ds, W, h => ⟨hpq W h.1, Stays.mono hpq ds (W.execDirective d) h.2⟩

/-- `recv()` has not returned since the last result was `res`. -/
def StillWaiting (res : Option (Except Err Unit)) (W : World) : Prop :=
  W.live = true ∧ W.fut.isSome = true ∧ W.lastRes = res

/-- `poll()`, which returns `Ok(None)` in every round, has returned no error since the last result was `res`. -/
def Alive (res : Option (Except Err Unit)) (W : World) : Prop :=
  W.live = true ∧ (W.lastRes = res ∨ W.lastRes = some (.ok ()))

/-- What holds at every point of a run of keep-alive rounds. -/
def Good (o : Outer) (res : Option (Except Err Unit)) (W : World) : Prop :=
  match o with
  | .recv => StillWaiting res W
  | _ => Alive res W

/-- How the last result may have changed: not at all (`recv()`), or to `Ok` (`poll()`). -/
def Rel (o : Outer) (res r : Option (Except Err Unit)) : Prop :=
  match o with
  | .recv => r = res
  | _ => r = res ∨ r = some (.ok ())

theorem Good.of_waiting {o : Outer} {res : Option (Except Err Unit)} {W : World} (h : StillWaiting res W) :
    Good o res W := by
  cases o with
  | recv => exact h
  | _ => exact ⟨h.1, Or.inl h.2.2⟩

theorem Rel.refl (o : Outer) (res : Option (Except Err Unit)) : Rel o res res := by
  cases o with
  | recv => rfl
  | _ => exact Or.inl rfl

theorem Rel.trans {o : Outer} {res a c : Option (Except Err Unit)} (h1 : Rel o res a) (h2 : Rel o a c) : Rel o res c := by
  cases o with
  | recv => exact Eq.trans h2 h1
  | _ => exact h2.elim (fun e => e ▸ h1) Or.inr

theorem Good.spell {o : Outer} {res : Option (Except Err Unit)} {W : World} (h : Good o res W) :
    W.live = true ∧ (o = .recv → W.fut.isSome = true ∧ W.lastRes = res) ∧
    (W.lastRes = res ∨ W.lastRes = some (.ok ())) := by
  cases o with
  | recv => exact ⟨h.1, fun _ => h.2, Or.inl h.2.2⟩
  | _ => exact ⟨h.1, nofun, h.2⟩

theorem IdleWait.still {W : World} {outer : Outer} (h : IdleWait W outer) : StillWaiting W.lastRes W :=
  ⟨h.live, by rw [h.fut]; rfl, rfl⟩

def elapse : Nat → List Nat → Nat
  | now, [] => now
  | now, u :: us => elapse (now + u) us

def AllBefore (d : Nat) : Nat → List Nat → Prop
  | _, [] => True
  | now, u :: us => now + u < d ∧ AllBefore d (now + u) us

theorem le_elapse : ∀ (us : List Nat) (now : Nat), now ≤ elapse now us
  | [], _ => Nat.le_refl _
  | u :: us, now => Nat.le_trans (Nat.le_add_right now u) (le_elapse us (now + u))

theorem elapse_lt {d : Nat} : ∀ (us : List Nat) (now : Nat), now < d → AllBefore d now us → elapse now us < d
  | [], _, h, _ => h
  | u :: us, now, _, h => elapse_lt us (now + u) h.1 h.2

/-- Between `W` and `R` exactly `n` PINGREQs went out on the current transport, and nothing else changed on the
transports, in the transmission log or in the session's data. -/
structure Sent (W R : World) (n : Nat) : Prop where
  others : R.nets.dropLast = W.nets.dropLast
  len : R.nets.length = W.nets.length
  wire : R.curNet.wire = W.curNet.wire ++ (List.replicate n pingBytes).flatten
  log : R.log = W.log ++ List.replicate n (pingEntry W.nets.length)
  data : R.sess.data = W.sess.data

theorem Sent.same {W R : World} (hn : R.nets = W.nets) (hl : R.log = W.log) (hs : R.sess = W.sess) : Sent W R 0 :=
  ⟨by rw [hn], by rw [hn], by unfold World.curNet; rw [hn]; simp, by rw [hl]; simp, by rw [hs]⟩

theorem Sent.of_nets {W R : World} {n : Nat} {net : Net} (hW : W.nets ≠ [])
    (hn : R.nets = W.nets.dropLast ++ [net])
    (hw : net.wire = W.curNet.wire ++ (List.replicate n pingBytes).flatten)
    (hl : R.log = W.log ++ List.replicate n (pingEntry W.nets.length)) (hd : R.sess.data = W.sess.data) :
    Sent W R n := by
  refine ⟨by rw [hn]; simp, ?_, by rw [curNet_of_nets hn, hw], hl, hd⟩
  have := List.length_pos_iff.mpr hW
  rw [hn]; simp; omega

theorem Sent.trans {W X R : World} {n m : Nat} (h1 : Sent W X n) (h2 : Sent X R m) : Sent W R (n + m) := by
  refine ⟨h2.others.trans h1.others, h2.len.trans h1.len, ?_, ?_, ?_⟩
  · rw [h2.wire, h1.wire, ← List.replicate_append_replicate, List.flatten_append, List.append_assoc]
  · rw [h2.log, h1.log, h1.len, ← List.replicate_append_replicate, List.append_assoc]
  · exact h2.data.trans h1.data

theorem Sent.quiet {W R : World} (h : Sent W R 0) : R.curNet.wire = W.curNet.wire ∧ R.log = W.log :=
  ⟨h.wire.trans (List.append_nil _), h.log.trans (List.append_nil _)⟩

theorem Sent.once {W R : World} (h : Sent W R 1) :
    R.curNet.wire = W.curNet.wire ++ pingBytes ∧ R.log = W.log ++ [pingEntry W.nets.length] :=
  ⟨h.wire.trans (by simp), h.log⟩

/-- A leg of the run: the directives `ds` from `W` send exactly `n` PINGREQs and nothing else, the last
result changes at most as `Rel` allows, and `Good` holds at every point. -/
structure Leg (o : Outer) (ds : List Directive) (W : World) (n : Nat) : Prop where
  sent : Sent W (run ds W) n
  res : Rel o W.lastRes (run ds W).lastRes
  stays : Stays (Good o W.lastRes) ds W

theorem Leg.trans {o : Outer} {a c : List Directive} {W : World} {n m : Nat}
    (h1 : Leg o a W n) (h2 : Leg o c (run a W) m) : Leg o (a ++ c) W (n + m) := by
  refine ⟨?_, ?_, ?_⟩
  · rw [run_append]; exact h1.sent.trans h2.sent
  · rw [run_append]; exact h1.res.trans h2.res
  · refine Stays.append a c W h1.stays (Stays.mono (fun X h => ?_) c _ h2.stays)
    cases o with
    | recv => exact (show (run a W).lastRes = W.lastRes from h1.res) ▸ h
    | _ => exact ⟨h.1, Rel.trans (o := .poll) h1.res h.2⟩

theorem Leg.nil (o : Outer) {W : World} (h : Good o W.lastRes W) : Leg o [] W 0 :=
  ⟨Sent.same rfl rfl rfl, Rel.refl o _, h⟩

/-- A leg with the state it ends in: the form in which stretches of a run are put together (`LegTo.seq`). -/
structure LegTo (o : Outer) (ds : List Directive) (W : World) (n : Nat) (Q : World → Prop) : Prop
    extends Leg o ds W n where
  post : Q (run ds W)

theorem LegTo.seq {o : Outer} {a c : List Directive} {W : World} {n m : Nat} {P Q : World → Prop}
    (h1 : LegTo o a W n P) (h2 : ∀ X, P X → LegTo o c X m Q) : LegTo o (a ++ c) W (n + m) Q :=
  ⟨h1.toLeg.trans (h2 _ h1.post).toLeg, by rw [run_append]; exact (h2 _ h1.post).post⟩

/-- What `IdleWait` says apart from the suspension itself. -/
structure QuietW (W : World) : Prop where
  live : W.live = true
  slot : W.slot = none
  waiting : Waiting W.sess.reader W.curNet.rx
  idle : W.sess.data.outbound.nextStep = none
  nets : W.nets ≠ []

theorem IdleWait.quiet {W : World} {o : Outer} (h : IdleWait W o) : QuietW W :=
  ⟨h.live, h.slot, h.waiting, h.idle, h.nets⟩

/-- The session and transport side of `Armed` (`fits`: a PINGREQ is within the broker's Maximum Packet Size). -/
structure ArmedS (W : World) (ka t0 : Nat) : Prop where
  ctl : W.sess.data.outbound.control = []
  noTimeout : W.sess.rt.pingTimeout = none
  fits : W.sess.rt.packetTooLarge 2 = false
  ka : W.sess.rt.keepaliveMs = ka
  armed : W.sess.rt.nextPing = W.sess.rt.keepaliveSendInterval.map (fun i => t0 + i * 1000)
  reader : W.sess.reader.data = [] ∧ W.sess.reader.packetLength = none ∧ 2 ≤ W.sess.reader.cap
  rx : W.curNet.rx = []

/-- The state a round starts from and ends in: the application waits after a full service pass (`IdleWait`) and
the PINGREQ timer is armed from `t0`, the completion time of the previous client packet. -/
structure Armed (W : World) (outer : Outer) (ka t0 : Nat) : Prop extends ArmedS W ka t0 where
  idle : IdleWait W outer

/-- As `ArmedS`, with the ping timeout `t + 5 s` running and not reached. -/
structure PingedS (W : World) (ka t : Nat) : Prop where
  ctl : W.sess.data.outbound.control = []
  timeout : W.sess.rt.pingTimeout = some (t + ROUND_TRIP_TIMEOUT_MS * 1000)
  fresh : W.now < t + ROUND_TRIP_TIMEOUT_MS * 1000
  fits : W.sess.rt.packetTooLarge 2 = false
  ka : W.sess.rt.keepaliveMs = ka
  armed : W.sess.rt.nextPing = W.sess.rt.keepaliveSendInterval.map (fun i => t + i * 1000)
  reader : W.sess.reader.data = [] ∧ W.sess.reader.packetLength = none ∧ 2 ≤ W.sess.reader.cap
  rx : W.curNet.rx = []

/-- The state between the PINGREQ completed at `t` and its PINGRESP. -/
structure Pinged (W : World) (outer : Outer) (ka t : Nat) : Prop extends PingedS W ka t where
  idle : IdleWait W outer

theorem ArmedS.nextPing {W : World} {ka t0 : Nat} (h : ArmedS W ka t0)
    (hka : 2 * ROUND_TRIP_TIMEOUT_MS ≤ ka) :
    W.sess.rt.nextPing = some (t0 + (ka - ROUND_TRIP_TIMEOUT_MS) * 1000) := by
  rw [h.armed, interval_of_ka _ (by rw [h.ka]; exact hka), h.ka]; rfl

theorem ArmedS.deadline {W : World} {ka t0 : Nat} (h : ArmedS W ka t0)
    (hka : 2 * ROUND_TRIP_TIMEOUT_MS ≤ ka) :
    W.sess.rt.nextDeadline = some (t0 + (ka - ROUND_TRIP_TIMEOUT_MS) * 1000) := by
  rw [nextDeadline_no_timeout _ h.noTimeout, h.nextPing hka]

theorem PingedS.nextPing {W : World} {ka t : Nat} (h : PingedS W ka t)
    (hka : 2 * ROUND_TRIP_TIMEOUT_MS ≤ ka) :
    W.sess.rt.nextPing = some (t + (ka - ROUND_TRIP_TIMEOUT_MS) * 1000) := by
  rw [h.armed, interval_of_ka _ (by rw [h.ka]; exact hka), h.ka]; rfl

theorem PingedS.deadline {W : World} {ka t : Nat} (h : PingedS W ka t) :
    W.sess.rt.nextDeadline = some (t + ROUND_TRIP_TIMEOUT_MS * 1000) :=
  nextDeadline_of_timeout _ _ h.timeout

theorem Armed.nextPing {W : World} {outer : Outer} {ka t0 : Nat} (h : Armed W outer ka t0)
    (hka : 2 * ROUND_TRIP_TIMEOUT_MS ≤ ka) :
    W.sess.rt.nextPing = some (t0 + (ka - ROUND_TRIP_TIMEOUT_MS) * 1000) := h.toArmedS.nextPing hka

theorem Pinged.nextPing {W : World} {outer : Outer} {ka t : Nat} (h : Pinged W outer ka t)
    (hka : 2 * ROUND_TRIP_TIMEOUT_MS ≤ ka) :
    W.sess.rt.nextPing = some (t + (ka - ROUND_TRIP_TIMEOUT_MS) * 1000) := h.toPingedS.nextPing hka

theorem ArmedS.of_sess {W R : World} {ka t0 : Nat} (h : ArmedS W ka t0) (hs : R.sess = W.sess)
    (hr : R.curNet.rx = W.curNet.rx) : ArmedS R ka t0 :=
  ⟨hs ▸ h.ctl, hs ▸ h.noTimeout, hs ▸ h.fits, hs ▸ h.ka, hs ▸ h.armed, hs ▸ h.reader, hr ▸ h.rx⟩

theorem PingedS.of_sess {W R : World} {ka t : Nat} (h : PingedS W ka t) (hs : R.sess = W.sess)
    (hr : R.curNet.rx = W.curNet.rx) (hnow : R.now < t + ROUND_TRIP_TIMEOUT_MS * 1000) : PingedS R ka t :=
  ⟨hs ▸ h.ctl, hs ▸ h.timeout, hnow, hs ▸ h.fits, hs ▸ h.ka, hs ▸ h.armed, hs ▸ h.reader, hr ▸ h.rx⟩

theorem ArmedS.pinged {W R : World} {ka t0 t : Nat} (h : ArmedS W ka t0) (hs : R.sess = W.sess.pinged t)
    (hr : R.curNet.rx = []) (hnow : R.now < t + ROUND_TRIP_TIMEOUT_MS * 1000) : PingedS R ka t :=
  ⟨hs ▸ h.ctl, hs ▸ rfl, hnow, hs ▸ h.fits, hs ▸ h.ka, hs ▸ rfl, hs ▸ h.reader, hr⟩

theorem PingedS.answered {W R : World} {ka t : Nat} (h : PingedS W ka t) (hs : R.sess = W.sess.afterPingResp)
    (hr : R.curNet.rx = []) : ArmedS R ka t :=
  ⟨hs ▸ h.ctl, hs ▸ rfl, hs ▸ h.fits, hs ▸ h.ka, hs ▸ h.armed, hs ▸ ⟨rfl, rfl, h.reader.2.2⟩, hr⟩

/-- The two states with the clock. Keep-alive seen from outside is a timer — armed from `t0` or pinged at `t`, at
virtual time `now` — with four moves: wake-ups that come too early in either state, the PINGREQ, the PINGRESP.
These relations say what a state of the timer means for the world; each move is a `LegTo` from one to the next. -/
def ArmedAt (o : Outer) (ka t0 now : Nat) (W : World) : Prop := Armed W o ka t0 ∧ W.now = now

def PingedAt (o : Outer) (ka t now : Nat) (W : World) : Prop := Pinged W o ka t ∧ W.now = now

/-- Ticks that all stay before the deadline `d` of the wait move the clock and nothing else. (The bound on the time,
here and below, is 2^62 µs, the range of the clock that `tick` accepts: `exec_tick`.) -/
theorem early_leg (outer : Outer) (d : Nat) : ∀ (us : List Nat) (W : World), IdleWait W outer →
    W.sess.rt.nextDeadline = some d → AllBefore d W.now us → elapse W.now us ≤ 4611686018427387904 →
    LegTo outer (us.map Directive.tick) W 0 fun R =>
      IdleWait R outer ∧ R.sess = W.sess ∧ R.curNet = W.curNet ∧ R.now = elapse W.now us
  | [], _, hI, _, _, _ => ⟨Leg.nil outer (Good.of_waiting hI.still), hI, rfl, rfl, rfl⟩
  | u :: us, W, hI, hdl, hbef, hb => by
    obtain ⟨⟨_, a1, a2, _, a4, _, a6, a7⟩, hI1⟩ :=
      hI.tick_early u (Nat.le_trans (le_elapse us (W.now + u)) hb) (by rw [hdl]; exact hbef.1)
    obtain ⟨c5, c1, c2, c3, c4⟩ :=
      early_leg outer d us (W.execDirective (.tick u)) hI1 (by rw [a1]; exact hdl) (by rw [a4]; exact hbef.2)
        (by rw [a4]; exact hb)
    have l1 : Leg outer [.tick u] W 0 :=
      ⟨Sent.same a2 a7 a1, a6 ▸ Rel.refl outer _, Good.of_waiting hI.still, Good.of_waiting (a6 ▸ hI1.still)⟩
    exact ⟨Leg.trans l1 c5, c1, c2.trans a1, c3.trans (curNet_congr a2), c4.trans (by rw [a4]; rfl)⟩

theorem ArmedAt.early {W : World} {o : Outer} {ka t0 now : Nat} (h : ArmedAt o ka t0 now W)
    (hka : 2 * ROUND_TRIP_TIMEOUT_MS ≤ ka) (us : List Nat)
    (hbef : AllBefore (t0 + (ka - ROUND_TRIP_TIMEOUT_MS) * 1000) now us)
    (hb : elapse now us ≤ 4611686018427387904) :
    LegTo o (us.map Directive.tick) W 0 (ArmedAt o ka t0 (elapse now us)) := by
  obtain ⟨h, rfl⟩ := h
  obtain ⟨c5, c1, c2, c3, c4⟩ := early_leg o _ us W h.idle (h.toArmedS.deadline hka) hbef hb
  exact ⟨c5, ⟨h.toArmedS.of_sess c2 (by rw [c3]), c1⟩, c4⟩

theorem PingedAt.early {W : World} {o : Outer} {ka t now : Nat} (h : PingedAt o ka t now W) (us : List Nat)
    (hbef : AllBefore (t + ROUND_TRIP_TIMEOUT_MS * 1000) now us)
    (hb : elapse now us ≤ 4611686018427387904) :
    LegTo o (us.map Directive.tick) W 0 (PingedAt o ka t (elapse now us)) := by
  obtain ⟨h, rfl⟩ := h
  obtain ⟨c5, c1, c2, c3, c4⟩ := early_leg o _ us W h.idle h.toPingedS.deadline hbef hb
  exact ⟨c5, ⟨h.toPingedS.of_sess c2 (by rw [c3]) (by rw [c4]; exact elapse_lt us W.now h.fresh hbef), c1⟩, c4⟩

/-- The directive with which the application goes on waiting: none for `recv()`, which has not returned;
`poll` for `poll()`, which has returned `Ok(None)`. -/
def again : Outer → List Directive
  | .poll => [Directive.poll]
  | _ => []

/-- Where a service pass has nothing to do: `recv()` is suspended in `wait_for_progress` already; `poll()` has
returned `Ok(None)`, is called again, and is then suspended there as well. -/
theorem resume (o : Outer) (ho : o = .recv ∨ o = .poll) (X : World) (res : Option (Except Err Unit)) (hq : QuietW X)
    (hto : ∀ t, X.sess.rt.pingTimeout = some t → X.now < t) (hqp : X.sess.queuePing X.now = .ok X.sess)
    (hr : o = .recv → X.fut = some (.waitRead .recv X.sess.rt.nextDeadline true) ∧ X.lastRes = res)
    (hp : o = .poll → X.fut = none ∧ X.lastRes = some (.ok ())) :
    let R := run (again o) X
    IdleWait R o ∧ R.sess = X.sess ∧ R.nets = X.nets ∧ R.now = X.now ∧ R.log = X.log ∧
    Rel o res R.lastRes ∧ Stays (Good o res) (again o) X := by
  intro R
  rcases ho with rfl | rfl
  · obtain ⟨hf, hl⟩ := hr rfl
    have hI : IdleWait X .recv := ⟨nofun, hf, hq.live, hq.slot, hq.waiting, hq.idle, hq.nets⟩
    exact ⟨hI, rfl, rfl, rfl, rfl, hl, hq.live, by rw [hf]; rfl, hl⟩
  · obtain ⟨hf, hl⟩ := hp rfl
    obtain ⟨p1, p⟩ := poll_again X hf hq.live hq.slot hq.waiting hq.idle hq.nets hto hqp
    have hR : R = X.execDirective .poll := rfl
    rw [← hR] at p1 p
    exact ⟨p1, p.sess, p.nets, p.now, p.log, Or.inr (p.lastRes.trans hl), ⟨hq.live, Or.inr hl⟩, p1.live,
      Or.inr (p.lastRes.trans hl)⟩

/-- The common end of the two halves of a round: three directives during which the application keeps waiting, then
`again`. `X` is the world after the three — `drive_packet` has made progress (`hP`, from `V`) and a service pass
has nothing to do there. -/
theorem leg_resume {o : Outer} (ho : o = .recv ∨ o = .poll) {W A B V X : World} {d1 d2 d3 : Directive} {n : Nat}
    {s : Session} {nets : List Net} {log : List LogEntry}
    (hI : IdleWait W o) (hA : W.execDirective d1 = A) (hB : A.execDirective d2 = B) (hX : B.execDirective d3 = X)
    (gA : StillWaiting W.lastRes A) (gB : StillWaiting W.lastRes B) (gV : StillWaiting W.lastRes V)
    (hP : Progressed V X o s nets log)
    (hslot : X.slot = none) (hS : Sent W X n) (hwait : Waiting X.sess.reader X.curNet.rx)
    (hidle : X.sess.data.outbound.nextStep = none) (hnets : X.nets ≠ [])
    (hto : ∀ t, X.sess.rt.pingTimeout = some t → X.now < t) (hqp : X.sess.queuePing X.now = .ok X.sess) :
    LegTo o ([d1, d2, d3] ++ again o) W n fun R =>
      IdleWait R o ∧ R.sess = X.sess ∧ R.curNet = X.curNet ∧ R.now = X.now := by
  subst hA hB hX
  obtain ⟨g1, g2, g3, g4, g5, g6, g7⟩ := resume o ho _ W.lastRes
    ⟨(live_of_conn hP.conn).trans gV.1, hslot, hwait, hidle, hnets⟩ hto hqp
    (fun h => by rw [hP.sess]; exact ⟨(hP.recv h).1, (hP.recv h).2.trans gV.2.2⟩) hP.poll
  exact ⟨⟨hS.trans (Sent.same g3 g5 g2), g6, Good.of_waiting hI.still, Good.of_waiting gA, Good.of_waiting gB, g7⟩,
    g1, g2, curNet_congr g3, g4⟩

theorem ArmedAt.send {W : World} {o : Outer} {ka t0 now : Nat} (ho : o = .recv ∨ o = .poll) (h : ArmedAt o ka t0 now W)
    (hka : 2 * ROUND_TRIP_TIMEOUT_MS ≤ ka) (us k1 k2 : Nat)
    (hb : now + us ≤ 4611686018427387904)
    (hdue : t0 + (ka - ROUND_TRIP_TIMEOUT_MS) * 1000 ≤ now + us)
    (hk1 : 2 ≤ k1 ∧ k1 ≤ 250) (hk2 : k2 ≤ 250) :
    LegTo o ([Directive.tick us, .d k1, .d k2] ++ again o) W 1 (PingedAt o ka (now + us) (now + us)) := by
  obtain ⟨h, rfl⟩ := h
  have hI := h.idle
  obtain ⟨a, b, c, cslot⟩ := ping_cycle W o hI h.ctl h.noTimeout _ (h.nextPing hka) h.fits us hb hdue k1 k2 hk1 hk2
  generalize hA : W.execDirective (.tick us) = A at *
  generalize hB : A.execDirective (.d k1) = B at *
  generalize hX : B.execDirective (.d k2) = X at *
  have hnets := c.nets.trans b.nets
  have hcur : X.curNet = { W.curNet with wire := W.curNet.wire ++ pingBytes } := curNet_of_nets hnets
  have hfresh : X.now < W.now + us + ROUND_TRIP_TIMEOUT_MS * 1000 := by rw [c.now, b.now, RT_val]; omega
  have hS : PingedS X ka (W.now + us) := h.toArmedS.pinged c.sess (by rw [hcur]; exact h.rx) hfresh
  have gB : StillWaiting W.lastRes B :=
    ⟨(live_of_conn (b.conn.trans a.conn)).trans hI.live, by rw [b.fut]; rfl, b.lastRes.trans a.lastRes⟩
  obtain ⟨g5, g1, g2, g3, g4⟩ := leg_resume ho hI hA hB hX
    ⟨(live_of_conn a.conn).trans hI.live, by rw [a.fut]; rfl, a.lastRes⟩ gB gB c cslot
    (Sent.of_nets (n := 1) hI.nets hnets (by simp) (by rw [c.log, b.log]; rfl) (by rw [c.sess]; rfl))
    (by rw [c.sess, hcur]; exact hI.waiting) (by rw [c.sess]; exact hI.idle) (by rw [hnets]; simp)
    (fun t' ht' => by cases hS.timeout.symm.trans ht'; exact hfresh) (queuePing_while_waiting _ _ _ hS.timeout)
  exact ⟨g5, ⟨hS.of_sess g2 (by rw [g3]) (by rw [g4]; exact hfresh), g1⟩, g4.trans (c.now.trans b.now)⟩

/-- The PINGRESP `D0 00` arrives before the timeout and two read decisions deliver it (the reader asks for one byte,
then for the second): `Armed` from `t` again, at the same virtual time. -/
theorem Pinged.answer {W : World} {o : Outer} {ka t : Nat} (ho : o = .recv ∨ o = .poll) (h : Pinged W o ka t)
    (hka : 2 * ROUND_TRIP_TIMEOUT_MS ≤ ka) (r1 r2 : Nat)
    (h1 : 1 ≤ r1 ∧ r1 ≤ 250) (h2 : 1 ≤ r2 ∧ r2 ≤ 250) :
    let R := run ([Directive.rx pingRespBytes, .d r1, .d r2] ++ again o) W
    Armed R o ka t ∧ R.now = W.now ∧ Leg o ([Directive.rx pingRespBytes, .d r1, .d r2] ++ again o) W 0 := by
  have hI := h.idle
  have hltnp : W.now < t + (ka - ROUND_TRIP_TIMEOUT_MS) * 1000 := Nat.lt_of_lt_of_le h.fresh (timeout_le_nextPing hka t)
  have hnp : ∀ np, W.sess.rt.nextPing = some np → W.now < np :=
    fun np hnp => Option.some.inj ((h.nextPing hka).symm.trans hnp) ▸ hltnp
  let A := W.setCurNet { W.curNet with rx := pingRespBytes }
  have hA : W.execDirective (.rx pingRespBytes) = A := by rw [exec_rx W _ hI.nets, h.rx]; rfl
  have acur : A.curNet = { W.curNet with rx := pingRespBytes } := curNet_of_nets rfl
  have afut : A.fut = some (.waitRead o (some (t + ROUND_TRIP_TIMEOUT_MS * 1000)) true) :=
    hI.fut.trans (by rw [h.deadline])
  -- `pingresp_read` speaks of the end of the reading; a `Leg` needs `Good` after the first read as well
  obtain ⟨hcount, hkind⟩ := first_read_more A h.reader.1 h.reader.2.1 h.reader.2.2
    (by rw [acur]; exact List.cons_ne_nil _ _) r1 h1.1
  rw [← hcount] at hkind
  obtain ⟨hB, _, _⟩ := (waitReadLoop o _ true).more A r1 afut h.fresh
    (Waiting_fresh _ _ h.reader.1 h.reader.2.1 (Nat.le_of_succ_le h.reader.2.2))
    (by rw [acur]; exact List.cons_ne_nil _ _) h1.1 h1.2 hkind
  have hX : (A.execDirective (.d r1)).execDirective (.d r2) = readPacket [r1, r2] A := by
    have hdone : A.readDone r1 = false := by
      unfold World.readDone
      rw [hkind, hcount, acur]; rfl
    simp only [readPacket, hdone, Bool.false_eq_true, if_false]
    split <;> rfl
  obtain ⟨p, pslot⟩ := pingresp_read W o hI _ h.timeout h.fresh h.reader h.rx hnp [r1, r2]
    (by intro k hk; simp only [List.mem_cons, List.not_mem_nil, or_false] at hk; rcases hk with rfl | rfl; exact h1; exact h2)
    (Nat.le_refl 2)
  rw [hA, ← hX] at p pslot
  have hS : ArmedS _ ka t := h.toPingedS.answered p.sess (by rw [curNet_of_nets p.nets])
  obtain ⟨g5, g1, g2, g3, g4⟩ := leg_resume ho hI hA rfl rfl
    ⟨hI.live, by rw [afut]; rfl, rfl⟩ ⟨by rw [hB]; exact hI.live, by rw [hB]; rfl, by rw [hB]; rfl⟩ hI.still p pslot
    (Sent.of_nets (n := 0) hI.nets p.nets (by simp) (by rw [p.log]; simp) (by rw [p.sess]; rfl))
    (by rw [p.sess]; exact Waiting_fresh _ _ rfl rfl (Nat.le_of_succ_le h.reader.2.2)) (by rw [p.sess]; exact hI.idle)
    (by rw [p.nets]; simp) (fun t' ht' => by cases hS.noTimeout.symm.trans ht')
    (queuePing_early _ _ _ (hS.nextPing hka) (by rw [p.now]; exact hltnp))
  exact ⟨⟨hS.of_sess g2 (by rw [g3]), g1⟩, g4.trans p.now, g5⟩

theorem PingedAt.answer {W : World} {o : Outer} {ka t now : Nat} (ho : o = .recv ∨ o = .poll)
    (h : PingedAt o ka t now W) (hka : 2 * ROUND_TRIP_TIMEOUT_MS ≤ ka) (r1 r2 : Nat)
    (h1 : 1 ≤ r1 ∧ r1 ≤ 250) (h2 : 1 ≤ r2 ∧ r2 ≤ 250) :
    LegTo o ([Directive.rx pingRespBytes, .d r1, .d r2] ++ again o) W 0 (ArmedAt o ka t now) :=
  have ⟨a, n, l⟩ := h.1.answer ho hka r1 r2 h1 h2
  ⟨l, a, n.trans h.2⟩

/-- One keep-alive round of an application waiting in `recv()` or calling `poll()` in a loop:
* `early`: delays (µs) of wake-ups that come before the PINGREQ time (any number);
* `us`: delay of the tick that wakes the client at or after the PINGREQ time;
* `k1`, `k2`: the transport's write decision (at least the two bytes) and flush decision;
* `wait`: delays of wake-ups while the PINGRESP is outstanding (any number, all before the ping
  timeout) — the PINGRESP arrives at the time of the last of them;
* `r1`, `r2`: the read decisions that deliver the two bytes of the PINGRESP. -/
structure Round where
  early : List Nat
  us : Nat
  k1 : Nat
  k2 : Nat
  wait : List Nat
  r1 : Nat
  r2 : Nat
  deriving Repr

def Round.sendDirs (r : Round) (o : Outer) : List Directive :=
  r.early.map Directive.tick ++ ([Directive.tick r.us, .d r.k1, .d r.k2] ++ again o)

def Round.recvDirs (r : Round) (o : Outer) : List Directive :=
  r.wait.map Directive.tick ++ ([Directive.rx pingRespBytes, .d r.r1, .d r.r2] ++ again o)

def Round.dirs (r : Round) (o : Outer) : List Directive := r.sendDirs o ++ r.recvDirs o

def schedule (o : Outer) : List Round → List Directive
  | [] => []
  | r :: rs => r.dirs o ++ schedule o rs

def runRounds (o : Outer) (rs : List Round) (W : World) : World := run (schedule o rs) W

/-- Virtual time at which the round's PINGREQ is completed, if the round starts at `now`. -/
def Round.sentAt (r : Round) (now : Nat) : Nat := elapse now r.early + r.us

/-- Virtual time at which the round ends (the PINGRESP is delivered). -/
def Round.endAt (r : Round) (now : Nat) : Nat := elapse (r.sentAt now) r.wait

def pingTimes : List Round → Nat → List Nat
  | [], _ => []
  | r :: rs, now => r.sentAt now :: pingTimes rs (r.endAt now)

/-- The completion time of the last client packet: the last PINGREQ, or `t0` if there was no round. -/
def lastPing (t0 : Nat) : List Round → Nat → Nat
  | [], _ => t0
  | r :: rs, now => lastPing (r.sentAt now) rs (r.endAt now)

def endTime : List Round → Nat → Nat
  | [], now => now
  | r :: rs, now => endTime rs (r.endAt now)

/-- The timing hypotheses of the PINGREQ half of a round that starts at `now` with the timer armed from `t0`,
keep-alive `ka` ms (in words at the head of `Theorems/C10Rounds.lean`). -/
structure Round.SentOK (r : Round) (ka t0 now : Nat) : Prop where
  early : AllBefore (t0 + (ka - ROUND_TRIP_TIMEOUT_MS) * 1000) now r.early
  due : t0 + (ka - ROUND_TRIP_TIMEOUT_MS) * 1000 ≤ r.sentAt now
  prompt : r.sentAt now ≤ t0 + ka * 1000
  k1 : 2 ≤ r.k1 ∧ r.k1 ≤ 250
  k2 : r.k2 ≤ 250
  wait : AllBefore (r.sentAt now + ROUND_TRIP_TIMEOUT_MS * 1000) (r.sentAt now) r.wait

/-- The hypotheses of a whole round: those of the PINGREQ half; the PINGRESP arrives at the time of the last wake-up
in `wait` (so before the timeout) and two read decisions that each take a byte deliver it. -/
structure Round.OK (r : Round) (ka t0 now : Nat) : Prop extends r.SentOK ka t0 now where
  r1 : 1 ≤ r.r1 ∧ r.r1 ≤ 250
  r2 : 1 ≤ r.r2 ∧ r.r2 ≤ 250

theorem Round.SentOK.within {r : Round} {ka t0 now : Nat} (h : r.SentOK ka t0 now) : r.sentAt now - t0 ≤ ka * 1000 :=
  Nat.sub_le_of_le_add (by rw [Nat.add_comm]; exact h.prompt)

/-- Every round of the schedule satisfies its timing hypotheses, each relative to the completion time
of the PINGREQ of the round before it (`t0` for the first). -/
def SchedOK (ka : Nat) : Nat → Nat → List Round → Prop
  | _, _, [] => True
  | t0, now, r :: rs => r.OK ka t0 now ∧ SchedOK ka (r.sentAt now) (r.endAt now) rs

theorem schedule_append (o : Outer) : ∀ (a c : List Round), schedule o (a ++ c) = schedule o a ++ schedule o c
  | [], _ => rfl
  | r :: a, c => by
    show r.dirs o ++ schedule o (a ++ c) = (r.dirs o ++ schedule o a) ++ schedule o c
    rw [schedule_append o a c, List.append_assoc]

theorem runRounds_cons (o : Outer) (r : Round) (rs : List Round) (W : World) :
    runRounds o (r :: rs) W = runRounds o rs (run (r.recvDirs o) (run (r.sendDirs o) W)) := by
  show run (r.dirs o ++ schedule o rs) W = _
  rw [run_append]; unfold Round.dirs; rw [run_append]; rfl

theorem runRounds_snoc (o : Outer) (pre : List Round) (r : Round) (W : World) :
    runRounds o (pre ++ [r]) W = run (r.recvDirs o) (run (r.sendDirs o) (runRounds o pre W)) := by
  show run (schedule o (pre ++ [r])) W = _
  rw [schedule_append, run_append]
  exact runRounds_cons o r [] _

theorem endTime_append : ∀ (a c : List Round) (now : Nat), endTime (a ++ c) now = endTime c (endTime a now)
  | [], _, _ => rfl
  | r :: a, c, now => endTime_append a c (r.endAt now)

theorem lastPing_append : ∀ (a c : List Round) (t0 now : Nat),
    lastPing t0 (a ++ c) now = lastPing (lastPing t0 a now) c (endTime a now)
  | [], _, _, _ => rfl
  | r :: a, c, _, now => lastPing_append a c (r.sentAt now) (r.endAt now)

theorem lastPing_snoc (t0 : Nat) (pre : List Round) (r : Round) (now : Nat) :
    lastPing t0 (pre ++ [r]) now = r.sentAt (endTime pre now) := by
  rw [lastPing_append]; rfl

theorem SchedOK_append (ka : Nat) : ∀ (a c : List Round) (t0 now : Nat),
    SchedOK ka t0 now (a ++ c) ↔ SchedOK ka t0 now a ∧ SchedOK ka (lastPing t0 a now) (endTime a now) c
  | [], _, _, _ => by simp [SchedOK, lastPing, endTime]
  | r :: a, c, t0, now => by
    show (_ ∧ SchedOK ka _ _ (a ++ c)) ↔ (_ ∧ _) ∧ _
    rw [SchedOK_append ka a c]
    exact ⟨fun ⟨h1, h2, h3⟩ => ⟨⟨h1, h2⟩, h3⟩, fun ⟨⟨h1, h2⟩, h3⟩ => ⟨h1, h2, h3⟩⟩

theorem Round.sentAt_le_endAt (r : Round) (now : Nat) : r.sentAt now ≤ r.endAt now := le_elapse _ _

theorem Round.le_sentAt (r : Round) (now : Nat) : now ≤ r.sentAt now :=
  Nat.le_trans (le_elapse r.early now) (Nat.le_add_right _ _)

theorem le_endTime : ∀ (rs : List Round) (now : Nat), now ≤ endTime rs now
  | [], _ => Nat.le_refl _
  | r :: rs, now => Nat.le_trans (Nat.le_trans (r.le_sentAt now) (r.sentAt_le_endAt now)) (le_endTime rs _)

section
variable {o : Outer} (ho : o = .recv ∨ o = .poll) {ka : Nat} (hka : 2 * ROUND_TRIP_TIMEOUT_MS ≤ ka)
include ho hka

theorem round_sends {W : World} {t0 now : Nat} (h : ArmedAt o ka t0 now W) (r : Round) (hr : r.SentOK ka t0 now)
    (hb : r.sentAt now ≤ 4611686018427387904) :
    LegTo o (r.sendDirs o) W 1 (PingedAt o ka (r.sentAt now) (r.sentAt now)) :=
  (h.early hka r.early hr.early (Nat.le_trans (Nat.le_add_right _ _) hb)).seq fun _ h =>
    h.send ho hka r.us r.k1 r.k2 hb hr.due hr.k1 hr.k2

theorem round_answers {W : World} {t now : Nat} (h : PingedAt o ka t now W) (r : Round)
    (hw : AllBefore (t + ROUND_TRIP_TIMEOUT_MS * 1000) now r.wait) (h1 : 1 ≤ r.r1 ∧ r.r1 ≤ 250)
    (h2 : 1 ≤ r.r2 ∧ r.r2 ≤ 250) (hb : elapse now r.wait ≤ 4611686018427387904) :
    LegTo o (r.recvDirs o) W 0 (ArmedAt o ka t (elapse now r.wait)) :=
  (h.early r.wait hw hb).seq fun _ h => h.answer ho hka r.r1 r.r2 h1 h2

theorem round_runs {W : World} {t0 now : Nat} (h : ArmedAt o ka t0 now W) (r : Round) (hr : r.OK ka t0 now)
    (hb : r.endAt now ≤ 4611686018427387904) :
    LegTo o (r.dirs o) W 1 (ArmedAt o ka (r.sentAt now) (r.endAt now)) :=
  (round_sends ho hka h r hr.toSentOK (Nat.le_trans (r.sentAt_le_endAt now) hb)).seq fun _ h =>
    round_answers ho hka h r hr.wait hr.r1 hr.r2 hb

theorem rounds_run : ∀ (rs : List Round) (W : World) (t0 now : Nat),
    ArmedAt o ka t0 now W → SchedOK ka t0 now rs → endTime rs now ≤ 4611686018427387904 →
    LegTo o (schedule o rs) W rs.length (ArmedAt o ka (lastPing t0 rs now) (endTime rs now))
  | [], _, _, _, h, _, _ => ⟨Leg.nil o (Good.of_waiting h.1.idle.still), h⟩
  | r :: rs, _, _, _, h, hok, hb => by
    rw [List.length_cons, Nat.add_comm]
    exact (round_runs ho hka h r hok.1 (Nat.le_trans (le_endTime rs _) hb)).seq fun X hX =>
      rounds_run rs X _ _ hX hok.2 hb

/-- The run up to the end of a round `r` as three legs — the rounds before it, its PINGREQ half, its PINGRESP half
(which ends in `runRounds o (pre ++ [r]) W`: `runRounds_snoc`) —, so that what was sent between any two of these
points is the `Sent` of the legs between them (`Sent.trans`). -/
theorem rounds_each (rs : List Round) (W : World) (t0 : Nat)
    (h : Armed W o ka t0) (hok : SchedOK ka t0 W.now rs) (hb : endTime rs W.now ≤ 4611686018427387904)
    (pre : List Round) (r : Round) (post : List Round) (hsplit : rs = pre ++ r :: post) :
    let Wn := runRounds o pre W
    let tp := lastPing t0 pre W.now
    let C := run (r.sendDirs o) Wn
    LegTo o (schedule o pre) W pre.length (ArmedAt o ka tp (endTime pre W.now)) ∧
    r.OK ka tp Wn.now ∧
    LegTo o (r.sendDirs o) Wn 1 (PingedAt o ka (r.sentAt Wn.now) (r.sentAt Wn.now)) ∧
    LegTo o (r.recvDirs o) C 0 (ArmedAt o ka (r.sentAt Wn.now) (r.endAt Wn.now)) := by
  intro Wn tp C
  subst hsplit
  obtain ⟨hok1, hok2⟩ := (SchedOK_append ka pre (r :: post) t0 W.now).mp hok
  rw [endTime_append] at hb
  have hbr : r.endAt (endTime pre W.now) ≤ 4611686018427387904 := Nat.le_trans (le_endTime post _) hb
  have i := rounds_run ho hka pre W t0 W.now ⟨h, rfl⟩ hok1 (Nat.le_trans (le_endTime (r :: post) _) hb)
  have c := round_sends ho hka i.post r hok2.1.toSentOK (Nat.le_trans (r.sentAt_le_endAt _) hbr)
  rw [show Wn.now = endTime pre W.now from i.post.2]
  exact ⟨i, hok2.1, c, round_answers ho hka c.post r hok2.1.wait hok2.1.r1 hok2.1.r2 hbr⟩

end

theorem pingTimes_length : ∀ (rs : List Round) (now : Nat), (pingTimes rs now).length = rs.length
  | [], _ => rfl
  | r :: rs, now => by show (pingTimes rs _).length + 1 = rs.length + 1; rw [pingTimes_length rs]

theorem pingTimes_append : ∀ (a c : List Round) (now : Nat),
    pingTimes (a ++ c) now = pingTimes a now ++ pingTimes c (endTime a now)
  | [], _, _ => rfl
  | r :: a, c, now => by
    show r.sentAt now :: pingTimes (a ++ c) (r.endAt now) = r.sentAt now :: (pingTimes a (r.endAt now) ++ _)
    rw [pingTimes_append a c]; rfl

theorem pingTimes_at (pre : List Round) (r : Round) (post : List Round) (now : Nat) :
    (pingTimes (pre ++ r :: post) now)[pre.length]? = some (r.sentAt (endTime pre now)) := by
  rw [pingTimes_append, List.getElem?_append_right (by rw [pingTimes_length]; exact Nat.le_refl _), pingTimes_length,
    Nat.sub_self]
  rfl

theorem SchedOK.gap {ka : Nat} (rs : List Round) : ∀ (t0 now : Nat), SchedOK ka t0 now rs →
    ∀ (i : Nat) (hi : i + 1 < (t0 :: pingTimes rs now).length),
      (t0 :: pingTimes rs now)[i]'(Nat.lt_of_succ_lt hi) + (ka - ROUND_TRIP_TIMEOUT_MS) * 1000 ≤
        (t0 :: pingTimes rs now)[i + 1] ∧
      (t0 :: pingTimes rs now)[i + 1] - (t0 :: pingTimes rs now)[i]'(Nat.lt_of_succ_lt hi) ≤ ka * 1000 := by
  induction rs with
  | nil => exact fun _ _ _ _ hi => absurd (Nat.lt_of_succ_lt_succ hi) (Nat.not_lt_zero _)
  | cons r rs ih =>
    intro t0 now h i hi
    cases i with
    | zero => exact ⟨h.1.due, h.1.within⟩
    | succ i => exact ih (r.sentAt now) (r.endAt now) h.2 i (Nat.lt_of_succ_lt_succ hi)

/-- What a `waitRead` suspension holds (for `decide` on concrete worlds: `Pc` has no decidable equality). -/
def waitReadOf : Option Pc → Option (Outer × Option Nat × Bool)
  | some (.waitRead o d y) => some (o, d, y)
  | _ => none

/-- `Armed` from facts that are decidable on a concrete world. -/
theorem Armed.of_checks (W : World) (outer : Outer) (ka t0 : Nat) (ho : outer ≠ .drive)
    (hfut : waitReadOf W.fut = some (outer, W.sess.rt.nextDeadline, true))
    (hlive : W.live = true) (hslot : W.slot = none)
    (hidle : W.sess.data.outbound.nextStep.isNone = true) (hnets : W.nets.isEmpty = false)
    (hctl : W.sess.data.outbound.control.isEmpty = true) (hpt : W.sess.rt.pingTimeout = none)
    (hsz : W.sess.rt.packetTooLarge 2 = false) (hka : W.sess.rt.keepaliveMs = ka)
    (harmed : W.sess.rt.nextPing = W.sess.rt.keepaliveSendInterval.map (fun i => t0 + i * 1000))
    (hrd : W.sess.reader.data = [] ∧ W.sess.reader.packetLength = none ∧ 2 ≤ W.sess.reader.cap)
    (hrx : W.curNet.rx = []) : Armed W outer ka t0 := by
  refine ⟨⟨?_, hpt, hsz, hka, harmed, hrd, hrx⟩,
    ⟨ho, ?_, hlive, hslot, Waiting_fresh _ _ hrd.1 hrd.2.1 (by omega), ?_, ?_⟩⟩
  · cases h : W.sess.data.outbound.control with
    | nil => rfl
    | cons x xs => rw [h] at hctl; cases hctl
  · unfold waitReadOf at hfut
    split at hfut
    · rename_i heq; cases hfut; exact heq
    · cases hfut
  · cases h : W.sess.data.outbound.nextStep with
    | none => rfl
    | some s => rw [h] at hidle; cases hidle
  · intro h; rw [h] at hnets; cases hnets


instance AllBefore.dec : ∀ (d now : Nat) (us : List Nat), Decidable (AllBefore d now us)
  | _, _, [] => isTrue trivial
  | d, now, u :: us =>
    have := AllBefore.dec d (now + u) us
    inferInstanceAs (Decidable (now + u < d ∧ AllBefore d (now + u) us))

instance Round.SentOK.dec (r : Round) (ka t0 now : Nat) : Decidable (r.SentOK ka t0 now) :=
  decidable_of_iff
    (AllBefore (t0 + (ka - ROUND_TRIP_TIMEOUT_MS) * 1000) now r.early ∧
      t0 + (ka - ROUND_TRIP_TIMEOUT_MS) * 1000 ≤ r.sentAt now ∧ r.sentAt now ≤ t0 + ka * 1000 ∧
      (2 ≤ r.k1 ∧ r.k1 ≤ 250) ∧ r.k2 ≤ 250 ∧
      AllBefore (r.sentAt now + ROUND_TRIP_TIMEOUT_MS * 1000) (r.sentAt now) r.wait)
    ⟨fun ⟨a, b, c, d, e, f⟩ => ⟨a, b, c, d, e, f⟩, fun h => ⟨h.early, h.due, h.prompt, h.k1, h.k2, h.wait⟩⟩

instance Round.OK.dec (r : Round) (ka t0 now : Nat) : Decidable (r.OK ka t0 now) :=
  decidable_of_iff (r.SentOK ka t0 now ∧ (1 ≤ r.r1 ∧ r.r1 ≤ 250) ∧ (1 ≤ r.r2 ∧ r.r2 ≤ 250))
    ⟨fun ⟨a, b, c⟩ => ⟨a, b, c⟩, fun h => ⟨h.toSentOK, h.r1, h.r2⟩⟩

instance SchedOK.dec (ka : Nat) : ∀ (t0 now : Nat) (rs : List Round), Decidable (SchedOK ka t0 now rs)
  | _, _, [] => isTrue trivial
  | t0, now, r :: rs =>
    have := SchedOK.dec ka (r.sentAt now) (r.endAt now) rs
    inferInstanceAs (Decidable (r.OK ka t0 now ∧ SchedOK ka (r.sentAt now) (r.endAt now) rs))

end Minimq
