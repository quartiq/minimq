import Minimq.Proofs.ReadMachine
/-
What one POLL does at the write and the flush of `perform_outbound_step`, what `drive_packet` does when it is
entered with a packet in the reader that is not handed to the application, and what the start of `poll()` /
`recv()` / `drive()` does, stated once, for any caller `o` and any decision `k`, with `ev` and `settle`. The
keep-alive and the quiescence proofs take these.
Decisions (`Proofs/IoCalls.lean`): up to 250 bytes move (250 = all that is offered); 251 = the write takes nothing,
the read is at the end of the stream, the flush succeeds; from 252 a transport error.
-/
namespace Minimq
open Gen World Fuel Outbound

/-- **A write decision that takes all that is left of the packet**: the entry moves to `Flush`, the packet is
logged, the flush is pending. -/
theorem d_write_all {W : World} {ctx : StepCtx} {pkt : Flushed} {bytes : Bytes} {wr len now : Nat}
    (h : W.fut = some (.stepWrite ctx pkt bytes wr len now)) {k : Nat} (hk : k ≤ 250)
    (hall : len ≤ wr + wcount k (bytes.drop wr).length) (hnets : W.nets ≠ []) :
    ∃ o, W.execDirective (.d k) =
      { W with sess := W.sess.setWritten pkt (wr + wcount k (bytes.drop wr).length) len,
               fut := some (.stepFlush ctx pkt now),
               nets := W.nets.dropLast ++ [{ W.curNet with wire := W.curNet.wire ++ (bytes.drop wr).take (wcount k (bytes.drop wr).length) }],
               log := W.log ++ [W.doneFrame pkt], out := o, slot := none, wakes := 0, lastIoStarved := false } := by
  apply Exists.intro
  rw [exec_d h]
  simp only [resumeCall]
  rw [ev_DSW, ioWrite_ok _ _ k rfl hk]
  dsimp only
  rw [if_neg (by omega), ev_DSF, ioFlush_none rfl]
  simp only [World.setWritten, World.wrote, World.setCurNet, World.pollBase, World.io, World.suspend, World.emit,
    World.doneFrame, World.curNet]
  rw [if_pos hall, dropLast_concat_length _ _ hnets]

/-- The world in which the drive loop goes on after a completed flush (trace `o`). -/
def World.afterFlushOk (W : World) (pkt : Flushed) (now : Nat) (o : List String) : World :=
  { W with sess := W.sess.completeFlush pkt now, fut := none, out := o, slot := none, wakes := 0, lastIoStarved := false }

/-- **A flush decision** inside `drive_packet`: the entry is `Sent`, the round has advanced, and the loop comes
to rest. -/
theorem d_flush {W : World} {adv : Bool} {o : Outer} {pkt : Flushed} {now : Nat}
    (h : W.fut = some (.stepFlush (.drive adv o) pkt now)) {k : Nat} (hk : k ≤ 251) (hl : W.live = true)
    (hp : W.sess.reader.Probed)
    (ht : ∀ t, (W.sess.completeFlush pkt now).rt.pingTimeout = some t → W.now < t)
    (hq : (W.sess.completeFlush pkt now).queuePing W.now = .ok (W.sess.completeFlush pkt now)) :
    ∃ out, W.execDirective (.d k) = (W.afterFlushOk pkt now out).settle o true := by
  refine ⟨s!"f {W.netIdx} ok @{W.now}" :: W.out, ?_⟩
  rw [exec_d h]
  simp only [resumeCall]
  rw [ev_DSF, ioFlush_ok (k := k) rfl hk]
  dsimp only
  rw [ev_SR]
  simp only [Bool.or_true]
  have e := ev_DAS_settle (w := W.afterFlushOk pkt now (s!"f {W.netIdx} ok @{W.now}" :: W.out)) o hl rfl
    (probed_notAvail hp) (fun _ => hp) (timedOut_false ht) hq
  exact (clearSlot_congr e).trans (settle_clearSlot rfl o true)

/-- **`poll()` / `recv()` / `drive()` is called** on a live handle with no decision at hand: whatever was
suspended is dropped, `service` queues a PINGREQ if one is due (`s`), and the operation comes to rest. -/
theorem exec_drive_settle {W : World} {s : Session} (d : Directive) (o : Outer) (hd : d.outer = some o)
    (hl : W.live = true) (hs : W.slot = none) (hna : W.sess.reader.packetAvailable = false)
    (hp : s.data.outbound.nextStep = none → W.sess.reader.Probed)
    (ht : ∀ t, W.sess.rt.pingTimeout = some t → W.now < t) (hq : W.sess.queuePing W.now = .ok s) :
    W.execDirective d = ({ W.opStart with sess := s } : World).settle o false := by
  have hsl : W.opStart.slot = none := (cancelFut_slot W).trans hs
  have hse : W.opStart.sess = W.sess ∧ W.opStart.now = W.now ∧ W.opStart.conn = W.conn := by
    unfold World.opStart World.cancelFut; split <;> exact ⟨rfl, rfl, rfl⟩
  have hl' : W.opStart.live = true := (live_of_conn hse.2.2).trans hl
  rw [exec_drive (World.conn_of_live hl) d o hd, ev_DE_live hl',
    ev_DL_settle (s := s) o false hl' hsl (by rw [hse.1]; exact hna) (by rw [hse.1]; exact hp)
      (timedOut_false (by rw [hse.1, hse.2.1]; exact ht)) (by rw [hse.1, hse.2.1]; exact hq)]

theorem prp_handled {X : World} {R : Reader} {pkt : Bytes} {p : Recv} (hr : X.sess.reader = R.packetOf pkt)
    (hp : fromBuffer pkt = some p) (hres : ((Quiesce.took X.sess pkt).handle p).2 = .ok false) :
    X.processReceivedPacket = ({ X with sess := ((Quiesce.took X.sess pkt).handle p).1 }, .ok none) := by
  have hav : X.sess.reader.packetAvailable = true := hr ▸ packetOf_available R pkt
  unfold World.processReceivedPacket
  rw [hav, takePkt_packetOf hr, hp]
  simp only [Bool.not_true, Bool.false_eq_true, if_false, Option.map_some]
  cases hh : (Quiesce.took X.sess pkt).handle p with
  | mk s2 r =>
    rw [hh] at hres
    simp only [] at hres
    subst hres
    rfl

/-- **`drive_packet` entered with a packet in the reader that `handle_packet` does not hand to the application**
(an acknowledgement, a PINGRESP): it is handled, the round has advanced, `service` runs (`s`), and the loop comes
to rest. -/
theorem ev_DE_handled {X : World} {R : Reader} {pkt : Bytes} {p : Recv} (o : Outer) (hr : X.sess.reader = R.packetOf pkt)
    (hp : fromBuffer pkt = some p) (hres : ((Quiesce.took X.sess pkt).handle p).2 = .ok false)
    (hl : X.live = true) (hs : X.slot = none) (hcap : 1 ≤ X.sess.reader.cap) {s : Session}
    (ht : ∀ t, ((Quiesce.took X.sess pkt).handle p).1.rt.pingTimeout = some t → X.now < t)
    (hq : ((Quiesce.took X.sess pkt).handle p).1.queuePing X.now = .ok s) :
    ev (.DE X o) = ({ X with sess := s } : World).settle o true := by
  rw [ev_DE_live hl, ev_DL, if_pos (hr ▸ packetOf_available R pkt :),
    prp_handled hr hp hres]
  have hw := Waiting_fresh (Quiesce.took X.sess pkt).reader ([] : Bytes) rfl rfl hcap
  exact ev_DL_settle (w := { X with sess := ((Quiesce.took X.sess pkt).handle p).1 }) o true hl hs
    (by rw [handle_reader]; exact hw.notAvail) (fun _ => by rw [handle_reader]; exact hw.win) (timedOut_false ht) hq

end Minimq
