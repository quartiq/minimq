import Minimq.Proofs.Exchange
import Minimq.Theorems.C17
/-
C02 — an accepted QoS 1 publish is never lost: kept until its PUBACK, replayed on each resume.

An accepted request (QoS 1/2 PUBLISH, SUBSCRIBE, UNSUBSCRIBE) is an entry of `Outbound.retained`; the
ghost serial `ser` names it across the execution. The theorems below are about all retained packets;
a QoS 1 PUBLISH is one whose first byte satisfies `AckKind.pubAck.acknowledges` (type 3, QoS bits 01).

The statements are about the session. That no retained packet is handed to the transport twice on one connection
is `C02_at_most_once_on_every_connection` (`Theorems/C02Wire.lean`), which rests on the facts about the scheduler
and the send states below.
-/
namespace Minimq
open Gen Outbound World

/-- **Which retained packet an inbound packet removes.** None unless the packet is a SUBACK, UNSUBACK,
PUBACK or PUBREC (`Recv.ackOf`); then `removeFirst` of the entries whose identifier equals the
acknowledged one and whose first byte is of the acknowledged kind. All other entries keep serial,
identifier, length, send state and order. -/
theorem C02_which_packet_is_removed (d : SessionData) (r : Runtime) (p : Recv) :
    (handlePacket d r p).1.outbound.keys =
      match p.ackOf with
      | none => d.outbound.keys
      | some (id, k) => (removeFirst (ackPred d.outbound id k) d.outbound.retained).map RetainedPacket.key :=
  (handlePacket_frame d r p).keys

/-- `removeFirst` removes nothing if no entry matches and otherwise exactly the first matching entry. -/
theorem C02_removeFirst (o : Outbound) (id : Nat) (k : AckKind) :
    (o.retained.any (ackPred o id k) = false → removeFirst (ackPred o id k) o.retained = o.retained) ∧
    (o.retained.any (ackPred o id k) = true →
      ∃ l₁ e l₂, o.retained = l₁ ++ e :: l₂ ∧ (∀ x ∈ l₁, ackPred o id k x = false) ∧ e.id = id ∧
        k.acknowledges (o.headerAt e.offset) = true ∧ removeFirst (ackPred o id k) o.retained = l₁ ++ l₂) := by
  refine ⟨removeFirst_none, fun h => ?_⟩
  obtain ⟨l₁, e, l₂, e1, e2, e3, e4⟩ := removeFirst_split h
  simp only [ackPred, Bool.and_eq_true, beq_iff_eq] at e3
  exact ⟨l₁, e, l₂, e1, e2, e3.1, e3.2, e4⟩

/-- **Every primitive step** (`SessStep`: one constructor per way the operations change the session)
either loses nothing — the list of retained serials keeps its order and at most grows at the end
(`NoLoss`) — or is the handling of an acknowledgement that found its packet, or is the CONNACK of a fresh
broker session. -/
theorem C02_step_keeps_or_acks {s s' : Session} (st : SessStep s s') :
    NoLoss s.data.outbound s'.data.outbound ∨
    (∃ p id k, s' = (s.handle p).1 ∧ p.ackOf = some (id, k) ∧ s.data.awaits id k = true) ∨
    (∃ block now, s' = (s.activate false block now).1) :=
  st.noLoss

/-- If a step removes the retained packet with serial `ser`, the step is the handling of an
acknowledgement whose identifier is that packet's and whose kind matches its first byte — and the
packet was the first such entry — or the CONNACK of a fresh broker session (`Removal`). -/
theorem C02_step_loss {s s' : Session} (st : SessStep s s') {ser : Nat}
    (h1 : ser ∈ s.data.outbound.sers) (h2 : ser ∉ s'.data.outbound.sers) : Removal s s' ser :=
  st.loss h1 h2

/-- **Every execution is a chain of primitive steps**: from any world, for any program (API calls, I/O
decisions, inbound bytes, ticks, cancellations, drops, reconnects), the final session is reached from
the initial one by `SessStep`s, and any closed predicate that holds at the start holds after each. -/
theorem C02_every_program_is_a_chain_of_steps {I : Session → Prop} (hI : Closed I) (w : World) (ds : List Directive)
    (h : I w.sess) : Reach I w.sess (ds.foldl World.execDirective w).sess :=
  run_reach hI ds w h

/-- **Never lost.** In every execution, a packet retained at the start that is no longer retained at the
end was removed by one identifiable step: the handling of the acknowledgement for its identifier and
kind, or the CONNACK of a fresh broker session. Before that step it was retained (`ser ∈ a…sers`). -/
theorem C02_lost_only_by_ack_or_fresh_session {I : Session → Prop} (hI : Closed I) (w : World) (ds : List Directive)
    (h : I w.sess) {ser : Nat} (h1 : ser ∈ w.sess.data.outbound.sers)
    (h2 : ser ∉ (ds.foldl World.execDirective w).sess.data.outbound.sers) :
    ∃ a b, Reach I w.sess a ∧ SessStep a b ∧ Reach I b (ds.foldl World.execDirective w).sess ∧
      ser ∈ a.data.outbound.sers ∧ Removal a b ser :=
  (run_reach hI ds w h).first_change (P := fun s => ser ∈ s.data.outbound.sers) h1 h2 fun st => st.loss

/-- Meant as the contrapositive for one chain without such steps (no step of the chain handles an
acknowledgement that finds a packet, none is a fresh-session CONNACK: then every retained packet is still
retained, in order). As stated, `hq` asks `NoLoss` of every `SessStep` between any two sessions, not of
the steps of the chain `h`, and no such `hq` exists: handling a PUBACK that finds its packet is a step
that loses it. The usable statement is `C02_lost_only_by_ack_or_fresh_session`. -/
theorem C02_kept_along_quiet_chain {I : Session → Prop} {s0 s : Session} (h : Reach I s0 s)
    (hq : ∀ a b, SessStep a b → NoLoss a.data.outbound b.data.outbound) :
    NoLoss s0.data.outbound s.data.outbound := by
  induction h with
  | refl => exact NoLoss.refl _
  | tail _ st _ ih => exact ih.trans (hq _ _ st)

/-- `complete_flush` of a retained packet marks the first entry with that identifier `.sent` and changes
nothing else (under `IdInv` it is the only entry with that identifier). -/
theorem C02_flush_marks_sent (s : Session) (id now : Nat) (h : s.data.outbound.hasRetained id = true) :
    (s.completeFlush (.retained id) now).data.outbound = s.data.outbound.flushRetained id ∧
    ∃ l₁ e l₂, s.data.outbound.retained = l₁ ++ e :: l₂ ∧ (∀ x ∈ l₁, x.id ≠ id) ∧ e.id = id ∧
      (s.data.outbound.flushRetained id).retained = l₁ ++ { e with state := .sent } :: l₂ :=
  ⟨rfl, modifyFirst_split_key RetainedPacket.id id _ h⟩

/-- `next_step` never offers an entry in state `.sent`: a packet that has been flushed is not written
again on this connection. -/
theorem C02_sent_not_offered {o : Outbound} {st : Outbound.Step} (h : o.nextStep = some st) : st.state ≠ .sent :=
  nextStep_not_sent o st h

/-- `set_written` for a retained packet touches only the *first entry with that identifier*, whose state
becomes `afterWrite written len`, and nothing when there is none. (The scheduler offers no `.sent` entry,
`C02_sent_not_offered`, so the send path takes no entry out of `.sent`; `arm_replay` does.) -/
theorem C02_setWritten_touches_one (o : Outbound) (id written len : Nat) :
    (o.hasRetained id = false → (o.setRetainedWritten id written len).retained = o.retained) ∧
    (o.hasRetained id = true → ∃ l₁ e l₂, o.retained = l₁ ++ e :: l₂ ∧ (∀ x ∈ l₁, x.id ≠ id) ∧ e.id = id ∧
      (o.setRetainedWritten id written len).retained =
        l₁ ++ { e with state := SendState.afterWrite written len } :: l₂) :=
  ⟨fun h => modifyFirst_none _ h, fun h => modifyFirst_split_key RetainedPacket.id id _ h⟩

/-- **Replay**: `arm_replay` (every disconnect, every connect) makes every retained entry fresh again
and keeps identifier, offset, length, serial and order; in the arena it sets the DUP bit of the first
byte of each retained packet and changes nothing else in them (`setDup`). -/
theorem C02_replay (o : Outbound) (h : o.ArenaInv) :
    o.armReplay.retained = o.retained.map (fun e => { e with state := .write 0 }) ∧
    (o.armReplay.contents = o.contents.map setDup ∨ (o.armReplay = o ∧ o.retained = [])) ∧
    o.armReplay.ArenaInv :=
  ⟨(armReplay_queues o).1, (armReplay_spec o h).2.1, (armReplay_spec o h).1⟩

/-- After `arm_replay` the next thing offered is the head of the control queue, else the head of the
release queue, else the OLDEST retained packet, from its first byte. -/
theorem C02_replay_starts_with_oldest (o : Outbound) :
    o.armReplay.nextStep =
      match o.control, o.release, o.retained with
      | c :: _, _, _ => some (.control c.action (.write 0))
      | [], x :: _, _ => some (.release x.id x.rc (.write 0))
      | [], [], e :: _ => some (.retained e.id e.offset e.len (.write 0))
      | [], [], [] => none :=
  armReplay_nextStep o

/-- **List order**: when `next_step` offers a retained packet it is the FIRST entry of the retained list
in the wanted send state (in progress, else fresh), and no control or release entry is in that state. -/
theorem C02_first_fresh_first {o : Outbound} {ip : Bool} {id off len : Nat} {st : SendState}
    (h : o.nextStepPrio ip = some (.retained id off len st)) :
    (∀ c ∈ o.control, c.state.matchesPriority ip = false) ∧ (∀ x ∈ o.release, x.state.matchesPriority ip = false) ∧
    ∃ l₁ e l₂, o.retained = l₁ ++ e :: l₂ ∧ (∀ x ∈ l₁, x.state.matchesPriority ip = false) ∧
      e.id = id ∧ e.offset = off ∧ e.len = len ∧ e.state = st ∧ st.matchesPriority ip = true :=
  nextStepPrio_retained h

/-- What is transmitted for an offered retained packet: the bytes `slice buf off len` of the arena. -/
theorem C02_transmits_arena_bytes (w : World) (id off len written : Nat) :
    w.prepareStep (.retained id off len (.write written)) =
      if w.sess.rt.packetTooLarge len then .fail .packetTooLarge
      else .write (.retained id) (slice w.sess.data.outbound.buf off len) written len := rfl

/-- **List order is acceptance order**: in every state reachable from a state satisfying the arena
invariants, the serials of the retained list are strictly increasing — a packet accepted earlier stands
before one accepted later — and new packets are appended at the end (`C02_step_keeps_or_acks`). -/
theorem C02_order_is_acceptance_order (w : World) (ds : List Directive)
    (h : w.sess.data.outbound.ArenaInv ∧ w.sess.data.outbound.SerInv) :
    ((ds.foldl World.execDirective w).sess.data.outbound.sers).Pairwise (· < ·) :=
  (C17_all_programs_from w ds h).1.2.inc

/-- A PUBACK whose identifier is not retained, or whose retained packet is not a QoS 1 PUBLISH, changes
nothing at all. -/
theorem C02_stale_puback_ignored (d : SessionData) (r : Runtime) (id : Nat) (rs : ReasonIn)
    (h : d.awaits id .pubAck = false) : handlePacket d r (.pubAck id rs) = (d, r, .ok false) := by
  rw [handlePacket_pubAck]; simp [h]

/-- A stale acknowledgement at the level of `ack_packet`: nothing found, the outbound state returned as it was. -/
theorem C02_ackPacket_not_found (o : Outbound) (id : Nat) (k : AckKind)
    (h : o.retained.any (ackPred o id k) = false) : o.ackPacket id k = (o, false) := by
  rw [ackPacket_eq, h]; rfl

/-- A matching PUBACK removes the packet, gives the send quota back, reports a failure code as a
rejection — and, identifiers in flight being distinct (`IdInv`, which holds in every reachable state,
`C07`), the identifier is afterwards held by no retained packet and no release entry: nothing is left to
retransmit for it. -/
theorem C02_puback_frees_identifier (d : SessionData) (r : Runtime) (id : Nat) (rs : ReasonIn)
    (hinv : d.IdInv) (h : d.awaits id .pubAck = true) :
    handlePacket d r (.pubAck id rs) =
      (d.acked id .pubAck, quotaInc r, if reasonSuccess rs.rc then .ok false else .error (.peerRejected rs.rc)) ∧
    (d.acked id .pubAck).outbound.hasRetained id = false ∧
    (d.acked id .pubAck).outbound.hasPendingRelease id = false := by
  refine ⟨by rw [handlePacket_pubAck]; simp [h], (acked_free hinv h).1, (acked_free hinv h).2.1⟩

def C02_rt : Runtime := { keepaliveMs := 0, configuredKeepaliveMs := 0 }

/-- A QoS 1 PUBLISH (first byte 0x32) with identifier 5 and a SUBSCRIBE (0x82) with identifier 6, both
already sent on the current connection. -/
def C02_ex : SessionData :=
  { outbound := { (Outbound.new 16) with
      buf := [0x32, 5, 0, 1, 0x61, 0, 5, 0, 0x82, 3, 0, 6, 0, 0, 0, 0], used := 13, nextSer := 2,
      retained := [{ id := 5, offset := 0, len := 7, state := .sent, ser := 0 },
                   { id := 6, offset := 8, len := 5, state := .sent, ser := 1 }] } }

/-- Non-vacuity: PUBACK(5) removes serial 0 and only it; PUBACK(6) (a SUBSCRIBE is retained under 6) and
SUBACK(5) change nothing; nothing is offered while both are `.sent`; after `arm_replay` the PUBLISH is
offered first, and its first byte has DUP set. -/
example :
    C02_ex.awaits 5 .pubAck = true ∧ C02_ex.awaits 6 .pubAck = false ∧
    (handlePacket C02_ex C02_rt (.pubAck 5 { code := none, props := none })).1.outbound.sers = [1] ∧
    (handlePacket C02_ex C02_rt (.pubAck 6 { code := none, props := none })).1.outbound.sers = [0, 1] ∧
    (handlePacket C02_ex C02_rt (.subAck 5 [] [0])).1.outbound.sers = [0, 1] ∧
    C02_ex.outbound.nextStep = none ∧
    C02_ex.outbound.armReplay.nextStep = some (.retained 5 0 7 (.write 0)) ∧
    slice C02_ex.outbound.armReplay.buf 0 7 = [0x3a, 5, 0, 1, 0x61, 0, 5] := by
  refine ⟨by decide, by decide, by decide, by decide, by decide, by decide, by decide, by decide⟩

/-- The example state satisfies the invariants used as hypotheses above, and so does every new session;
`Closed` predicates to instantiate `I` with: `closed_IdInv`, `closed_ArenaP`, `closed_true`. -/
example : C02_ex.outbound.ArenaInv ∧ C02_ex.outbound.SerInv ∧ C02_ex.IdInv := by
  exact ⟨⟨by simp [C02_ex, Sorted], by decide, by decide, by decide⟩, ⟨by decide, by decide⟩,
    ⟨⟨by decide, by decide, by decide, by decide⟩, by decide⟩⟩

example (cfg : Cfg) : (Session.new cfg).data.outbound.ArenaInv ∧ (Session.new cfg).data.outbound.SerInv ∧
    Closed (fun s => s.data.IdInv) ∧ (Session.new cfg).data.IdInv :=
  ⟨ArenaInv_new cfg.tx, SerInv_new cfg.tx, closed_IdInv, IdInv_init cfg.tx⟩

end Minimq
