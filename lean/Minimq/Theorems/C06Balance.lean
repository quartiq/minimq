import Minimq.Theorems.C16Setting
/-
C06 / C16 — the send-quota books balance.

`C06_window_partial` (the lifted invariant `QuotaP`) says that `send_quota` plus the number of QoS 1/2
exchanges in flight (`inflight_publishes`: retained PUBLISH packets plus release entries) is AT MOST
`max_send_quota`. Here: on a live connection it is EQUAL — no slot of the broker's Receive Maximum is ever
lost (a lost slot would be a leak that blocks publishing for ever once enough have leaked) and none is
counted twice (which would let the window be exceeded). `C16Q_bounded_quiescence` has this as a
hypothesis (`quotaEq` in `Setting`, `Setting'`, `SettingQ`); the versions below do without.

Hypotheses, and why each is needed:
* `live`: while the handle is dead the books can be off — a CONNACK that announced a fresh session, reset
  the queues and was then rejected for its properties (F19) leaves the old `send_quota` beside empty queues
  (`C06_balance_needs_live`, confirmed on the crate: `q=7/8` with nothing in flight). The next accepted CONNACK
  recomputes `send_quota`, so this does no harm.
* `deficit = false`: finding F5c — a CONNACK with session present whose Receive Maximum is below the number of
  publishes to replay sets `send_quota = 0` by saturating subtraction (`C06_balance_needs_no_deficit`).
Nothing else is needed: no assumption on the broker's packets (failure codes, unknown identifiers, duplicates),
on I/O decisions, cancellations, drops, `setpid`, QoS downgrade, or publishes that fail half-way.

The one step that unbalances the books on a live handle — a PUBREC with a success code whose PUBREL is over
the broker's Maximum Packet Size (below 5): the PUBLISH is removed, no release entry is made, nothing is
returned — fails with `Resource.PacketTooLarge`, and `process_received_packet` ends the connection before it
returns. The lifting used here (`live_runH`, `Proofs/LiftWorld.lean`) therefore looks at `handle_packet` together with
the `handle_disconnect` that follows a fatal result.
-/
namespace Minimq
open Gen World Fuel Outbound Quiesce

/-- **The books balance.** After any program — API calls, I/O decisions, inbound bytes of any kind, ticks,
cancellations, drops, reconnects —, if the connection handle is live and the last accepted CONNACK did not
announce a Receive Maximum below the number of publishes to replay (`deficit` clear; else F5c), then
`send_quota + inflight_publishes = max_send_quota`: every slot of the window is either free or taken by
exactly one unresolved QoS 1/2 exchange. -/
theorem C06_quota_books_balance (cfg : Cfg) (ds : List Directive) :
    let w := ds.foldl World.execDirective { sess := Session.new cfg }
    w.live = true → w.sess.rt.deficit = false →
    w.sess.rt.sendQuota + w.sess.data.outbound.inflightPublishes = w.sess.rt.maxSendQuota :=
  fun hl hd => ((produced cfg ds).bal hl).2 hd

/-- `C06_quota_books_balance` for a world that a program produced (`Produced`), together with the bound on the maximum: on a
live handle `max_send_quota ≤ 8`, whatever `deficit` says. -/
theorem C06_quota_books_balance_produced (w : World) (hprog : Produced w) (hl : w.live = true) :
    w.sess.rt.maxSendQuota ≤ maxInflight ∧
    (w.sess.rt.deficit = false →
      w.sess.rt.sendQuota + w.sess.data.outbound.inflightPublishes = w.sess.rt.maxSendQuota) :=
  hprog.bal hl

/-- **No slot leaks**: whenever the session is quiescent (nothing retained, nothing to release, no
acknowledgement owed) on a live handle with `deficit` clear, the whole window is available again. -/
theorem C06_idle_quota_is_full (cfg : Cfg) (ds : List Directive) :
    let w := ds.foldl World.execDirective { sess := Session.new cfg }
    w.live = true → w.sess.rt.deficit = false → w.sess.data.outbound.isQuiescent = true →
    w.sess.rt.sendQuota = w.sess.rt.maxSendQuota :=
  fun hl hd hq => quota_restored _ (C06_quota_books_balance cfg ds hl hd) hq

/-- **A publish is refused for lack of quota only when the window is really full**: live, `deficit` clear and
`send_quota = 0` mean that `max_send_quota` exchanges are unresolved. -/
theorem C06_quota_zero_iff_window_full (cfg : Cfg) (ds : List Directive) :
    let w := ds.foldl World.execDirective { sess := Session.new cfg }
    w.live = true → w.sess.rt.deficit = false →
    (w.sess.rt.sendQuota = 0 ↔ w.sess.data.outbound.inflightPublishes = w.sess.rt.maxSendQuota) := by
  intro w hl hd
  have hb : w.sess.rt.sendQuota + w.sess.data.outbound.inflightPublishes = w.sess.rt.maxSendQuota :=
    C06_quota_books_balance cfg ds hl hd
  constructor <;> intro h <;> omega

/-- One step, for the record: what every inbound packet does to the books — they stay balanced, or
`handle_packet` fails with one of the three errors after which `process_received_packet` ends the connection
(`Disconnected`, `Peer.InvalidPacket`, `Resource.PacketTooLarge`). -/
theorem C06_inbound_keeps_books (d : SessionData) (r : Runtime) (p : Recv) (ha : d.outbound.ArenaInv)
    (hm : r.maxSendQuota ≤ maxInflight)
    (hb : r.deficit = false → r.sendQuota + d.outbound.inflightPublishes = r.maxSendQuota) :
    ((handlePacket d r p).2.1.deficit = false →
      (handlePacket d r p).2.1.sendQuota + (handlePacket d r p).1.outbound.inflightPublishes =
        (handlePacket d r p).2.1.maxSendQuota) ∨
    HandleFatal (handlePacket d r p).2.2 := by
  rcases handlePacket_bal d r p ha ⟨hm, hb⟩ with h | h
  · exact Or.inl h.2
  · exact Or.inr h


/-- **Bounded quiescence without the hypothesis `quotaEq`.** Let a program have produced `w`, in the setting `Setting'' w`:
live, no I/O decision left over, no keep-alive traffic, nothing over the broker's size limit (F14), `deficit`
clear (F5c), retained packets of the kinds the broker answers, six bytes of receive buffer, reader at a packet
boundary, broker up to date — the balance of the quota books is not asked for: it follows
(`C06_quota_books_balance`). Then there is `n ≤ mu ≤ 1 + 2·|retained| + |release|` such that after `n` rounds
the session is quiescent and stays so, every handle that was pending reports `complete`, the send quota is
back at its maximum, and the world is one a program produced. -/
theorem C16Q_bounded_quiescence'' (w : World) (hprog : Produced w) (hs : Setting'' w) :
    ∃ n, n ≤ mu w.sess.data.outbound ∧
      n ≤ 1 + 2 * w.sess.data.outbound.retained.length + w.sess.data.outbound.release.length ∧
      (rounds n w).sess.data.outbound.isQuiescent = true ∧
      (∀ m, (rounds m (rounds n w)).sess.data.outbound.isQuiescent = true) ∧
      (∀ op, w.sess.data.status op = .pending → (rounds n w).sess.data.status op = .complete) ∧
      (rounds n w).sess.rt.sendQuota = (rounds n w).sess.rt.maxSendQuota ∧
      Produced (rounds n w) ∧ Ready (rounds n w) :=
  C16Q_bounded_quiescence' w hprog (setting'_of w hprog hs)

/-- **Bounded quiescence for programs with QoS 0, 1, 2, without the hypothesis `quotaEq`**: from `SettingQ' w` — live; no
I/O decision left over; no keep-alive traffic; nothing over the broker's size limit (F14); `deficit` clear
(F5c); six bytes of receive buffer, reader at a packet boundary; broker up to date. -/
theorem C16Q_bounded_quiescence_qos' (w : World) (hprog : ProducedQ w) (hs : SettingQ' w) :
    ∃ n, n ≤ mu w.sess.data.outbound ∧
      n ≤ 1 + 2 * w.sess.data.outbound.retained.length + w.sess.data.outbound.release.length ∧
      (rounds n w).sess.data.outbound.isQuiescent = true ∧
      (∀ m, (rounds m (rounds n w)).sess.data.outbound.isQuiescent = true) ∧
      (∀ op, w.sess.data.status op = .pending → (rounds n w).sess.data.status op = .complete) ∧
      (rounds n w).sess.rt.sendQuota = (rounds n w).sess.rt.maxSendQuota ∧
      Produced (rounds n w) ∧ Ready (rounds n w) :=
  C16Q_bounded_quiescence_qos w hprog (settingQ_of w hprog.produced hs)


/-- The first concrete world of `Theorems/C16Quiesce.lean` (a QoS 2 exchange in its PUBREL phase, a QoS 1
publish sent, a second one half-written): live, `deficit` clear, three exchanges in flight, five slots free,
window 8. -/
example :
    C16Q_w.live = true ∧ C16Q_w.sess.rt.deficit = false ∧ C16Q_w.sess.rt.sendQuota = 5 ∧
    C16Q_w.sess.data.outbound.inflightPublishes = 3 ∧ C16Q_w.sess.rt.maxSendQuota = 8 := by
  obtain ⟨_, _, _, h, _⟩ := C16Q_w_facts
  exact h

/-- `C06_quota_books_balance_produced` applies to `C16Q_w`. -/
example : C16Q_w.sess.rt.sendQuota + C16Q_w.sess.data.outbound.inflightPublishes = C16Q_w.sess.rt.maxSendQuota := by
  obtain ⟨_, _, _, ⟨hl, hd, _⟩, _⟩ := C16Q_w_facts
  exact (C06_quota_books_balance_produced C16Q_w C16Q_w_produced hl).2 hd

/-- The second concrete world of `Theorems/C16Quiesce.lean` (everything re-armed after a reconnect with session present: one release entry, a QoS 1 and
a QoS 2 PUBLISH and a SUBSCRIBE retained): the accepted CONNACK counted the three exchanges to replay. -/
example :
    C16Q_w2.live = true ∧ C16Q_w2.sess.rt.deficit = false ∧ C16Q_w2.sess.rt.sendQuota = 5 ∧
    C16Q_w2.sess.data.outbound.inflightPublishes = 3 ∧ C16Q_w2.sess.data.outbound.retained.length = 3 ∧
    C16Q_w2.sess.rt.maxSendQuota = 8 := by
  obtain ⟨_, _, h⟩ := C16Q_w2_facts
  exact h

/-- A PUBREC with a failure code (0x80) for a QoS 2 publish: the exchange is over, the slot is returned at
once; PUBACK for an identifier that is not in flight (9): nothing happens. Window 2 (Receive Maximum 2). -/
def C06B_prog : List Directive :=
  [.connect, .rx [0x20, 0x06, 0x00, 0x00, 0x03, 0x21, 0x00, 0x02], .go,
   C16Q_pub 2 0x74 0x70, .go, C16Q_pub 1 0x75 0x71, .go,
   .rx [0x50, 0x03, 0x00, 0x01, 0x80, 0x40, 0x02, 0x00, 0x09], .poll, .go, .poll, .go]

example :
    let w := C06B_prog.foldl World.execDirective { sess := Session.new C16Q_cfg }
    w.live = true ∧ w.sess.rt.deficit = false ∧ w.out.head? = some "ret poll ok none @0" ∧
    w.sess.rt.sendQuota = 1 ∧ w.sess.data.outbound.inflightPublishes = 1 ∧ w.sess.rt.maxSendQuota = 2 := by
  decide +kernel

/-- `Setting''` and `SettingQ'` hold of the first concrete world, and the theorems from them apply to it. -/
example : Setting'' C16Q_w := C16Q_w_setting.reduce.dropQuota
example : SettingQ' C16Q_w := C16Q_w_setting.reduce.dropKinds.dropQuota

example : ∃ n, n ≤ 4 ∧ (rounds n C16Q_w).sess.data.outbound.isQuiescent = true ∧
    (rounds n C16Q_w).sess.rt.sendQuota = (rounds n C16Q_w).sess.rt.maxSendQuota := by
  obtain ⟨n, hn, _, hq, _, _, hquota, _⟩ :=
    C16Q_bounded_quiescence_qos' C16Q_w C16Q_w_producedQ C16Q_w_setting.reduce.dropKinds.dropQuota
  exact ⟨n, C16Q_w_mu ▸ hn, hq, hquota⟩


/-- Connected; a QoS 1 publish sent (quota 7 of 8); the connection is dropped; `connect` again, and the broker
answers CONNACK with session present = 0 and Receive Maximum 0 — a protocol error: the client has already
reset the session for the fresh broker session when it rejects the packet (F19). -/
def C06B_progDead : List Directive :=
  [.connect, .rx [0x20, 0x03, 0x00, 0x00, 0x00], .go, C16Q_pub 1 0x74 0x70, .go,
   .drop, .connect, .rx [0x20, 0x06, 0x00, 0x00, 0x03, 0x21, 0x00, 0x00], .go]

/-- **`live` is needed.** The handle is dead, `deficit` is clear, nothing is in flight, and `send_quota` is 7
of 8. (The harness shows the same on the crate: `s live=- … ret=- rel=- … q=7/8`.) The next accepted CONNACK
sets it right: 8 of 8. -/
theorem C06_balance_needs_live :
    let w := C06B_progDead.foldl World.execDirective { sess := Session.new C16Q_cfg }
    let w' := [Directive.connect, .rx [0x20, 0x03, 0x00, 0x00, 0x00], .go].foldl World.execDirective w
    w.live = false ∧ w.sess.rt.deficit = false ∧ w.sess.data.halfReset = true ∧
    w.sess.rt.sendQuota + w.sess.data.outbound.inflightPublishes ≠ w.sess.rt.maxSendQuota ∧
    w.sess.rt.sendQuota = 7 ∧ w.sess.data.outbound.inflightPublishes = 0 ∧ w.sess.rt.maxSendQuota = 8 ∧
    w'.live = true ∧ w'.sess.rt.sendQuota = 8 ∧ w'.sess.rt.maxSendQuota = 8 := by
  decide +kernel

/-- **`deficit = false` is needed** (F5c): three QoS 1 publishes unacknowledged, reconnect with session
present and Receive Maximum 2 (`C06Wire_progF5c` without the final `poll`): live, `send_quota` 0, three in
flight, window 2. -/
theorem C06_balance_needs_no_deficit :
    let w := [Directive.connect, .rx [0x20, 0x03, 0x00, 0x00, 0x00], .go,
      C16Q_pub 1 0x74 0x70, .go, C16Q_pub 1 0x75 0x71, .go, C16Q_pub 1 0x76 0x72, .go,
      .drop, .connect, .rx [0x20, 0x06, 0x01, 0x00, 0x03, 0x21, 0x00, 0x02], .go].foldl
        World.execDirective { sess := Session.new C16Q_cfg }
    w.live = true ∧ w.sess.rt.deficit = true ∧
    w.sess.rt.sendQuota + w.sess.data.outbound.inflightPublishes ≠ w.sess.rt.maxSendQuota ∧
    w.sess.rt.sendQuota = 0 ∧ w.sess.data.outbound.inflightPublishes = 3 ∧ w.sess.rt.maxSendQuota = 2 := by
  decide +kernel

/-- The step that unbalances the books, in isolation: Maximum Packet Size 4, a retained QoS 2 PUBLISH
(identifier 1), quota 7 of 8; PUBREC(1, Success) removes the PUBLISH, makes no release entry, returns nothing,
and fails with `Resource.PacketTooLarge` — which ends the connection. -/
example :
    let o : Outbound := { (Outbound.new 32) with
      buf := [0x34, 0, 0] ++ List.replicate 29 0, used := 3, nextSer := 1,
      retained := [{ id := 1, offset := 0, len := 3, state := .sent, ser := 0 }] }
    let r : Runtime := { keepaliveMs := 0, configuredKeepaliveMs := 0, sendQuota := 7, maxSendQuota := 8,
                         maximumPacketSize := some 4 }
    let res := handlePacket { outbound := o } r (.pubRec 1 { code := none, props := none })
    r.sendQuota + o.inflightPublishes = r.maxSendQuota ∧
    (match res.2.2 with | .error .packetTooLarge => true | _ => false) = true ∧ res.2.1.sendQuota = 7 ∧ res.1.outbound.inflightPublishes = 0 := by
  decide +kernel

end Minimq
