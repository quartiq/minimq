import Minimq.Theorems.C15Machine
import Minimq.Proofs.ReaderReach
/-
C15, read half, for the machine — the reader hypothesis `Waiting` of `Theorems/C15Machine.lean` is
discharged for every world a program produces.

`Waiting r rx` says nothing about `rx` (`C15M_waiting_iff`): its field `inv : RInv r (r.data ++ rx)` mentions the
stream only through `fixedHeader (r.data ++ rx) = .complete hl l` for a known length `l`, and the field `known`
already puts that header inside `r.data`; so an arbitrary (malformed, truncated, empty) broker script `rx` is
fine. Its two halves hold where they are needed (`C15M_known_length_reachable`, `C15M_probed_at_suspension`)
with NO side condition: not `W.live = true`, and not `W.nets.length ∉ W.tornNets` (the route through the wire
invariant `WInv` of `Proofs/WireTop.lean`, whose `ReadOK` clause contains the window fact, would need the
transport to be untorn, because `WInv.cur` says nothing about a torn transport; what the walk over the thirteen
machine functions says of every suspension, `Fuel.Halt.susp`, does not look at the wire). The consumer theorems
of `C15Machine.lean` are then restated for reachable worlds, without any reader hypothesis (`Admissible'` =
`Admissible` minus `Waiting`).
-/
namespace Minimq
open Gen World

/-- **`Waiting` is a property of the reader alone**: it holds for one continuation of the inbound
stream iff it holds for any other. -/
theorem C15M_waiting_rx_free (r : Reader) (rx rx' : Bytes) : Waiting r rx ↔ Waiting r rx' :=
  (waiting_iff r rx).trans (waiting_iff r rx').symm

/-- **What `Waiting` is**: the reader is probed (`receive_buffer` called again returns the same reader
and the same non-empty window), and if it knows the length of the packet it is assembling, that length
is the total announced by the fixed header of the bytes it holds. -/
theorem C15M_waiting_iff (r : Reader) (rx : Bytes) :
    Waiting r rx ↔
      (∃ n, n ≠ 0 ∧ r.receiveWindow = some (r, n)) ∧
      (∀ l, r.packetLength = some l → ∃ hl, fixedHeader r.data = .complete hl l) :=
  (waiting_iff r rx).trans ⟨fun h => ⟨h.win, h.known⟩, fun h => ⟨h.1, h.2⟩⟩

/-- **In every world a program produces** — suspended or not, live or not — a known packet length is
the one announced by the fixed header of the bytes in the receive buffer. -/
theorem C15M_known_length_reachable (cfg : Cfg) (ds : List Directive) :
    let W := ds.foldl World.execDirective { sess := Session.new cfg }
    ∀ l, W.sess.reader.packetLength = some l → ∃ hl, fixedHeader W.sess.reader.data = .complete hl l :=
  (ReadReady_reachable cfg ds).known

/-- **In every world a program produces that is suspended in `read_packet`**, the reader is as
`receive_buffer` left it when it offered the non-empty window the pending `read()` was called on:
asking again gives the same reader and the same window. In particular the window is never empty and
`receive_buffer` does not fail at such a suspension. -/
theorem C15M_probed_at_suspension (cfg : Cfg) (ds : List Directive) (outer : Outer) (dl : Option Nat) (y : Bool) :
    let W := ds.foldl World.execDirective { sess := Session.new cfg }
    W.fut = some (.waitRead outer dl y) → ∃ n, n ≠ 0 ∧ W.sess.reader.receiveWindow = some (W.sess.reader, n) :=
  (ReadReady_reachable cfg ds).win outer dl y

/-- **The reader hypothesis of the read-fragmentation theorems holds at every reachable suspension in
`read_packet`.** For every configuration and every program: if the world it ends in is suspended at
`waitRead`, the reader is `Waiting` for the bytes the current transport still holds. No hypothesis on the
handle (`live`) or on the ghost mark `tornNets` is needed. -/
theorem C15M_waiting_of_reachable (cfg : Cfg) (ds : List Directive) (outer : Outer) (dl : Option Nat) (y : Bool) :
    let W := ds.foldl World.execDirective { sess := Session.new cfg }
    W.fut = some (.waitRead outer dl y) → Waiting W.sess.reader W.curNet.rx :=
  fun hf => (ReadReady_reachable cfg ds).waiting hf _

/-- The same for whatever the broker may send: the reader is `Waiting` against every stream. -/
theorem C15M_waiting_of_reachable_any_stream (cfg : Cfg) (ds : List Directive) (outer : Outer) (dl : Option Nat)
    (y : Bool) (rx : Bytes) :
    let W := ds.foldl World.execDirective { sess := Session.new cfg }
    W.fut = some (.waitRead outer dl y) → Waiting W.sess.reader rx :=
  fun hf => (ReadReady_reachable cfg ds).waiting hf rx

/-- With a liveness premise, which the proof does not use. -/
theorem C15M_waiting_of_reachable_live (cfg : Cfg) (ds : List Directive) (outer : Outer) (dl : Option Nat) (y : Bool) :
    let W := ds.foldl World.execDirective { sess := Session.new cfg }
    W.fut = some (.waitRead outer dl y) → W.live = true → Waiting W.sess.reader W.curNet.rx :=
  fun hf _ => C15M_waiting_of_reachable cfg ds outer dl y hf

/-- The invariant behind it is kept by every directive from ANY world that has it (not only from a
fresh session): worlds in the middle of a program, after `readPacket`, … -/
theorem C15M_ready_preserved (w : World) (h : ReadReady w) (ds : List Directive) :
    ReadReady (ds.foldl World.execDirective w) :=
  h.run ds

/-- `C15M_partial_read` without `Waiting`, after any program. -/
theorem C15M_partial_read_reachable (cfg : Cfg) (ds : List Directive) (W : World)
    (hW : W = ds.foldl World.execDirective { sess := Session.new cfg })
    (outer : Outer) (dl : Option Nat) (y : Bool) (k : Nat)
    (hfut : W.fut = some (.waitRead outer dl y)) (hdl : DeadlineOK W.now dl)
    (hne : W.curNet.rx ≠ []) (hk1 : 1 ≤ k) (hk : k ≤ 250)
    (hkind : readKind W.sess.reader W.curNet.rx (W.readCount k) = .more) :
    W.execDirective (.d k) =
      W.withRead (W.sess.reader.holding (W.sess.reader.data ++ W.curNet.rx.take (W.readCount k)))
        (W.curNet.rx.drop (W.readCount k)) [W.rpLine, W.rLine (W.readCount k)]
        (some (.waitRead outer dl true)) ∧
    Waiting (W.sess.reader.holding (W.sess.reader.data ++ W.curNet.rx.take (W.readCount k)))
      (W.curNet.rx.drop (W.readCount k)) := by
  subst hW
  exact C15M_partial_read _ outer dl y k hfut hdl ((ReadReady_reachable cfg ds).waiting hfut _) hne hk1 hk hkind

/-- `C15M_completing_read` without `Waiting`, after any program. -/
theorem C15M_completing_read_reachable (cfg : Cfg) (ds : List Directive) (W : World)
    (hW : W = ds.foldl World.execDirective { sess := Session.new cfg })
    (outer : Outer) (dl : Option Nat) (y : Bool) (k : Nat)
    (hfut : W.fut = some (.waitRead outer dl y))
    (hne : W.curNet.rx ≠ []) (hk1 : 1 ≤ k) (hk : k ≤ 250)
    (hkind : readKind W.sess.reader W.curNet.rx (W.readCount k) = .packet) :
    frame1 W.sess.reader.cap (W.sess.reader.data ++ W.curNet.rx) =
      .packet (W.sess.reader.data ++ W.curNet.rx.take (W.readCount k)) (W.curNet.rx.drop (W.readCount k)) ∧
    W.execDirective (.d k) =
      { driveEnter 3998
          (W.withRead (W.sess.reader.packetOf (W.sess.reader.data ++ W.curNet.rx.take (W.readCount k)))
            (W.curNet.rx.drop (W.readCount k)) [W.rLine (W.readCount k)] none) outer with slot := none } := by
  subst hW
  exact C15M_completing_read _ outer dl y k hfut ((ReadReady_reachable cfg ds).waiting hfut _) hne hk1 hk hkind

/-- `C15M_one_packet` without `Waiting`, wherever in a packet the program left the reader. -/
theorem C15M_one_packet_reachable (cfg : Cfg) (ds : List Directive) (W : World)
    (hW : W = ds.foldl World.execDirective { sess := Session.new cfg })
    (ks : List Nat) (outer : Outer) (dl : Option Nat) (y : Bool)
    (hfut : W.fut = some (.waitRead outer dl y)) (hdl : DeadlineOK W.now dl)
    (hne : W.curNet.rx ≠ [])
    (hks : ∀ k ∈ ks, 1 ≤ k ∧ k ≤ 250) (hlen : W.curNet.rx.length ≤ ks.length) :
    ∃ io, IoLines W io ∧ readPacket ks W = (W.afterPacket outer dl).addOld (io ++ W.out) := by
  subst hW
  exact C15M_one_packet ks _ outer dl y hfut hdl ((ReadReady_reachable cfg ds).waiting hfut _) hne hks hlen

/-- `C15M_fragmentation_independent` without `Waiting`: after any program that ends suspended in `read_packet`
before its deadline with bytes to read, two lists of read decisions lead to worlds that agree on everything but
the trace, and the traces differ only in the read lines. -/
theorem C15M_fragmentation_independent_reachable (cfg : Cfg) (ds : List Directive) (W : World)
    (hW : W = ds.foldl World.execDirective { sess := Session.new cfg })
    (ks₁ ks₂ : List Nat) (outer : Outer) (dl : Option Nat) (y : Bool)
    (hfut : W.fut = some (.waitRead outer dl y)) (hdl : DeadlineOK W.now dl)
    (hne : W.curNet.rx ≠ [])
    (hk1 : ∀ k ∈ ks₁, 1 ≤ k ∧ k ≤ 250) (hl1 : W.curNet.rx.length ≤ ks₁.length)
    (hk2 : ∀ k ∈ ks₂, 1 ≤ k ∧ k ≤ 250) (hl2 : W.curNet.rx.length ≤ ks₂.length) :
    let a := readPacket ks₁ W
    let c := readPacket ks₂ W
    a.sess = c.sess ∧ a.nets = c.nets ∧ a.conn = c.conn ∧ a.handles = c.handles ∧
    a.lastRes = c.lastRes ∧ a.log = c.log ∧ a.fut = c.fut ∧ a.now = c.now ∧ a.slot = c.slot ∧
    a.wakes = c.wakes ∧ a.lastIoStarved = c.lastIoStarved ∧ a.tornNets = c.tornNets ∧
    ∃ new io₁ io₂, IoLines W io₁ ∧ IoLines W io₂ ∧
      a.out = new ++ io₁ ++ W.out ∧ c.out = new ++ io₂ ++ W.out := by
  subst hW
  exact C15M_fragmentation_independent ks₁ ks₂ _ outer dl y hfut hdl
    ((ReadReady_reachable cfg ds).waiting hfut _) hne hk1 hl1 hk2 hl2

/-- `Admissible'` (no reader hypothesis) implies `Admissible` after every program. -/
theorem C15M_admissible_reachable (cfg : Cfg) (ds : List Directive) (segs : List Seg) :
    let W := ds.foldl World.execDirective { sess := Session.new cfg }
    Admissible' W segs → Admissible W segs :=
  fun h => (ReadReady_reachable cfg ds).admissible segs h

/-- `C15M_stream` without `Waiting`, after any program `ds`: each `reads` piece need only be entered (in the left
run) suspended in `read_packet` before its deadline with bytes to read and enough decisions (`Admissible'`). -/
theorem C15M_stream_reachable (cfg : Cfg) (ds : List Directive) (segs : List Seg) :
    let W := ds.foldl World.execDirective { sess := Session.new cfg }
    Admissible' W segs → Sim (segs.foldl (runSeg true) W) (segs.foldl (runSeg false) W) :=
  fun h => C15M_stream segs _ ((ReadReady_reachable cfg ds).admissible segs h)

/-- Connect, CONNACK; a QoS 0 PUBLISH whose `write_all` is cancelled after one byte (so the current
transport carries a torn packet and is marked in `tornNets`: the wire invariant says nothing about it any
more); `recv()`; the broker sends the first three bytes of a PUBLISH, read one at a time (the window is
one byte until the length is known, then only one byte is there); then the rest of the PUBLISH and
the first byte of a PINGRESP arrive. -/
def C15R_pre : List Directive :=
  [.connect, .go, .rx [0x20, 0x03, 0x00, 0x00, 0x00], .go,
   .publish { qos := 0, retain := false, topic := [0x61], payload := .bytes [0x41], props := .slice [] },
   .d 1, .cancel, .recv,
   .rx [0x30, 0x05, 0x00], .d 250, .d 250, .d 250,
   .rx [0x01, 0x61, 0x00, 0x41, 0xD0]]

def C15R_w : World := C15R_pre.foldl World.execDirective { sess := Session.new C15M_cfg }

/-- The rest of the packet in two fragmentations, `recv` again, the lone PINGRESP byte. -/
def C15R_segs : List Seg :=
  [.reads [1, 1, 1, 1, 1] [250, 250, 250, 250, 250], .same .recv, .reads [250] [1]]

/-- `C15R_w` evaluated once: its state and the two checks, the rest of the packet read in both ways, and
the admissibility of `C15R_segs`. -/
theorem C15R_w_eval :
    (C15R_w.sess.reader.data = [0x30, 0x05, 0x00] ∧ C15R_w.sess.reader.packetLength = some 7 ∧
      C15R_w.curNet.rx = [0x01, 0x61, 0x00, 0x41, 0xD0] ∧
      C15R_w.nets.length = 1 ∧ C15R_w.tornNets = [1] ∧ C15R_w.live = true ∧
      readsOKb C15R_w [250, 250, 250, 250, 250] = false ∧
      readsOKb' C15R_w [250, 250, 250, 250, 250] = true) ∧
    (let a := readPacket [1, 1, 1, 1, 1] C15R_w
     let c := readPacket [250, 250, 250, 250, 250] C15R_w
     a.sess.reader.last = [0x30, 0x05, 0x00, 0x01, 0x61, 0x00, 0x41] ∧ c.sess.reader.last = a.sess.reader.last ∧
     a.curNet.rx = [0xD0] ∧ c.curNet.rx = [0xD0] ∧ a.fut.isNone = true ∧ c.fut.isNone = true ∧
     a.out.length = c.out.length + 6) ∧
    admissibleb' C15R_w C15R_segs = true := by
  decide +kernel

/-- The world is suspended in `read_packet` in the MIDDLE of a packet (three bytes held, length known),
on a torn transport; the packet-boundary check `readsOKb` of `C15Machine.lean` fails, the check
without reader condition succeeds. -/
example : C15R_w.sess.reader.data = [0x30, 0x05, 0x00] ∧ C15R_w.sess.reader.packetLength = some 7 ∧
    C15R_w.curNet.rx = [0x01, 0x61, 0x00, 0x41, 0xD0] ∧
    C15R_w.nets.length = 1 ∧ C15R_w.tornNets = [1] ∧ C15R_w.live = true ∧
    readsOKb C15R_w [250, 250, 250, 250, 250] = false ∧
    readsOKb' C15R_w [250, 250, 250, 250, 250] = true := by
  obtain ⟨h, _⟩ := C15R_w_eval
  exact h

/-- The premise of `C15M_waiting_of_reachable` holds there, and so the reader is `Waiting`. -/
example : ∃ outer dl y, C15R_w.fut = some (.waitRead outer dl y) ∧ Waiting C15R_w.sess.reader C15R_w.curNet.rx := by
  obtain ⟨⟨_, _, _, _, _, _, _, hb⟩, _⟩ := C15R_w_eval
  obtain ⟨o, d, y, hf, _⟩ := readsOK'_of_b hb
  unfold C15R_w at hf ⊢
  exact ⟨o, d, y, hf, C15M_waiting_of_reachable C15M_cfg C15R_pre o d y hf⟩

/-- Byte by byte and in one piece: the same PUBLISH is delivered, the PINGRESP byte stays in the
transport. -/
example :
    let a := readPacket [1, 1, 1, 1, 1] C15R_w
    let c := readPacket [250, 250, 250, 250, 250] C15R_w
    a.sess.reader.last = [0x30, 0x05, 0x00, 0x01, 0x61, 0x00, 0x41] ∧ c.sess.reader.last = a.sess.reader.last ∧
    a.curNet.rx = [0xD0] ∧ c.curNet.rx = [0xD0] ∧ a.fut.isNone = true ∧ c.fut.isNone = true ∧
    a.out.length = c.out.length + 6 := by
  obtain ⟨_, h, _⟩ := C15R_w_eval
  exact h

example : admissibleb' C15R_w C15R_segs = true := by
  obtain ⟨_, _, h⟩ := C15R_w_eval
  exact h

theorem C15R_example_stream :
    Sim (C15R_segs.foldl (runSeg true) C15R_w) (C15R_segs.foldl (runSeg false) C15R_w) := by
  obtain ⟨_, _, h⟩ := C15R_w_eval
  exact C15M_stream_reachable C15M_cfg C15R_pre C15R_segs (admissible'_of_b _ _ h)

/-- Why the premise "suspended at `waitRead`" cannot be dropped from `C15M_probed_at_suspension`: the
fresh world of a configuration with a receive buffer of size 0 is reachable (empty program) and its
reader is not probed — `receive_buffer` fails (`MalformedPacket`); such a client never gets to await a
`read()` at all. -/
example : ¬ ∃ n, n ≠ 0 ∧ (Session.new { C15M_cfg with rx := 0 }).reader.receiveWindow =
    some ((Session.new { C15M_cfg with rx := 0 }).reader, n) := by
  rintro ⟨n, _, h⟩
  have : (Session.new { C15M_cfg with rx := 0 }).reader.receiveWindow = none := by decide
  rw [this] at h; cases h

end Minimq
