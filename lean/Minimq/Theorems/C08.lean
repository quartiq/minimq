import Minimq.Proofs.Decode
import Minimq.Proofs.IoCalls
import Minimq.Proofs.Primitives
/-
C08 — any inbound bytes: valid packets are accepted verbatim, malformed ones are rejected with the
invalid-packet error and kill the connection handle, and nothing panics (the two panic sites of the inbound
path are in `Theorems/C08NoPanic.lean`).

`fromBuffer` is `ReceivedPacket::from_buffer`; `Spec/Server.lean` is an independent description of
what a broker may send to a client that never asked for enhanced authentication (`ServerPacket`,
`encodeServer`, `ServerPacket.wf`). Property blocks are opaque byte strings behind their length on
both sides: the client decodes them lazily, which is recorded separately.

Oddities of `from_buffer` (each one checked below as an `example`):
* the value of the remaining length is never looked at (`D0 05` is a PINGRESP). It is harmless
  in the client because the packet reader hands over exactly the bytes the remaining length
  announces (`C15_packets_well_framed`), so a wrong length shows up as a short or long body;
* accepted although MQTT 5 forbids them: PUBLISH QoS 0 with DUP set (`38 04 00 01 61 00`,
  [MQTT-3.3.1-2]); PUBLISH with an empty topic and no topic alias (`30 03 00 00 00`, §3.3.2.1)
  — the client never offers a Topic Alias Maximum —; topic with a wildcard (`30 04 00 01 23 00`,
  [MQTT-3.3.2-2]) or with U+0000 (`30 04 00 01 00 00`, [MQTT-1.5.4-2]); packet identifier 0 in
  PUBLISH QoS > 0 and in every acknowledgement (`32 06 00 01 61 00 00 00`, `40 02 00 00`,
  §2.2.1: identifiers are non-zero); SUBACK / UNSUBACK without any reason code (`90 03 00 01 00`).
No valid packet is rejected (`C08_valid_accepted_verbatim`).
-/
namespace Minimq
open Gen Spec

/-- **Every well-formed server packet is accepted with exactly the fields sent.** For each packet a
broker may send (`ServerPacket`) whose numbers fit their fields (`wf`: lengths, QoS ≤ 2, packet
identifier present exactly when QoS > 0, topic well-formed UTF-8 — the one check `deserialize_str`
makes), `from_buffer` on its MQTT 5 encoding returns the packet with the same session-present
flag, topic, QoS, retain, DUP, identifier, property block, payload, reason-code list. Reason codes
pass through `ReasonCode::from(u8)` (`normReason`: a byte that is not a known code becomes
`Unknown`, 0xFF); `image` says precisely that and nothing else. -/
theorem C08_valid_accepted_verbatim (p : ServerPacket) (hwf : p.wf = true) :
    fromBuffer (encodeServer p) = some p.image :=
  accept_all p hwf

/-- A non-trivial well-formed packet: PUBLISH QoS 1, DUP, id 7, a two-byte property block, payload;
and its encoding. -/
example : (ServerPacket.publish [0x61] 1 false true (some 7) [0x01, 0x01] [9, 9]).wf = true := by
  decide +kernel
example : encodeServer (.publish [0x61] 1 false true (some 7) [0x01, 0x01] [9, 9]) =
    [0x3A, 0x0A, 0x00, 0x01, 0x61, 0x00, 0x07, 0x02, 0x01, 0x01, 0x09, 0x09] := by decide +kernel
example : (ServerPacket.ack .pubRel 65535 (.full 0x92 [0x1F, 0x00, 0x00])).wf = true := by decide +kernel

/-- CONNACK: session present, reason code (normalised), property block. -/
theorem C08_connack_accepted (sp : Bool) (reason : Nat) (props : Bytes)
    (hwf : (ServerPacket.connAck sp reason props).wf = true) :
    fromBuffer (encodeServer (.connAck sp reason props)) =
      some (.connAck sp (normReason reason) props) :=
  accept_all _ hwf

/-- PUBLISH: every field, for QoS 0, 1 and 2, with and without payload. -/
theorem C08_publish_accepted (topic : Bytes) (qos : Nat) (retain dup : Bool) (id : Option Nat)
    (props payload : Bytes)
    (hwf : (ServerPacket.publish topic qos retain dup id props payload).wf = true) :
    fromBuffer (encodeServer (.publish topic qos retain dup id props payload)) =
      some (.publish topic id props payload retain qos dup) :=
  accept_all _ hwf

/-- PUBACK, PUBREC, PUBREL, PUBCOMP in each of the three legal shapes (id only; id and reason; id,
reason and property block). -/
theorem C08_ack_accepted (kind : AckKind) (id : Nat) (tail : Spec.Tail)
    (hwf : (ServerPacket.ack kind id tail).wf = true) :
    fromBuffer (encodeServer (.ack kind id tail)) = some (ServerPacket.ack kind id tail).image :=
  accept_all _ hwf

/-- SUBACK and UNSUBACK: identifier, property block, the reason codes byte for byte. -/
theorem C08_suback_accepted (id : Nat) (props codes : Bytes)
    (h1 : (ServerPacket.subAck id props codes).wf = true) :
    fromBuffer (encodeServer (.subAck id props codes)) = some (.subAck id props codes) ∧
    fromBuffer (encodeServer (.unsubAck id props codes)) = some (.unsubAck id props codes) :=
  ⟨accept_all _ h1, accept_all (.unsubAck id props codes) h1⟩

theorem C08_pingresp_accepted : fromBuffer (encodeServer .pingResp) = some .pingResp :=
  accept_all .pingResp rfl

/-- DISCONNECT in each of the three legal shapes (empty; reason; reason and property block). -/
theorem C08_disconnect_accepted (tail : Spec.Tail) (hwf : (ServerPacket.disconnect tail).wf = true) :
    fromBuffer (encodeServer (.disconnect tail)) = some (ServerPacket.disconnect tail).image :=
  accept_all _ hwf

/-! Rejection: `none` is `Err(ProtocolError::…)`, surfaced as `Peer(InvalidPacket)`. -/

theorem C08_reject_empty : fromBuffer [] = none := rfl

/-- Reserved packet type 0, whatever follows. -/
theorem C08_reject_type0 (hdr : UInt8) (rest : Bytes) (h : hdr.toNat / 16 = 0) :
    fromBuffer (hdr :: rest) = none :=
  reject_bad_header hdr rest (by rw [headerOk, h]; rfl)

/-- Every packet type outside `inboundTypes`, whatever the flags and whatever follows… -/
theorem C08_reject_unsupported_type (hdr : UInt8) (rest : Bytes)
    (h : inboundTypes.contains (hdr.toNat / 16) = false) : fromBuffer (hdr :: rest) = none :=
  reject_bad_header hdr rest (by rw [headerOk, h, Bool.and_false])

/-- …and those are, among the sixteen values of the type nibble, exactly: 0 (reserved), CONNECT,
SUBSCRIBE, UNSUBSCRIBE, PINGREQ (client-only packets) and AUTH. -/
theorem C08_unsupported_types : ∀ t, t < 16 →
    (inboundTypes.contains t = false ↔
      t ∈ [0, MT_Connect, MT_Subscribe, MT_Unsubscribe, MT_PingReq, MT_Auth]) := by
  decide +kernel

example : fromBuffer [0x10, 0x00] = none ∧ fromBuffer [0x82, 0x00] = none ∧
    fromBuffer [0xC0, 0x00] = none ∧ fromBuffer [0xF0, 0x00] = none := by decide +kernel

/-- Fixed-header flags other than the ones required for the type. -/
theorem C08_reject_bad_flags (hdr : UInt8) (rest : Bytes) (f : Nat)
    (hf : inboundFlags (hdr.toNat / 16) = some f) (h : hdr.toNat % 16 ≠ f) :
    fromBuffer (hdr :: rest) = none :=
  reject_bad_header hdr rest
    (by rw [headerOk, hf, Option.all_some, decide_eq_false h, Bool.and_false, Bool.false_and])

/-- The required flags: 0010 for PUBREL, 0000 for CONNACK, PUBACK, PUBREC, PUBCOMP, SUBACK,
UNSUBACK, PINGRESP, DISCONNECT; PUBLISH carries DUP / QoS / RETAIN there. -/
theorem C08_required_flags : ∀ t, t < 16 →
    inboundFlags t = (if t = MT_PubRel then some 2
      else if t ∈ [MT_ConnAck, MT_PubAck, MT_PubRec, MT_PubComp, MT_SubAck, MT_UnsubAck,
        MT_PingResp, MT_Disconnect] then some 0 else none) := by
  decide +kernel

example : fromBuffer [0x60, 0x02, 0x00, 0x01] = none ∧ fromBuffer [0x41, 0x02, 0x00, 0x01] = none ∧
    fromBuffer [0x62, 0x02, 0x00, 0x01] = some (.pubRel 1 ⟨none, none⟩) := by decide +kernel

/-- PUBLISH with both QoS bits set, whatever follows. -/
theorem C08_reject_qos3 (hdr : UInt8) (rest : Bytes) (ht : hdr.toNat / 16 = MT_Publish)
    (hq : hdr.toNat / 2 % 4 = 3) : fromBuffer (hdr :: rest) = none := by
  cases hv : decodeVarint rest with
  | none => exact reject_bad_varint hdr rest hv
  | some p => exact reject_body hdr rest p.2 p.1 hv (by rw [ht, readBody_publish, if_pos hq])

example : fromBuffer [0x36, 0x06, 0x00, 0x01, 0x61, 0x00, 0x01, 0x00] = none := by decide +kernel

/-- **Remaining length.** Whatever the first byte, if what follows it does not begin with the
canonical encoding of a number up to 268 435 455, the packet is refused… -/
theorem C08_reject_bad_remaining_length (hdr : UInt8) (rest : Bytes)
    (h : ∀ n r, n ≤ 268435455 → rest ≠ Spec.encVarint n ++ r) : fromBuffer (hdr :: rest) = none := by
  -- what the varint reader accepts is the canonical encoding of the value it returns
  cases hd : decodeVarint rest with
  | none => exact reject_bad_varint hdr rest hd
  | some p =>
    obtain ⟨h1, h2⟩ := codec_varint.inv hd
    rw [MAXV] at h2
    exact absurd (by rw [encVarint_eq p.1 h2]; exact h1) (h p.1 p.2 h2)

/-- …in particular every padded (non-canonical) form — a zero final group after one, two or three
continuation bytes —, every integer of more than four bytes, and a packet that ends inside it. -/
theorem C08_reject_noncanonical_length (hdr b0 b1 b2 b3 : UInt8) (r : Bytes)
    (h0 : 128 ≤ b0.toNat) (h1 : 128 ≤ b1.toNat) (h2 : 128 ≤ b2.toNat) (h3 : 128 ≤ b3.toNat) :
    fromBuffer (hdr :: b0 :: 0 :: r) = none ∧ fromBuffer (hdr :: b0 :: b1 :: 0 :: r) = none ∧
    fromBuffer (hdr :: b0 :: b1 :: b2 :: 0 :: r) = none ∧
    fromBuffer (hdr :: b0 :: b1 :: b2 :: b3 :: r) = none ∧
    fromBuffer [hdr] = none ∧ fromBuffer [hdr, b0] = none ∧ fromBuffer [hdr, b0, b1] = none ∧
    fromBuffer [hdr, b0, b1, b2] = none := by
  -- the eight length fields are the first `k` of the four bytes, followed by a zero byte, by nothing, or by `r`
  have h4 : ∀ x ∈ [b0, b1, b2, b3], 128 ≤ x.toNat :=
    List.forall_mem_cons.2 ⟨h0, List.forall_mem_cons.2 ⟨h1, List.forall_mem_cons.2 ⟨h2,
      List.forall_mem_cons.2 ⟨h3, nofun⟩⟩⟩⟩
  have hc (k : Nat) : ∀ x ∈ [b0, b1, b2, b3].take k, 128 ≤ x.toNat := fun x hx => h4 x (List.mem_of_mem_take hx)
  have pad (k : Nat) (hne : [b0, b1, b2, b3].take k ≠ []) :
      fromBuffer (hdr :: ([b0, b1, b2, b3].take k ++ 0 :: r)) = none :=
    reject_length_field hdr (hc k) _ (.inr (.inr ⟨hne, r, rfl⟩))
  have cut (k : Nat) : fromBuffer (hdr :: ([b0, b1, b2, b3].take k ++ [])) = none :=
    reject_length_field hdr (hc k) [] (.inl rfl)
  exact ⟨pad 1 nofun, pad 2 nofun, pad 3 nofun, reject_length_field hdr (hc 4) r (.inr (.inl (Nat.le_refl 4))),
    cut 0, cut 1, cut 2, cut 3⟩

example : fromBuffer [0xD0, 0x80, 0x00] = none ∧ fromBuffer [0x30, 0x80, 0x80, 0x80, 0x80, 0x01] = none := by
  decide +kernel

/-- **Fields running past the end of the packet**, PUBLISH: a body too short for the topic length,
a topic length larger than what follows it, no room for the packet identifier, a property length
that is malformed or larger than what follows it. For every header byte of type PUBLISH and every
well-formed remaining length. -/
theorem C08_reject_publish_overrun (hdr : UInt8) (rest body : Bytes) (n : Nat)
    (ht : hdr.toNat / 16 = MT_Publish) (hv : decodeVarint rest = some (n, body)) :
    (body.length < 2 → fromBuffer (hdr :: rest) = none) ∧
    (∀ hi lo r, body = hi :: lo :: r → r.length < u16of hi lo → fromBuffer (hdr :: rest) = none) ∧
    (∀ topic r, readStr body = some (topic, r) → 0 < hdr.toNat / 2 % 4 → r.length < 2 →
      fromBuffer (hdr :: rest) = none) ∧
    (∀ topic blk m r, readStr body = some (topic, blk) → hdr.toNat / 2 % 4 = 0 →
      (decodeVarint blk = none ∨ (decodeVarint blk = some (m, r) ∧ r.length < m)) →
      fromBuffer (hdr :: rest) = none) ∧
    (∀ topic ih il blk m r, readStr body = some (topic, ih :: il :: blk) → 0 < hdr.toNat / 2 % 4 →
      (decodeVarint blk = none ∨ (decodeVarint blk = some (m, r) ∧ r.length < m)) →
      fromBuffer (hdr :: rest) = none) := by
  have none_of (h : readBody MT_Publish hdr body = none) : fromBuffer (hdr :: rest) = none :=
    reject_body hdr rest body n hv (by rw [ht]; exact h)
  refine ⟨?_, ?_, ?_, ?_, ?_⟩
  · intro h
    exact none_of (readBody_publish_topic hdr _ (by rw [readStr, readU16_short _ h]))
  · intro hi lo r hb h
    subst hb
    exact none_of (readBody_publish_topic hdr _ (by simp only [readStr, readU16, takeN, if_pos h]))
  · intro topic r hs hq hr
    refine none_of (readBody_publish_rest hdr _ topic r hs fun id r1 hi => ?_)
    rw [readPubId, if_pos hq, readU16_short r hr] at hi
    cases hi
  · intro topic blk m r hs hq h
    refine none_of (readBody_publish_rest hdr _ topic blk hs fun id r1 hi => ?_)
    rw [readPubId, if_neg (by omega)] at hi
    cases hi
    exact readPropBlock_bad h
  · intro topic ih il blk m r hs hq h
    refine none_of (readBody_publish_rest hdr _ topic _ hs fun id r1 hi => ?_)
    rw [readPubId, if_pos hq] at hi
    cases hi
    exact readPropBlock_bad h

example : fromBuffer [0x30, 0x04, 0x00, 0x09, 0x61, 0x00] = none ∧
    fromBuffer [0x32, 0x04, 0x00, 0x01, 0x61, 0x00] = none ∧
    fromBuffer [0x30, 0x05, 0x00, 0x01, 0x61, 0x03, 0x00] = none := by decide +kernel

/-- PUBACK / PUBREC / PUBREL / PUBCOMP with no or half a packet identifier, or with a property
length that is malformed or larger than what follows it. -/
theorem C08_reject_ack_overrun (hdr : UInt8) (rest body : Bytes) (n : Nat)
    (ht : isAckType (hdr.toNat / 16) = true) (hv : decodeVarint rest = some (n, body)) :
    (body.length < 2 → fromBuffer (hdr :: rest) = none) ∧
    (∀ hi lo rc blk m r, body = hi :: lo :: rc :: blk → blk ≠ [] →
      (decodeVarint blk = none ∨ (decodeVarint blk = some (m, r) ∧ r.length < m)) →
      fromBuffer (hdr :: rest) = none) := by
  constructor
  · intro h
    exact reject_body hdr rest body n hv (readBody_ack_none _ hdr body ht (by rw [readAck, readU16_short _ h]))
  · intro hi lo rc blk m r hb hne h
    subst hb
    obtain ⟨x, xs, rfl⟩ := List.exists_cons_of_ne_nil hne
    exact reject_body hdr rest _ n hv
      (readBody_ack_none _ hdr _ ht
        (by simp only [readAck, readU16, readReason_props, readPropBlock_bad h, Option.map_none]))

example : fromBuffer [0x40, 0x01, 0x00] = none ∧ fromBuffer [0x40, 0x05, 0x00, 0x01, 0x00, 0x02, 0x1F] = none := by
  decide +kernel

/-- CONNACK, SUBACK, UNSUBACK, DISCONNECT cut short or with a property length that is malformed or
larger than what follows it. -/
theorem C08_reject_other_overrun (hdr : UInt8) (rest body : Bytes) (n : Nat)
    (hv : decodeVarint rest = some (n, body)) (blk r : Bytes) (m : Nat)
    (hblk : decodeVarint blk = none ∨ (decodeVarint blk = some (m, r) ∧ r.length < m)) :
    (hdr.toNat / 16 = MT_ConnAck → (body.length < 2 ∨ ∃ sp rc, body = sp :: rc :: blk) →
      fromBuffer (hdr :: rest) = none) ∧
    ((hdr.toNat / 16 = MT_SubAck ∨ hdr.toNat / 16 = MT_UnsubAck) →
      (body.length < 2 ∨ ∃ hi lo, body = hi :: lo :: blk) → fromBuffer (hdr :: rest) = none) ∧
    (hdr.toNat / 16 = MT_Disconnect → blk ≠ [] → (∃ rc, body = rc :: blk) →
      fromBuffer (hdr :: rest) = none) := by
  have hb : readPropBlock blk = none := readPropBlock_bad hblk
  refine ⟨?_, ?_, ?_⟩
  · intro ht h
    refine reject_body hdr rest body n hv ?_
    rw [ht]
    rcases h with h | ⟨sp, rc, rfl⟩
    · exact readBody_connAck_short hdr body h
    · rw [readBody_connAck, hb]
      exact ite_self none
  · intro ht h
    have := readBody_subAck_none hdr body fun id r hu => by
      rcases h with h | ⟨hi, lo, rfl⟩
      · rw [readU16_short body h] at hu; cases hu
      · cases hu; exact hb
    rcases ht with ht | ht
    · exact reject_body hdr rest body n hv (by rw [ht]; exact this.1)
    · exact reject_body hdr rest body n hv (by rw [ht]; exact this.2)
  · intro ht hne ⟨rc, h⟩
    subst h
    obtain ⟨x, xs, rfl⟩ := List.exists_cons_of_ne_nil hne
    exact reject_body hdr rest _ n hv (by rw [ht, readBody_disconnect, readReason_props, hb]; rfl)

/-- CONNACK with any of the reserved bits 7–1 of the acknowledge flags set. -/
theorem C08_reject_connack_flags (hdr sp rc : UInt8) (rest r' : Bytes) (n : Nat)
    (ht : hdr.toNat / 16 = MT_ConnAck) (hv : decodeVarint rest = some (n, sp :: rc :: r'))
    (hsp : 1 < sp.toNat) : fromBuffer (hdr :: rest) = none :=
  reject_body hdr rest _ n hv
    (by rw [ht, readBody_connAck, if_pos hsp])

example : fromBuffer [0x20, 0x03, 0x00, 0x00, 0x05] = none ∧ fromBuffer [0x20, 0x03, 0x02, 0x00, 0x00] = none ∧
    fromBuffer [0x90, 0x03, 0x00, 0x01, 0x01] = none ∧ fromBuffer [0xE0, 0x02, 0x00, 0x04] = none := by
  decide +kernel

/-- **Invalid UTF-8 topic**: `deserialize_str` checks the topic with `core::str::from_utf8`, so a
PUBLISH whose topic bytes are not well-formed UTF-8 is refused, whatever QoS, flags and rest. -/
theorem C08_reject_invalid_utf8_topic (hdr : UInt8) (rest after topic : Bytes) (n : Nat)
    (ht : hdr.toNat / 16 = MT_Publish)
    (hv : decodeVarint rest = some (n, Spec.encStr topic ++ after))
    (hl : topic.length ≤ 65535) (hu : validUtf8 topic = false) : fromBuffer (hdr :: rest) = none :=
  reject_body hdr rest _ n hv
    (by rw [ht]; exact readBody_publish_topic hdr _ (by rw [readStr_encStr topic after hl, hu]; rfl))

example : validUtf8 [0xC0, 0xAF] = false ∧ fromBuffer [0x30, 0x05, 0x00, 0x02, 0xC0, 0xAF, 0x00] = none := by
  decide +kernel

/-- **Trailing bytes.** For the packet types that carry no payload (everything but PUBLISH, SUBACK,
UNSUBACK): if the body decodes and anything is left over, the packet is refused. -/
theorem C08_reject_trailing (hdr : UInt8) (rest body left : Bytes) (n : Nat) (pkt : Recv)
    (hv : decodeVarint rest = some (n, body))
    (hb : readBody (hdr.toNat / 16) hdr body = some (pkt, left)) (hne : left ≠ [])
    (ht : hdr.toNat / 16 ≠ MT_Publish ∧ hdr.toNat / 16 ≠ MT_SubAck ∧ hdr.toNat / 16 ≠ MT_UnsubAck) :
    fromBuffer (hdr :: rest) = none := by
  rw [fromBuffer_body hv, hb]
  refine ite_ind (P := (· = none)) (fun _ => ?_) fun _ => rfl
  exact attachRest_none hne (by rw [readBody_type hb]; exact ht)

/-- Concretely: a complete CONNACK, a PUBACK / PUBREC / PUBREL / PUBCOMP or DISCONNECT in the full
shape (behind the shorter shapes one more byte simply reads as the next shape), or a PINGRESP,
followed by at least one more byte — whatever remaining length is written in the header, the
right one included. -/
theorem C08_reject_trailing_garbage (extra : Bytes) (n : Nat) (hn : n ≤ 268435455)
    (hne : extra ≠ []) :
    (∀ sp reason props, (ServerPacket.connAck sp reason props).wf = true →
      fromBuffer (firstByte (.connAck sp reason props) ::
        (Spec.encVarint n ++ (Spec.body (.connAck sp reason props) ++ extra))) = none) ∧
    (∀ kind id rc props, (ServerPacket.ack kind id (.full rc props)).wf = true →
      fromBuffer (firstByte (.ack kind id (.full rc props)) ::
        (Spec.encVarint n ++ (Spec.body (.ack kind id (.full rc props)) ++ extra))) = none) ∧
    (∀ rc props, (ServerPacket.disconnect (.full rc props)).wf = true →
      fromBuffer (firstByte (.disconnect (.full rc props)) ::
        (Spec.encVarint n ++ (Spec.body (.disconnect (.full rc props)) ++ extra))) = none) ∧
    fromBuffer (firstByte .pingResp :: (Spec.encVarint n ++ extra)) = none :=
  ⟨fun _ _ _ hwf => reject_trailing_all _ hwf rfl
     (by decide : MT_ConnAck ≠ MT_Publish ∧ MT_ConnAck ≠ MT_SubAck ∧ MT_ConnAck ≠ MT_UnsubAck) extra n hn hne,
   fun kind _ _ _ hwf => reject_trailing_all _ hwf rfl
     (show kind.type ≠ MT_Publish ∧ kind.type ≠ MT_SubAck ∧ kind.type ≠ MT_UnsubAck by cases kind <;> decide)
     extra n hn hne,
   fun _ _ hwf => reject_trailing_all _ hwf rfl
     (by decide : MT_Disconnect ≠ MT_Publish ∧ MT_Disconnect ≠ MT_SubAck ∧ MT_Disconnect ≠ MT_UnsubAck)
     extra n hn hne,
   reject_trailing_all .pingResp rfl rfl (by decide) extra n hn hne⟩

example : fromBuffer [0xD0, 0x01, 0x00] = none ∧ fromBuffer [0x20, 0x04, 0x00, 0x00, 0x00, 0x00] = none ∧
    fromBuffer [0x40, 0x05, 0x00, 0x01, 0x00, 0x00, 0x00] = none := by decide +kernel

/-- **Packet larger than the receive buffer** (reader level, by `readLoop_eq_frames` of
`Proofs/ReaderStream.lean`). If the stream starts
with a complete fixed header (`hl` bytes) announcing a packet of `t > cap` bytes, then for every
way of fragmenting the reads the reader delivers no packet and fails with `MalformedPacket` holding
at most the header — it never commits more than `cap` bytes, and no more than the header: the
error comes as soon as the length is known. The same when the length field has no end after four
bytes. -/
theorem C08_reject_oversize (sched : List Nat) (r : Reader) (stream : Bytes)
    (hd : r.data = []) (hp : r.packetLength = none) :
    (∀ hl t, fixedHeader stream = .complete hl t → r.cap < t →
      readLoop sched r stream = some ([], .malformed (stream.take (min hl r.cap)))) ∧
    (fixedHeader stream = .tooLong →
      readLoop sched r stream = some ([], .malformed (stream.take (min 5 r.cap)))) := by
  constructor
  · intro hl t hfh hbig
    rw [readLoop_eq_frames sched r stream hd hp, frames_eq, frame1, hfh]
    simp only
    rw [if_pos hbig]
    rfl
  · intro hfh
    rw [readLoop_eq_frames sched r stream hd hp, frames_eq, frame1, hfh]
    rfl

/-- In any reader state: once the bytes held contain a complete fixed header that announces more
than the buffer holds, `receive_buffer` fails (and by `C15_reader_safe` the buffer was never
overfilled on the way there). -/
theorem C08_oversize_detected_at_header (r : Reader) (hp : r.packetLength = none) (hl t : Nat)
    (hfh : fixedHeader r.data = .complete hl t) (hbig : r.cap < t) : r.receiveWindow = none := by
  rw [receiveWindow_unknown r hp, hfh]
  simp only
  rw [if_neg (by omega)]

/-- A 300-byte PUBLISH into a 64-byte buffer: refused after the three header bytes. -/
example : fixedHeader [0x30, 0xAC, 0x02, 0x00] = .complete 3 303 := by decide +kernel

/-- **A rejected packet kills the handle and is not acted upon.** When `take_packet` fails on an
available packet (`from_buffer` refused it), `process_received_packet` returns
`Err(Peer(InvalidPacket))`; the state afterwards is the state before with the reader reset, put
through `handle_disconnect` — `handle_packet` never ran, so no acknowledgement was queued, no
quota or identifier touched —, and the handle is dead. -/
theorem C08_rejected_kills_connection (w : World)
    (ha : w.sess.reader.packetAvailable = true) (hbad : w.sess.takePkt.2 = none) :
    w.processReceivedPacket =
      (({ w with sess := w.sess.takePkt.1 } : World).handleDisconnect, .error .peerInvalid) ∧
    w.sess.takePkt.1.data = w.sess.data ∧ w.sess.takePkt.1.rt = w.sess.rt ∧
    (({ w with sess := w.sess.takePkt.1 } : World).handleDisconnect).live = false :=
  ⟨processReceivedPacket_invalid w ha hbad, w.sess.takePkt_data.1, w.sess.takePkt_data.2,
   handleDisconnect_live _⟩

/-- `take_packet` fails exactly when `from_buffer` refuses the bytes of the packet. -/
theorem C08_take_fails_iff (s : Session) (l : Nat) (hp : s.reader.packetLength = some l) :
    s.takePkt.2 = none ↔ fromBuffer (s.reader.data.take l) = none := by
  simp only [Session.takePkt, takePacket_some hp]
  cases fromBuffer (s.reader.data.take l) <;> simp

/-- Seen from the operations: `poll` / `recv` / `drive` and `connect` return
`Err(Peer(InvalidPacket))` with a dead handle, both for a packet `from_buffer` refuses and for a
`MalformedPacket` from the packet reader (bad remaining length, packet too large). -/
theorem C08_operations_report_invalid_packet (fuel : Nat) (w : World) (outer : Outer) :
    (∀ adv, w.sess.reader.packetAvailable = true → w.sess.takePkt.2 = none →
      World.driveLoop (fuel + 1) w outer adv =
        (({ w with sess := w.sess.takePkt.1 } : World).handleDisconnect).finishErr
          (World.outerName outer) .peerInvalid) ∧
    (w.sess.takePkt.2 = none → World.connectGotPacket w =
        (({ w with sess := w.sess.takePkt.1 } : World).handleDisconnect).finishErr
          "connect" .peerInvalid) ∧
    (∀ deadline yielded, w.sess.reader.packetAvailable = false →
      w.sess.reader.receiveWindow = none →
      World.doWaitRead (fuel + 1) w outer deadline yielded =
        (w.handleDisconnect).finishErr (World.outerName outer) .peerInvalid) ∧
    (w.sess.reader.packetAvailable = false → w.sess.reader.receiveWindow = none →
      World.doConnRead (fuel + 1) w = (w.handleDisconnect).finishErr "connect" .peerInvalid) :=
  ⟨fun adv ha hbad => by simp [World.driveLoop, ha, processReceivedPacket_invalid w ha hbad],
   fun hbad => connectGotPacket_invalid w hbad,
   fun deadline yielded ha hw => doWaitRead_malformed fuel w outer deadline yielded ha hw,
   fun ha hw => doConnRead_malformed fuel w ha hw⟩

/-- **No read beyond the packet.** Totality itself needs no theorem: `fromBuffer`, `readBody`, `decodeVarint`,
`readStr`, `takeN`, … are total Lean functions given by pattern matching and finite case analysis
on lists, without `head!` / `get!` / unchecked arithmetic: by construction there is no input on
which the model panics, overflows or indexes out of bounds, and the result depends on nothing but
`buf`. What is stated, for an accepted PUBLISH: topic, property block and payload are consecutive,
non-overlapping pieces of `buf` behind at least four header bytes and with at least one byte
between topic and properties, so `topic.length + payload.length + props.length < buf.length`;
and what is accepted has QoS ≤ 2, a well-formed UTF-8 topic, and an identifier exactly when
QoS > 0. -/
theorem C08_total {buf topic props payload : Bytes} {id : Option Nat} {rt d : Bool} {q : Nat}
    (h : fromBuffer buf = some (.publish topic id props payload rt q d)) :
    (∃ pre mid, buf = pre ++ topic ++ mid ++ props ++ payload ∧ 4 ≤ pre.length ∧ 1 ≤ mid.length) ∧
    topic.length + payload.length + props.length < buf.length ∧
    validUtf8 topic = true ∧ q ≤ 2 ∧ (id.isSome = true ↔ 0 < q) := by
  cases buf with
  | nil => cases h
  | cons hdr r0 =>
    obtain ⟨n, r1, pkt, rest, hv, hb, hfin⟩ := fromBuffer_some_inv h
    obtain ⟨rfl, _⟩ := codec_varint.inv hv
    -- the type asked of `readBody` is the type of what came out: PUBLISH
    rw [← readBody_type hb, ← attachRest_type hfin] at hb
    obtain ⟨topic', id', blk, mid, rfl, rfl, hmid, hutf, hq, hid⟩ := readBody_publish_inv hb
    rw [attachRest_publish] at hfin
    cases hfin
    have := varintLen_bounds n
    refine ⟨⟨hdr :: (encodeVarint n ++ u16be topic.length), mid, by simp only [List.cons_append, List.append_assoc],
      by simp only [List.length_cons, List.length_append, encodeVarint_length, u16be, List.length_nil]; omega, hmid⟩,
      ?_, hutf, hq, hid⟩
    simp only [List.length_cons, List.length_append]
    omega

example : fromBuffer [0x3A, 0x0A, 0x00, 0x01, 0x61, 0x00, 0x07, 0x02, 0x01, 0x01, 0x09, 0x09] =
    some (.publish [0x61] (some 7) [0x01, 0x01] [9, 9] false 1 true) := by decide +kernel

/-! The oddities listed at the top, as checked facts. -/

/-- The remaining length is not compared with the number of bytes that follow. -/
example : fromBuffer [0xD0, 0x05] = some .pingResp := by decide +kernel
/-- DUP with QoS 0. -/
example : fromBuffer [0x38, 0x04, 0x00, 0x01, 0x61, 0x00] =
    some (.publish [0x61] none [] [] false 0 true) := by decide +kernel
/-- Empty topic, no alias. -/
example : fromBuffer [0x30, 0x03, 0x00, 0x00, 0x00] = some (.publish [] none [] [] false 0 false) := by
  decide +kernel
/-- Wildcard and U+0000 in a topic name. -/
example : fromBuffer [0x30, 0x04, 0x00, 0x01, 0x23, 0x00] =
      some (.publish [0x23] none [] [] false 0 false) ∧
    fromBuffer [0x30, 0x04, 0x00, 0x01, 0x00, 0x00] =
      some (.publish [0x00] none [] [] false 0 false) := by decide +kernel
/-- Packet identifier 0. -/
example : fromBuffer [0x32, 0x06, 0x00, 0x01, 0x61, 0x00, 0x00, 0x00] =
      some (.publish [0x61] (some 0) [] [] false 1 false) ∧
    fromBuffer [0x40, 0x02, 0x00, 0x00] = some (.pubAck 0 ⟨none, none⟩) := by decide +kernel
/-- SUBACK without reason codes. -/
example : fromBuffer [0x90, 0x03, 0x00, 0x01, 0x00] = some (.subAck 1 [] []) := by decide +kernel

end Minimq
