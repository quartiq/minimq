import Minimq.Proofs.WireTop
/-
C04, whole machine — the acknowledgements for inbound packets go out in arrival order.

`Theorems/C04.lean` proves what handling one inbound packet queues. This file ties the control queue
to what the transport has accepted, for every program, with one more piece of ghost state (never
printed; the driver's traces are unchanged): `Session.inlog`, the inbound log of the current
connection. `Session.handle` — the only place where `handle_packet` is applied, i.e. inside
`process_received_packet` — appends the record `(packet, acks)`, where `acks` are the control actions
that the handling appended to the control queue (`C04_record_of_a_packet`: the acknowledgement MQTT
asks for, or nothing if it could not be queued). A successful CONNACK (`Session.activate`) restarts the
log with one record `(none, acks)` listing the control actions that are queued at that moment: the
acknowledgements owed from earlier connections that `connect` re-armed (`arm_replay` resets every
control entry to "waiting for its first byte" and drops a queued PINGREQ; a CONNACK without session
present then clears the queue, so the record is empty on a fresh session). Nothing else writes the
inbound log (`C04_inbound_log_written_by`).

The wire statement (`C04_acks_on_the_wire`), on a live connection whose transport is not marked torn:

    control actions written completely on this transport, in the order of the transmission log
 ++ control actions still waiting in the control queue, in queue order
  = the control actions recorded in the inbound log, in the order of the records,

PINGREQ — queued by the keep-alive, not owed to an inbound packet — left out on both sides. So the
acknowledgements leave in the order in which their packets arrived, none is skipped, duplicated or
invented, and what has not left yet is exactly the tail that is still queued. The bytes of the written
ones are on the wire in log order (`C02_logged_packets_are_on_the_wire`) and are the five-byte packets
of `C04_ack_bytes`. The cross-connection part is the first record: acknowledgements that were queued but
not completely flushed when a connection ended are sent again, first and in their old order, on the next
connection if the broker resumes the session, and are dropped if it does not.
-/
namespace Minimq
open Gen World Outbound

/-- `ackOwed`, case by case. -/
theorem C04_ack_owed (ids : List Nat) :
    (∀ t id pr pl rt dup, id ≠ 0 →
      ackOwed ids (.publish t (some id) pr pl rt 1 dup) =
        some { typ := MT_PubAck, id := id, rc := if ids.contains id then RC_PacketIdInUse else RC_Success }) ∧
    (∀ t id pr pl rt dup, id ≠ 0 →
      ackOwed ids (.publish t (some id) pr pl rt 2 dup) =
        some { typ := MT_PubRec, id := id,
               rc := if ids.contains id then RC_Success
                     else if ids.length < MAX_INBOUND_QOS2 then RC_Success else RC_ReceiveMaxExceeded }) ∧
    (∀ id rs, id ≠ 0 →
      ackOwed ids (.pubRel id rs) =
        some { typ := MT_PubComp, id := id, rc := if ids.contains id then RC_Success else RC_PacketIdNotFound }) ∧
    (∀ t id pr pl rt dup, ackOwed ids (.publish t id pr pl rt 0 dup) = none) ∧
    (∀ t pr pl rt qos dup, ackOwed ids (.publish t none pr pl rt qos dup) = none ∧
      ackOwed ids (.publish t (some 0) pr pl rt qos dup) = none) ∧
    (∀ rs, ackOwed ids (.pubRel 0 rs) = none) ∧
    (∀ id rs, ackOwed ids (.pubAck id rs) = none ∧ ackOwed ids (.pubRec id rs) = none ∧ ackOwed ids (.pubComp id rs) = none) ∧
    (∀ id pr codes, ackOwed ids (.subAck id pr codes) = none ∧ ackOwed ids (.unsubAck id pr codes) = none) ∧
    (∀ sp rc pr, ackOwed ids (.connAck sp rc pr) = none) ∧ ackOwed ids .pingResp = none ∧
    (∀ rc pr, ackOwed ids (.disconnect rc pr) = none) := by
  refine ⟨?_, ?_, ?_, ?_, ?_, ?_, ?_, ?_, ?_, rfl, ?_⟩
  · intro t id pr pl rt dup hid; simp [ackOwed, hid, qos1Rc]
  · intro t id pr pl rt dup hid
    simp only [ackOwed, hid, false_or, show ((2 : Nat) = 0) = False by simp, show ((2 : Nat) = 1) = False by simp, if_false,
      qos2Ids]
    split
    · rfl
    · split <;> rfl
  · intro id rs hid; simp [ackOwed, hid]
  · intro t id pr pl rt dup; cases id <;> simp [ackOwed]
  · intro t pr pl rt qos dup; exact ⟨rfl, by simp [ackOwed]⟩
  · intro rs; simp [ackOwed]
  · intro id rs; exact ⟨rfl, rfl, rfl⟩
  · intro id pr codes; exact ⟨rfl, rfl⟩
  · intro sp rc pr; rfl
  · intro rc pr; rfl

/-- **The record of a packet.** Handling `p` appends exactly one record to the inbound log: `p` with
the acknowledgement owed for it (`ackOwed`, computed from the inbound QoS 2 identifiers held before) —
provided the broker's Maximum Packet Size admits the five bytes and the control queue has room;
otherwise with nothing (the acknowledgement is not queued and the operation reports the error; for a
QoS 2 PUBLISH nothing else changes either — `C04_unacknowledged_qos2_not_recorded`, the repair of F24 —
so the broker's retransmission is handled as a first arrival). The control queue grows by exactly the recorded actions,
appended at the end, each waiting for its first byte. -/
theorem C04_record_of_a_packet (s : Session) (p : Recv) :
    (s.handle p).1.inlog = s.inlog ++ [⟨some p, ackRecorded s.data s.rt p⟩] ∧
    (s.handle p).1.data.outbound.control =
      s.data.outbound.control ++ (ackRecorded s.data s.rt p).map (fun a => ⟨a, .write 0⟩) ∧
    ackRecorded s.data s.rt p =
      (match ackOwed s.data.pendingServerIds p with
       | none => []
       | some a => if s.rt.packetTooLarge 5 = false ∧ s.data.outbound.control.length < MAX_PENDING_CONTROL then [a] else []) :=
  ⟨handle_record s p, by rw [Session.handle_fst_data]; exact handlePacket_control_exact _ _ _, rfl⟩

/-- **Who writes the inbound log.** Every change the operations make to the session goes through one
of the primitives (`Prim`). Each leaves the inbound log alone, except `handle` (one record appended) and
`activate` on an acceptable CONNACK, which restarts it with the record of the control actions queued at
that moment — none if the CONNACK announces no session (the queue has just been cleared), the queue as
it was if it announces one. -/
theorem C04_inbound_log_written_by {s s' : Session} (h : Prim s s') :
    s'.inlog = s.inlog ∨
    (∃ p, s' = (s.handle p).1 ∧ s'.inlog = s.inlog ++ [⟨some p, ackRecorded s.data s.rt p⟩]) ∨
    (∃ sp block now, s' = (s.activate sp block now).1 ∧ (s.activate sp block now).2 = .ok () ∧
      s'.inlog = [⟨none, s'.data.outbound.control.map PendingControl.action⟩] ∧
      (sp = false → s'.data.outbound.control = []) ∧
      (sp = true → s'.data.outbound.control = s.data.outbound.control)) :=
  h.inlog_changes

/-- **The shape of the inbound log, for all programs.** Only the first record can be the one written by
a CONNACK; every other record is a packet with what `ackRecorded d r` gives for it in *some* session
state `(d, r)`: that fixes the kind and identifier of the acknowledgement (or nothing, in the two failure
cases), not the reason code — `d`, `r` are not tied to the state in which the packet was handled; that
tie is in the one-step statement `C04_inbound_log_written_by`. -/
theorem C04_inbound_log_shape (cfg : Cfg) (ds : List Directive) :
    let s := (ds.foldl World.execDirective { sess := Session.new cfg }).sess
    (∀ rec ∈ s.inlog, ∀ p, rec.pkt = some p → ∃ (d : SessionData) (r : Runtime), rec.acks = ackRecorded d r p) ∧
    (∀ rec ∈ s.inlog.drop 1, rec.pkt ≠ none) := by
  intro s
  have h : InlogOK s := run_inv closed_InlogOK ds { sess := Session.new cfg } (InlogOK_new cfg)
  exact ⟨h.recs, h.carry⟩

/-- **Acknowledgements on the wire, in arrival order.** Run any program from the initial world and let
`w` be the world it ends in. If the connection is live and no operation-local write was dropped on the
current transport, then

    (control actions of the log of the current transport, in log order, PINGREQ left out)
 ++ (control actions of the control-queue entries that are not completely written, in queue order,
     PINGREQ left out)
  = (the control actions of the records of the inbound log, in the order of the records, PINGREQ left out).

The first record lists what was still owed from earlier connections when the CONNACK of this connection
was accepted; every other record is an inbound packet handled on this connection with the
acknowledgement queued for it. -/
theorem C04_acks_on_the_wire (cfg : Cfg) (ds : List Directive) :
    let w := ds.foldl World.execDirective { sess := Session.new cfg }
    w.nets.length ∉ w.tornNets → w.live = true →
    nonPing (ctlActs w.curLog) ++ nonPing w.sess.data.outbound.pendActs = nonPing (w.sess.inlog.flatMap (·.acks)) := by
  intro w hnt hl
  exact (Quiesce.produced cfg ds).winv.acks hnt hl

/-- The definitions used above, spelled out: `ctlActs` keeps the log entries tagged `.control a` and
returns their actions; `pendActs` keeps the control-queue entries whose state is `Write n` (not yet
completely written) and returns their actions; `nonPing` drops actions of type PINGREQ. -/
theorem C04_definitions (l : List LogEntry) (o : Outbound) (as : List ControlAction) :
    ctlActs l = l.filterMap (fun f => match f.tag with | .control a => some a | _ => none) ∧
    o.pendActs = (o.control.filter (fun e => match e.state with | .write _ => true | _ => false)).map (·.action) ∧
    nonPing as = as.filter (fun a => a.typ != MT_PingReq) := by
  refine ⟨?_, ?_, rfl⟩
  · unfold ctlActs
    congr 1
  · unfold Outbound.pendActs
    congr 2

/-- The configuration of `C01Wire_cfg`: its CONNECT has 29 bytes, which the examples drop from the wire. -/
def C04Wire_cfg : Cfg :=
  { rx := 64, tx := 128, keepaliveS := 0, expiry := 300, downgrade := false, clientId := [0x63], auth := none, will := none }

/-- An inbound QoS 1 PUBLISH (id 5), an inbound QoS 2 PUBLISH (id 6) and its PUBREL, each handled and
acknowledged by `poll`; then an inbound QoS 1 PUBLISH (id 7) is delivered and its PUBACK queued, and the
connection is dropped before the PUBACK is written. -/
def C04Wire_prog1 : List Directive :=
  [.connect, .rx [0x20, 0x03, 0x00, 0x00, 0x00], .go,
   .rx [0x32, 0x07, 0x00, 0x01, 0x74, 0x00, 0x05, 0x00, 0x70], .poll, .go, .poll, .go,
   .rx [0x34, 0x07, 0x00, 0x01, 0x74, 0x00, 0x06, 0x00, 0x71], .poll, .go, .poll, .go,
   .rx [0x62, 0x02, 0x00, 0x06], .poll, .go,
   .rx [0x32, 0x07, 0x00, 0x01, 0x74, 0x00, 0x07, 0x00, 0x72], .poll, .go]

/-- The session is resumed and `poll` flushes. -/
def C04Wire_prog2 : List Directive :=
  C04Wire_prog1 ++ [.drop, .connect, .rx [0x20, 0x03, 0x01, 0x00, 0x00], .go, .poll, .go]

/-- Both programs evaluated together: the second continues the first. -/
theorem C04Wire_eval :
    (let w := C04Wire_prog1.foldl World.execDirective { sess := Session.new C04Wire_cfg }
     w.nets.length ∉ w.tornNets ∧ w.live = true ∧
     ctlActs w.curLog = [⟨MT_PubAck, 5, 0⟩, ⟨MT_PubRec, 6, 0⟩, ⟨MT_PubComp, 6, 0⟩] ∧
     w.sess.data.outbound.pendActs = [⟨MT_PubAck, 7, 0⟩] ∧
     w.sess.inlog.map (·.acks) = [[], [⟨MT_PubAck, 5, 0⟩], [⟨MT_PubRec, 6, 0⟩], [⟨MT_PubComp, 6, 0⟩], [⟨MT_PubAck, 7, 0⟩]] ∧
     w.curNet.wire.drop 29 = ([0x40, 0x03, 0x00, 0x05, 0x00, 0x50, 0x03, 0x00, 0x06, 0x00, 0x70, 0x03, 0x00, 0x06, 0x00] : Bytes)) ∧
    (let w := C04Wire_prog2.foldl World.execDirective { sess := Session.new C04Wire_cfg }
     w.nets.length ∉ w.tornNets ∧ w.live = true ∧ w.nets.length = 2 ∧
     ctlActs w.curLog = [⟨MT_PubAck, 7, 0⟩] ∧ w.sess.data.outbound.pendActs = [] ∧
     w.sess.inlog = [⟨none, [⟨MT_PubAck, 7, 0⟩]⟩] ∧
     w.curNet.wire.drop 29 = ([0x40, 0x03, 0x00, 0x07, 0x00] : Bytes)) := by
  decide +kernel

/-- Before the drop: PUBACK 5, PUBREC 6, PUBCOMP 6 are in the log of transport 1, in this order, PUBACK 7
waits in the queue, and the inbound log has the CONNACK record (empty) and the four packets. -/
example :
    let w := C04Wire_prog1.foldl World.execDirective { sess := Session.new C04Wire_cfg }
    w.nets.length ∉ w.tornNets ∧ w.live = true ∧
    ctlActs w.curLog = [⟨MT_PubAck, 5, 0⟩, ⟨MT_PubRec, 6, 0⟩, ⟨MT_PubComp, 6, 0⟩] ∧
    w.sess.data.outbound.pendActs = [⟨MT_PubAck, 7, 0⟩] ∧
    w.sess.inlog.map (·.acks) = [[], [⟨MT_PubAck, 5, 0⟩], [⟨MT_PubRec, 6, 0⟩], [⟨MT_PubComp, 6, 0⟩], [⟨MT_PubAck, 7, 0⟩]] ∧
    w.curNet.wire.drop 29 = ([0x40, 0x03, 0x00, 0x05, 0x00, 0x50, 0x03, 0x00, 0x06, 0x00, 0x70, 0x03, 0x00, 0x06, 0x00] : Bytes) := by
  obtain ⟨h, _⟩ := C04Wire_eval
  exact h

/-- After the resumed reconnect: the inbound log of the new connection starts with the record of the
PUBACK that was still owed, and that PUBACK is the first packet after the CONNECT on the second wire. -/
example :
    let w := C04Wire_prog2.foldl World.execDirective { sess := Session.new C04Wire_cfg }
    w.nets.length ∉ w.tornNets ∧ w.live = true ∧ w.nets.length = 2 ∧
    ctlActs w.curLog = [⟨MT_PubAck, 7, 0⟩] ∧ w.sess.data.outbound.pendActs = [] ∧
    w.sess.inlog = [⟨none, [⟨MT_PubAck, 7, 0⟩]⟩] ∧
    w.curNet.wire.drop 29 = ([0x40, 0x03, 0x00, 0x07, 0x00] : Bytes) := by
  obtain ⟨_, h⟩ := C04Wire_eval
  exact h

end Minimq
