import Minimq.Proofs.NoPanic
/-
C08 (part) — "the client never panics": the two panic sites of the inbound path are never reached.

(a) `process_received_packet` (`session/inbound.rs`) matches the result of `handle_packet` and ends in
    `Err(Error::InvalidRequest | Error::NotReady | Error::WriteZero) => unreachable!(…)`. The model has no
    panic there: `World.processReceivedPacket` passes every error it does not name through. So the arm has
    to be excluded by a theorem: `C08_no_unreachable_arm` (for every session state and every packet —
    no reachability assumption is needed), with the exact list of errors `handle_packet` can return in
    `C08_handle_packet_errors` and, one level up, `C08_process_received_packet_errors`.
    The audit suspected `check_control_packet_size` / `check_pubrel_size` (`checkSize`), which turn an
    encoder failure `Custom` into `InvalidRequest` (`Err.ofSer .custom`): that conversion exists
    (`C08_size_check_invalid_request_needs_custom`), but the two encoders whose result is checked
    (`encodeControl`, `encodePubrel`) never fail at all (`C08_size_check_never_invalid_request`).

(b) `decode_inbound_publish` decodes `buffer[..packet_length]` a second time with
    `.expect("inbound packet must remain decodable")` and `else { unreachable!("inbound event must be a
    PUBLISH") }`. The model's `World.deliver` does the same on `reader.last.take len` and prints the line
    `panic decode_inbound_publish` in the other case. `C08_redecode_is_the_handled_publish`: whenever
    `process_received_packet` returns `Ok(Some(len))`, the second decode yields the very PUBLISH that
    `handle_packet` has just accepted — again for every world. `C08_deliver_never_panics`: in no program
    does a trace line start with `panic`; `C08_no_panic_in_trace` says the same of program texts.
-/
namespace Minimq
open Gen World NoPanic

/-! ## (a) The `unreachable!` arm of `process_received_packet` -/

/-- `handle_packet` returns none of the three errors of the `unreachable!` arm, on any session data and
runtime state. -/
theorem C08_no_unreachable_arm_handlePacket (d : SessionData) (r : Runtime) (p : Recv) :
    (handlePacket d r p).2.2 ≠ .error .invalidRequest ∧ (handlePacket d r p).2.2 ≠ .error .notReady ∧
    (handlePacket d r p).2.2 ≠ .error .writeZero := by
  refine ⟨fun h => ?_, fun h => ?_, fun h => ?_⟩ <;>
    rcases handlePacket_errors d r p _ h with h | h | ⟨_, h⟩ | h | h <;> cases h

/-- **`handle_packet` never returns `InvalidRequest`, `NotReady` or `WriteZero`.** For every session
(data, runtime, reader — whether reachable or not) and every decoded packet, the result that
`process_received_packet` matches on (`Session.handle`, i.e. `SessionData::handle_packet`) is none of the
three errors of the `unreachable!("packet handler returned local I/O state")` arm. -/
theorem C08_no_unreachable_arm (s : Session) (p : Recv) :
    (s.handle p).2 ≠ .error .invalidRequest ∧ (s.handle p).2 ≠ .error .notReady ∧
    (s.handle p).2 ≠ .error .writeZero :=
  C08_no_unreachable_arm_handlePacket s.data s.rt p

/-- **The errors `handle_packet` can return**, for every state and packet: `Disconnected` (broker
DISCONNECT), `Peer(InvalidPacket)` (CONNACK after the handshake, identifier 0 or missing),
`Peer(Rejected(rc))` (a failing reason code in an acknowledgement), `Resource(PacketTooLarge)` (the
five-byte acknowledgement or PUBREL exceeds the broker's Maximum Packet Size),
`Resource(InflightMetadataExhausted)` (control or release queue full). -/
theorem C08_handle_packet_errors (d : SessionData) (r : Runtime) (p : Recv) (e : Err)
    (h : (handlePacket d r p).2.2 = .error e) :
    e = .disconnected ∨ e = .peerInvalid ∨ (∃ rc, e = .peerRejected rc) ∨ e = .packetTooLarge ∨
    e = .inflightExhausted := by
  exact handlePacket_errors d r p e h

/-- **The errors `process_received_packet` can return**, for every world: the same five. In particular
the model's catch-all arm `| .error e => (w, .error e)` — which stands for the two pass-through arms
`Err(Error::Peer(err))`, `Err(Error::Resource(err))` *and* the `unreachable!` arm of the code — is taken
with `Peer(Rejected(rc))` or `Resource(InflightMetadataExhausted)` only. -/
theorem C08_process_received_packet_errors (w : World) (e : Err) (h : (w.processReceivedPacket).2 = .error e) :
    e = .disconnected ∨ e = .peerInvalid ∨ (∃ rc, e = .peerRejected rc) ∨ e = .packetTooLarge ∨
    e = .inflightExhausted := by
  have ho := prp_out w
  generalize w.processReceivedPacket = p at h ho
  cases ho with
  | idle | handled => cases h
  | undecodable => cases h; exact .inr (.inl rfl)
  | closed _ _ _ _ _ hh | passed _ _ _ _ _ hh => cases h; exact handlePacket_errors _ _ _ _ hh

/-- **The size checks never yield `InvalidRequest`.** `check_control_packet_size` for *any* control action
(PUBACK, PUBREC, PUBCOMP, PINGREQ, or an action with an unknown type number) and `check_pubrel_size` for
any identifier and reason code fail with `Resource(PacketTooLarge)` or not at all: the encoders write at
most five bytes into the nine-byte stack buffer and have no failing field. -/
theorem C08_size_check_never_invalid_request (r : Runtime) (a : ControlAction) (id rc : Nat) :
    (∀ e, checkSize r (encodeControl a) = .error e → e = .packetTooLarge) ∧
    (∀ e, checkSize r (encodePubrel id rc) = .error e → e = .packetTooLarge) :=
  ⟨fun _ h => (encodeControl_ok a).elim fun _ hb => checkSize_err hb h, fun _ h => checkSize_err (encodePubrel_eq id rc) h⟩

/-- What the audit saw: `checkSize` does map an encoder failure `Custom` to `InvalidRequest`, and that is
the only way it returns `InvalidRequest` — a way that `encodeControl` / `encodePubrel` never open. -/
theorem C08_size_check_invalid_request_needs_custom (r : Runtime) (enc : Except SerErr Bytes) :
    checkSize r enc = .error .invalidRequest ↔ enc = .error .custom := by
  unfold checkSize
  cases enc with
  | error e => cases e <;> simp [Err.ofSer]
  | ok bs =>
    simp only []
    split <;> simp

/-! ### Non-vacuity: each of the five errors is produced -/

/-- Only so that the examples below can be checked by evaluation. -/
local instance {α : Type} [DecidableEq α] : DecidableEq (Except Err α) := fun a b =>
  match a, b with
  | .ok x, .ok y => if h : x = y then isTrue (by rw [h]) else isFalse (fun e => h (by cases e; rfl))
  | .error x, .error y => if h : x = y then isTrue (by rw [h]) else isFalse (fun e => h (by cases e; rfl))
  | .ok _, .error _ => isFalse (fun e => by cases e)
  | .error _, .ok _ => isFalse (fun e => by cases e)

def C08N_rt : Runtime := { keepaliveMs := 0, configuredKeepaliveMs := 0 }

/-- One QoS 1 PUBLISH (first byte 0x32) with identifier 5 retained and sent. -/
def C08N_d : SessionData :=
  { outbound := { (Outbound.new 16) with
      buf := [0x32, 5, 0, 1, 0x61, 0, 5, 0, 0, 0, 0, 0, 0, 0, 0, 0], used := 7, nextSer := 1,
      retained := [{ id := 5, offset := 0, len := 7, state := .sent, ser := 0 }] } }

/-- Broker DISCONNECT; a second CONNACK; PUBACK(5) with reason 0x87; a QoS 1 PUBLISH when the broker
allows packets of four bytes; a QoS 1 PUBLISH when eight acknowledgements are already queued. -/
example :
    (handlePacket C08N_d C08N_rt (.disconnect none none)).2.2 = .error .disconnected ∧
    (handlePacket C08N_d C08N_rt (.connAck false 0 [])).2.2 = .error .peerInvalid ∧
    (handlePacket C08N_d C08N_rt (.pubAck 5 { code := some 0x87, props := none })).2.2 =
      .error (.peerRejected 0x87) ∧
    (handlePacket C08N_d { C08N_rt with maximumPacketSize := some 4 }
      (.publish [0x61] (some 1) [] [] false 1 false)).2.2 = .error .packetTooLarge ∧
    (handlePacket
      { C08N_d with outbound := { C08N_d.outbound with control := List.replicate 8 ⟨⟨4, 1, 0⟩, .write 0⟩ } }
      C08N_rt (.publish [0x61] (some 1) [] [] false 1 false)).2.2 = .error .inflightExhausted := by
  decide +kernel

/-! ## (b) The second decode in `decode_inbound_publish` -/

/-- **The second decode yields the PUBLISH that was handled.** Whenever `process_received_packet` returns
`Ok(Some(len))` — in any world, reachable or not — the packet `take_packet` handed to `handle_packet` was
a PUBLISH of `len` bytes, and `from_buffer(&buffer[..len])` on what the reader still holds returns that
same PUBLISH: neither the `expect` nor the `unreachable!` of `decode_inbound_publish` can fire.
(`take_packet` resets the counters but leaves the bytes; `handle_packet` has no access to the reader; only
a PUBLISH makes it answer `Ok(true)`.) -/
theorem C08_redecode_is_the_handled_publish {w w' : World} {len : Nat}
    (h : w.processReceivedPacket = (w', .ok (some len))) :
    ∃ topic id props payload retain qos dup,
      w.sess.takePkt.2 = some (len, .publish topic id props payload retain qos dup) ∧
      fromBuffer (w'.sess.reader.last.take len) = some (.publish topic id props payload retain qos dup) := by
  have ho := prp_out w
  rw [h] at ho
  generalize hp : (w', Except.ok (some len)) = p at ho
  cases ho with
  | handled len' pkt deliver _ ht hh =>
    cases deliver with
    | false => cases hp
    | true =>
      cases hp
      obtain ⟨topic, id, props, payload, retain, qos, dup, rfl, h2⟩ := delivered_redecode ht hh
      exact ⟨topic, id, props, payload, retain, qos, dup, ht, h2⟩
  | _ => cases hp

/-- What `poll` / `recv` / `drive` print when `process_received_packet` returns `Ok(Some(len))` is the result line
followed by the description of the PUBLISH that was handled; the fallback arm of `World.deliver` is not taken. -/
theorem C08_delivered_is_the_handled_publish {w w' : World} {len : Nat} (name : String)
    (h : w.processReceivedPacket = (w', .ok (some len))) :
    ∃ topic id props payload retain qos dup,
      w.sess.takePkt.2 = some (len, .publish topic id props payload retain qos dup) ∧
      w'.deliver name len =
        (msgLines topic payload qos retain props).foldl World.emit (w'.finish s!"ret {name} ok msg") := by
  obtain ⟨topic, id, props, payload, retain, qos, dup, h1, h2⟩ := C08_redecode_is_the_handled_publish h
  exact ⟨topic, id, props, payload, retain, qos, dup, h1, deliver_of_publish w' name len h2⟩

/-- **No execution prints a `panic` line.** For every configuration and every sequence of directives
(connects, operations, I/O decisions, clock ticks, inbound bytes, cancellations, drops), no line of the
trace starts with `panic` — in particular `World.deliver` never reaches its fallback arm, i.e.
`decode_inbound_publish` never panics. -/
theorem C08_deliver_never_panics (cfg : Cfg) (ds : List Directive) :
    ∀ l ∈ (ds.foldl World.execDirective { sess := Session.new cfg }).out, l.startsWith "panic" = false :=
  (clean_init cfg).interp (run_interp ds _)

/-- In particular the one line the model can print for a panic is never printed. -/
theorem C08_no_panic_line (cfg : Cfg) (ds : List Directive) :
    "panic decode_inbound_publish" ∉ (ds.foldl World.execDirective { sess := Session.new cfg }).out := by
  exact fun h => not_good_panicLine (C08_deliver_never_panics cfg ds _ h)

/-- The same for program texts as the harness runs them (every line is parsed, executed and followed by the
three state lines; `bad-cfg` and `cfgerr …` included). -/
theorem C08_no_panic_in_trace (text : String) : ∀ l ∈ runProgram text, l.startsWith "panic" = false :=
  runProgram_lines (Q := Good) text (good_of_head 'b') (good_of_head 'c') fun cfg ls _ =>
    lines_ind (fun w d h => h.interp (exec_interp w d)) clean_emitState ls (clean_init cfg)

/-- The same from any world whose trace is clean so far (for instance a hand-made one). -/
theorem C08_no_panic_from (w : World) (ds : List Directive) (h : ∀ l ∈ w.out, l.startsWith "panic" = false) :
    ∀ l ∈ (ds.foldl World.execDirective w).out, l.startsWith "panic" = false :=
  Clean.interp (run_interp ds w) h

/-- The property is about something: the line of the fallback arm does start with `panic`, and `deliver`
prints it when the bytes the reader holds are not a PUBLISH (here: a world nobody reaches, with an empty
reader). -/
example : ("panic decode_inbound_publish").startsWith "panic" = true := by decide +kernel

def C08P_cfg : Cfg :=
  { rx := 64, tx := 64, keepaliveS := 0, expiry := 0, downgrade := false, clientId := [0x63], auth := none,
    will := none }

example : (World.deliver { sess := Session.new C08P_cfg } "recv" 7).out.head? =
    some "panic decode_inbound_publish" := by
  decide +kernel

/-- `connect`; the broker's CONNACK; `go`; `recv`; a QoS 0 PUBLISH of `p` to topic `a`; `go`. As program
text: `connect`, `rx 2003000000`, `go`, `recv`, `rx 30050001610070`, `go` (the real crate prints the same
33 lines). -/
def C08P_prog : List Directive :=
  [.connect, .rx [0x20, 0x03, 0x00, 0x00, 0x00], .go, .recv, .rx [0x30, 0x05, 0x00, 0x01, 0x61, 0x00, 0x70], .go]

def C08P_out : List String := (C08P_prog.foldl World.execDirective { sess := Session.new C08P_cfg }).out

/-- The program delivers the PUBLISH (`deliver` runs: result line and `msg` line are there) and prints no
`panic` line. -/
example :
    "ret recv ok msg @0" ∈ C08P_out ∧
    "msg topic=61 payload=70 qos=0 retain=0 props=- iter=- rt=none cd=none" ∈ C08P_out ∧
    C08P_out.length = 33 ∧
    (C08P_out.all fun l => !l.startsWith "panic") = true := by
  decide +kernel

/-- The hypothesis of `C08_redecode_is_the_handled_publish` is satisfiable: the world of that program just
before the last `go` finishes reading — here built by hand: the seven bytes of the PUBLISH are in the
reader, whose length probe has run. -/
def C08P_w : World :=
  { sess := { Session.new C08P_cfg with
      reader := { cap := 64, data := [0x30, 0x05, 0x00, 0x01, 0x61, 0x00, 0x70], packetLength := some 7, last := [] } },
    conn := some { live := true, resumed := false }, nets := [{}] }

example : (C08P_w.processReceivedPacket).2 = .ok (some 7) ∧
    fromBuffer ((C08P_w.processReceivedPacket).1.sess.reader.last.take 7) =
      some (.publish [0x61] none [] [0x70] false 0 false) := by
  decide +kernel

end Minimq
