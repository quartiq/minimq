import Minimq.Proofs.Packets
import Minimq.Proofs.Exchange
import Minimq.Proofs.Decode
/-
C04 — inbound publishes: delivered faithfully, acknowledged in arrival order, QoS 2 only once.

`handlePacket d r p` returns the new session data, the new runtime and `Ok(deliver)` or an error;
`.ok true` means "hand the PUBLISH to the application" (`process_received_packet` → `Ok(Some(len))`).
The list `pendingServerIds` (`pending_server_packet_ids`) holds the identifiers of inbound QoS 2
publishes that were delivered and whose PUBREL has not arrived yet.

The acknowledgements owed to the broker are `ControlAction`s appended to `Outbound.control`; they are
encoded from the action into a 9-byte stack buffer when they are transmitted (`encodeControl`), never
into the transmit arena.

F24 (a defect repaired in the crate; the model follows the repair). The identifier of an inbound QoS 2 PUBLISH is
recorded only after its PUBREC has been queued. Recorded before the size check and `queue_control`, it would stay
recorded on either failure exit (`PacketTooLarge`: the broker's Maximum Packet Size is below the five bytes of a
PUBREC, the connection is closed; `InflightExhausted`: the control queue is full) although the publish was neither
delivered nor acknowledged, and the broker's retransmission — on the resumed session — would be taken for a duplicate
and swallowed: the message lost. So on both failure exits the session data is unchanged
(`C04_unacknowledged_qos2_not_recorded`), an identifier enters the list only in a step that queues its
PUBREC and delivers the publish (`C04_recorded_only_with_pubrec`, `C04_recorded_ids_were_acknowledged`),
and the history that witnessed the loss delivers the message on the retransmission
(`C04_example_F24_retransmission_delivered`).
-/
namespace Minimq
open Gen Outbound

/-- **QoS 0**: delivered, nothing changes, nothing is owed. -/
theorem C04_qos0_delivered (d : SessionData) (r : Runtime) (t : Bytes) (id : Option Nat) (pr pl : Bytes)
    (rt dup : Bool) : handlePacket d r (.publish t id pr pl rt 0 dup) = (d, r, .ok true) :=
  handlePacket_publish0 d r t id pr pl rt dup

/-- A QoS 1/2 PUBLISH without a packet identifier, or with identifier 0, is a protocol error: nothing is
delivered and nothing changes. -/
theorem C04_missing_identifier (d : SessionData) (r : Runtime) (t pr pl : Bytes) (rt dup : Bool) (qos : Nat)
    (hq : qos ≠ 0) :
    handlePacket d r (.publish t none pr pl rt qos dup) = (d, r, .error .peerInvalid) ∧
    handlePacket d r (.publish t (some 0) pr pl rt qos dup) = (d, r, .error .peerInvalid) :=
  handlePacket_publish_noid d r t pr pl rt dup qos hq

/-- **The three outcomes of owing the broker an acknowledgement `a`** (`ackOutcome`), with the exact
conditions: the broker's Maximum Packet Size is below the five bytes of an acknowledgement → error
`PacketTooLarge`, nothing changes; otherwise, if the control queue has a free slot, `a` is appended at
its END (arrival order) in the fresh state and the result is `Ok(deliver)`; otherwise error
`InflightExhausted` and the outbound state is unchanged. -/
theorem C04_ack_outcome (d : SessionData) (r : Runtime) (a : ControlAction) (deliver : Bool) :
    (r.packetTooLarge 5 = true → ackOutcome d r a deliver = (d, r, .error .packetTooLarge)) ∧
    (r.packetTooLarge 5 = false → d.outbound.control.length < MAX_PENDING_CONTROL →
      ackOutcome d r a deliver =
        ({ d with outbound := { d.outbound with
            control := d.outbound.control ++ [{ action := a, state := .write 0 }] } }, r, .ok deliver)) ∧
    (r.packetTooLarge 5 = false → ¬ d.outbound.control.length < MAX_PENDING_CONTROL →
      ackOutcome d r a deliver = (d, r, .error .inflightExhausted)) := by
  unfold ackOutcome
  refine ⟨fun h => by simp [h], fun h1 h2 => by simp [h1, h2, SessionData.withControl], fun h1 h2 => by simp [h1, h2]⟩

/-- **QoS 1** (identifier ≠ 0): the outcome is that of owing a PUBACK with the same identifier, and the
publish is delivered exactly when the PUBACK could be queued. The reason code is Success, or Packet
Identifier In Use (0x91) when the identifier is that of a QoS 2 publish still awaiting its PUBREL — the
publish is delivered in that case too. -/
theorem C04_qos1 (d : SessionData) (r : Runtime) (t : Bytes) (id : Nat) (pr pl : Bytes) (rt dup : Bool)
    (hid : id ≠ 0) :
    handlePacket d r (.publish t (some id) pr pl rt 1 dup) =
      ackOutcome d r { typ := MT_PubAck, id := id, rc := qos1Rc d.pendingServerIds id } true :=
  handlePacket_publish1 d r t id pr pl rt dup hid

/-- QoS 1, the normal case spelled out: delivered, and exactly one PUBACK with the same identifier and
reason Success appended at the end of the control queue; nothing else changes. -/
theorem C04_qos1_delivered_and_acked (d : SessionData) (r : Runtime) (t : Bytes) (id : Nat) (pr pl : Bytes)
    (rt dup : Bool) (hid : id ≠ 0) (hsz : r.packetTooLarge 5 = false)
    (hroom : d.outbound.control.length < MAX_PENDING_CONTROL) (hfree : d.pendingServerIds.contains id = false) :
    handlePacket d r (.publish t (some id) pr pl rt 1 dup) =
      ({ d with outbound := { d.outbound with control := d.outbound.control ++
          [{ action := { typ := MT_PubAck, id := id, rc := RC_Success }, state := .write 0 }] } }, r, .ok true) := by
  rw [C04_qos1 d r t id pr pl rt dup hid, (C04_ack_outcome d r _ true).2.1 hsz hroom]
  simp only [qos1Rc, hfree, Bool.false_eq_true, if_false]

/-- **The three outcomes of owing the PUBREC for an inbound QoS 2 PUBLISH** (`ackOutcome2`): as
`C04_ack_outcome`, and the list of inbound QoS 2 identifiers becomes `ids` exactly in the case in which
the PUBREC is queued; on the two error exits the session data is unchanged altogether. -/
theorem C04_ack_outcome2 (d : SessionData) (r : Runtime) (a : ControlAction) (deliver : Bool) (ids : List Nat) :
    (r.packetTooLarge 5 = true → ackOutcome2 d r a deliver ids = (d, r, .error .packetTooLarge)) ∧
    (r.packetTooLarge 5 = false → d.outbound.control.length < MAX_PENDING_CONTROL →
      ackOutcome2 d r a deliver ids =
        ({ d with pendingServerIds := ids, outbound := { d.outbound with
            control := d.outbound.control ++ [{ action := a, state := .write 0 }] } }, r, .ok deliver)) ∧
    (r.packetTooLarge 5 = false → ¬ d.outbound.control.length < MAX_PENDING_CONTROL →
      ackOutcome2 d r a deliver ids = (d, r, .error .inflightExhausted)) := by
  unfold ackOutcome2
  refine ⟨fun h => by simp [h], fun h1 h2 => by simp [h1, h2, SessionData.withControl], fun h1 h2 => by simp [h1, h2]⟩

/-- **QoS 2** (identifier ≠ 0; `qos` is 2 for every decoded packet): a PUBREC with the same identifier
is owed — reason Success if the identifier is already pending or there is room for it, Receive Maximum
Exceeded otherwise (`(qos2Ids ..).2`) — and only if it can be queued is the identifier list updated
(`(qos2Ids ..).1`: unchanged if the identifier is already pending; else appended if there is room; else
unchanged). The publish is delivered iff the identifier was not pending and there was room for it — and
the PUBREC could be queued. -/
theorem C04_qos2 (d : SessionData) (r : Runtime) (t : Bytes) (id : Nat) (pr pl : Bytes) (rt dup : Bool) (qos : Nat)
    (hid : id ≠ 0) (hq0 : qos ≠ 0) (hq1 : qos ≠ 1) :
    handlePacket d r (.publish t (some id) pr pl rt qos dup) =
      ackOutcome2 d r { typ := MT_PubRec, id := id, rc := (qos2Ids d.pendingServerIds id).2 }
        (!d.pendingServerIds.contains id && decide (d.pendingServerIds.length < MAX_INBOUND_QOS2))
        (qos2Ids d.pendingServerIds id).1 :=
  handlePacket_publish2 d r t id pr pl rt dup qos hid hq0 hq1

/-- QoS 2, first arrival: the identifier is recorded, PUBREC(Success) is appended at the end of the
control queue, the publish is delivered. -/
theorem C04_qos2_first (d : SessionData) (r : Runtime) (t : Bytes) (id : Nat) (pr pl : Bytes) (rt dup : Bool)
    (hid : id ≠ 0) (hsz : r.packetTooLarge 5 = false) (hroom : d.outbound.control.length < MAX_PENDING_CONTROL)
    (hnew : d.pendingServerIds.contains id = false) (hcap : d.pendingServerIds.length < MAX_INBOUND_QOS2) :
    handlePacket d r (.publish t (some id) pr pl rt 2 dup) =
      ({ d with pendingServerIds := d.pendingServerIds ++ [id],
                outbound := { d.outbound with control := d.outbound.control ++
                  [{ action := { typ := MT_PubRec, id := id, rc := RC_Success }, state := .write 0 }] } },
        r, .ok true) := by
  rw [C04_qos2 d r t id pr pl rt dup 2 hid (by decide) (by decide),
    (C04_ack_outcome2 d r _ _ _).2.1 hsz hroom]
  have hm : id ∉ d.pendingServerIds := by simpa using hnew
  simp [qos2Ids, hm, hcap]

/-- QoS 2, retransmission while the identifier is pending (also after any number of resumed
reconnects, see `C04_pending_ids_survive`): PUBREC(Success) is queued again, the publish is NOT
delivered again, the identifier list is unchanged. -/
theorem C04_qos2_duplicate (d : SessionData) (r : Runtime) (t : Bytes) (id : Nat) (pr pl : Bytes) (rt dup : Bool)
    (hid : id ≠ 0) (hsz : r.packetTooLarge 5 = false) (hroom : d.outbound.control.length < MAX_PENDING_CONTROL)
    (hdup : d.pendingServerIds.contains id = true) :
    handlePacket d r (.publish t (some id) pr pl rt 2 dup) =
      ({ d with outbound := { d.outbound with control := d.outbound.control ++
          [{ action := { typ := MT_PubRec, id := id, rc := RC_Success }, state := .write 0 }] } }, r, .ok false) := by
  rw [C04_qos2 d r t id pr pl rt dup 2 hid (by decide) (by decide),
    (C04_ack_outcome2 d r _ _ _).2.1 hsz hroom]
  have hm : id ∈ d.pendingServerIds := by simpa using hdup
  simp [qos2Ids, hm]

/-- QoS 2 beyond the advertised Receive Maximum (the list is full and the identifier is new): PUBREC
with reason Receive Maximum Exceeded (0x93), not delivered, not recorded. -/
theorem C04_qos2_overflow (d : SessionData) (r : Runtime) (t : Bytes) (id : Nat) (pr pl : Bytes) (rt dup : Bool)
    (hid : id ≠ 0) (hsz : r.packetTooLarge 5 = false) (hroom : d.outbound.control.length < MAX_PENDING_CONTROL)
    (hnew : d.pendingServerIds.contains id = false) (hfull : ¬ d.pendingServerIds.length < MAX_INBOUND_QOS2) :
    handlePacket d r (.publish t (some id) pr pl rt 2 dup) =
      ({ d with outbound := { d.outbound with control := d.outbound.control ++
          [{ action := { typ := MT_PubRec, id := id, rc := RC_ReceiveMaxExceeded }, state := .write 0 }] } },
        r, .ok false) := by
  rw [C04_qos2 d r t id pr pl rt dup 2 hid (by decide) (by decide),
    (C04_ack_outcome2 d r _ _ _).2.1 hsz hroom]
  have hm : id ∉ d.pendingServerIds := by simpa using hnew
  simp [qos2Ids, hm, hfull]

/-- **PUBREL** (identifier ≠ 0; identifier 0 is a protocol error): a PUBCOMP with the same identifier is
owed, never delivered to the application — reason Success if the identifier was pending (and it is
then removed from the list by `swap_remove`), Packet Identifier Not Found (0x92) otherwise. -/
theorem C04_pubrel (d : SessionData) (r : Runtime) (id : Nat) (rs : ReasonIn) (hid : id ≠ 0) :
    handlePacket d r (.pubRel id rs) =
      if d.pendingServerIds.contains id then
        ackOutcome { d with pendingServerIds := handlePacket.swapRemove d.pendingServerIds id } r
          { typ := MT_PubComp, id := id, rc := RC_Success } false
      else ackOutcome d r { typ := MT_PubComp, id := id, rc := RC_PacketIdNotFound } false :=
  handlePacket_pubRel d r id rs hid

theorem C04_pubrel_zero (d : SessionData) (r : Runtime) (rs : ReasonIn) :
    handlePacket d r (.pubRel 0 rs) = (d, r, .error .peerInvalid) :=
  handlePacket_pubRel0 d r rs

/-- `swap_remove` changes the order of the pending identifiers but not which ones remain: the result is
a permutation of the list with (the first occurrence of) `id` erased; with distinct identifiers
(`C04_pending_ids_distinct`) exactly the others stay. -/
theorem C04_pubrel_forgets_exactly_that_id (l : List Nat) (id : Nat) (hm : id ∈ l) :
    (handlePacket.swapRemove l id).Perm (l.erase id) ∧
    (l.Nodup → ∀ x, x ∈ handlePacket.swapRemove l id ↔ x ∈ l ∧ x ≠ id) := by
  refine ⟨swapRemove_perm l id hm, fun hn x => ?_⟩
  rw [(swapRemove_perm l id hm).mem_iff, hn.mem_erase_iff]
  exact ⟨fun ⟨a, b⟩ => ⟨b, a⟩, fun ⟨a, b⟩ => ⟨b, a⟩⟩

/-- **The acknowledgements do not need the arena**: whether `queue_control` succeeds depends on nothing
but the length of the control queue, and it changes nothing but that queue — whatever the retained list,
`used` and the buffer are (no free slot, no free byte). -/
theorem C04_acks_need_no_arena (o : Outbound) (a : ControlAction) :
    o.queueControl a = (if o.control.length < MAX_PENDING_CONTROL then
      some { o with control := o.control ++ [{ action := a, state := .write 0 }] } else none) ∧
    (∀ o' : Outbound, o'.control = o.control → (o'.queueControl a).isSome = (o.queueControl a).isSome) := by
  refine ⟨queueControl_eq o a, fun o' h => ?_⟩
  rw [queueControl_eq, queueControl_eq, h]
  split <;> rfl

/-- What is written for an owed PUBACK / PUBREC / PUBCOMP: five bytes, which the reference parser reads
back as that packet type with exactly the identifier and reason code of the action. -/
theorem C04_ack_bytes (a : ControlAction) (h : a.typ = MT_PubAck ∨ a.typ = MT_PubRec ∨ a.typ = MT_PubComp) :
    encodeControl a = .ok (controlBytes a) ∧ (controlBytes a).length = 5 ∧
    (0 < a.id ∧ a.id < 65536 → a.rc < 256 → ∀ rest,
      Spec.parseClientPacket (controlBytes a ++ rest) = some (.ack a.typ a.id a.rc [], rest)) := by
  refine ⟨encodeControl_ack a h, rfl, fun hid hrc rest =>
    ack_roundtrip _ _ a.typ 0 a.id a.rc _ rest ?_ ?_ hid hrc (ackChunks_encode a.typ 0 a.id a.rc)⟩
  · rcases h with h | h | h <;> rw [h] <;> simp [MT_PubAck, MT_PubRec, MT_PubComp]
  · rcases h with h | h | h <;> rw [h] <;> simp [MT_PubAck, MT_PubRec, MT_PubComp]

/-- `flush_control` only removes entries from the control queue: the acknowledgements that remain keep their
order (the next one transmitted is the first fresh one, `nextStepPrio_control`). -/
theorem C04_ack_order_kept (o : Outbound) (a : ControlAction) :
    ((o.flushControl a).control.map (·.action)).Sublist (o.control.map (·.action)) := by
  simp only [flushControl]
  rw [← acts_modifyFirst_state (fun e => e.action == a) .sent o.control]
  exact (List.filter_sublist).map _

/-- **The pending identifiers change only on an inbound QoS 2 PUBLISH whose PUBREC is queued, and on an
inbound PUBREL.** -/
theorem C04_pending_ids_changed_only_by (d : SessionData) (r : Runtime) (p : Recv) :
    (handlePacket d r p).1.pendingServerIds =
      match p with
      | .publish _ (some id) _ _ _ qos _ =>
        if qos = 0 ∨ qos = 1 ∨ id = 0 then d.pendingServerIds
        else if r.packetTooLarge 5 = false ∧ d.outbound.control.length < MAX_PENDING_CONTROL then
          (qos2Ids d.pendingServerIds id).1
        else d.pendingServerIds
      | .pubRel id _ =>
        if id ≠ 0 ∧ d.pendingServerIds.contains id then handlePacket.swapRemove d.pendingServerIds id
        else d.pendingServerIds
      | _ => d.pendingServerIds :=
  (handlePacket_frame d r p).ids

/-- **…and survive everything else**: every primitive step of the session either leaves the list alone
(this includes `arm_replay`, i.e. every disconnect and every connect, and the CONNACK of a resumed
session), or handles an inbound packet, or is the CONNACK of a fresh broker session — which empties
it. -/
theorem C04_pending_ids_survive {s s' : Session} (st : SessStep s s') :
    s'.data.pendingServerIds = s.data.pendingServerIds ∨ (∃ p, s' = (s.handle p).1) ∨
    (∃ block now, s' = (s.activate false block now).1 ∧ s'.data.pendingServerIds = []) := by
  rcases st.classify with hq | h | ⟨block, now, rfl⟩
  · exact Or.inl hq.pending
  · exact Or.inr (Or.inl h)
  · exact Or.inr (Or.inr ⟨block, now, rfl, (activate_false_data s block now).2.1⟩)

theorem C04_fresh_session_forgets (d : SessionData) : d.reset.pendingServerIds = [] := rfl

/-- `pendingServerIds` is a field of `SessionData` beside `outbound`, and `arm_replay` works on `outbound`
only: the statement is a record projection and holds of any replacement of `outbound`, it says nothing of
`armReplay` itself. -/
theorem C04_armReplay_keeps (d : SessionData) :
    ({ d with outbound := d.outbound.armReplay } : SessionData).pendingServerIds = d.pendingServerIds := rfl

/-- In every reachable state the pending identifiers are pairwise distinct and at most
`MAX_INBOUND_QOS2` (the Receive Maximum announced in CONNECT). -/
theorem C04_pending_ids_distinct (cfg : Cfg) (ds : List Directive) :
    let d := (ds.foldl World.execDirective { sess := Session.new cfg }).sess.data
    d.pendingServerIds.Nodup ∧ d.pendingServerIds.length ≤ MAX_INBOUND_QOS2 :=
  run_inv closed_PendingInv ds { sess := Session.new cfg } ⟨by simp [Session.new], by simp [Session.new]⟩

def publishFlags (retain : Bool) (qos : Nat) (dup : Bool) : Nat :=
  (if dup then 8 else 0) + qos * 2 + (if retain then 1 else 0)

def brokerPublishBody (topic : Bytes) (id : Option Nat) (props payload : Bytes) : Bytes :=
  u16be topic.length ++ (topic ++ ((match id with
    | some i => u16be i
    | none => []) ++ (encodeVarint props.length ++ (props ++ payload))))

/-- A PUBLISH packet as a broker writes it (local reference encoder): fixed header with DUP, QoS and
RETAIN, remaining length, topic, packet identifier (QoS > 0 only), property block, payload. -/
def brokerPublish (topic : Bytes) (id : Option Nat) (props payload : Bytes) (retain : Bool) (qos : Nat) (dup : Bool) :
    Bytes :=
  b (MT_Publish * 16 + publishFlags retain qos dup) ::
    (encodeVarint (brokerPublishBody topic id props payload).length ++ brokerPublishBody topic id props payload)

theorem brokerPublishBody_eq (topic : Bytes) (id : Option Nat) (props payload : Bytes) (retain : Bool)
    (qos : Nat) (dup : Bool) (hpl : props.length ≤ MQTT_VARINT_MAX) :
    brokerPublishBody topic id props payload = Spec.body (.publish topic qos retain dup id props payload) := by
  simp only [brokerPublishBody, Spec.body, Spec.encStr, Spec.encProps, encVarint_eq _ hpl, encU16_eq, List.append_assoc]
  cases id <;> rfl

theorem brokerPublish_eq (topic : Bytes) (id : Option Nat) (props payload : Bytes) (retain : Bool)
    (qos : Nat) (dup : Bool) (hpl : props.length ≤ MQTT_VARINT_MAX)
    (hbl : (brokerPublishBody topic id props payload).length ≤ MQTT_VARINT_MAX) :
    brokerPublish topic id props payload retain qos dup =
      Spec.encodeServer (.publish topic qos retain dup id props payload) := by
  unfold brokerPublish Spec.encodeServer Spec.firstByte
  rw [← brokerPublishBody_eq topic id props payload retain qos dup hpl, encVarint_eq _ hbl, byte_eq_b]
  congr 2
  simp only [MT_Publish, publishFlags]; omega

/-- **Exactly as sent**: `from_buffer` applied to a PUBLISH as a broker writes it (`brokerPublish`, a
local reference encoder) returns the topic, packet identifier, raw property block, payload, RETAIN, QoS
and DUP of the packet — for every well-formed PUBLISH (QoS ≤ 2; identifier present exactly when QoS > 0;
UTF-8 topic below 65536 bytes; lengths within the MQTT limit). -/
theorem C04_decode_publish (topic : Bytes) (id : Option Nat) (props payload : Bytes) (retain : Bool)
    (qos : Nat) (dup : Bool) (hq : qos ≤ 2)
    (hid : match id with
      | some i => 0 < qos ∧ i < 65536
      | none => qos = 0)
    (htl : topic.length < 65536) (htv : validUtf8 topic = true)
    (hpl : props.length ≤ MQTT_VARINT_MAX)
    (hbl : (brokerPublishBody topic id props payload).length ≤ MQTT_VARINT_MAX) :
    fromBuffer (brokerPublish topic id props payload retain qos dup) =
      some (.publish topic id props payload retain qos dup) := by
  rw [brokerPublish_eq topic id props payload retain qos dup hpl hbl]
  apply accept_all (.publish topic qos retain dup id props payload)
  rw [brokerPublishBody_eq topic id props payload retain qos dup hpl] at hbl
  simp only [Spec.ServerPacket.wf, Bool.and_eq_true, decide_eq_true_eq]
  refine ⟨hbl, ⟨⟨by omega, htv⟩, hq⟩, ?_⟩
  cases id with
  | none => exact decide_eq_true hid
  | some i => simp only [Bool.and_eq_true, decide_eq_true_eq]; exact hid

/-- A state with one QoS 2 identifier pending, one acknowledgement queued and a full retained list. -/
def C04_ex : SessionData :=
  { outbound := { (Outbound.new 8) with
      control := [{ action := { typ := MT_PubAck, id := 3, rc := 0 }, state := .sent }],
      retained := List.replicate 8 { id := 1, offset := 0, len := 1, state := .sent } },
    pendingServerIds := [7] }

def C04_rt : Runtime := { keepaliveMs := 0, configuredKeepaliveMs := 0 }

/-- Non-vacuity of `C04_qos2_first`, `C04_qos2_duplicate`, `C04_pubrel` (retained list full). -/
example :
    (handlePacket C04_ex C04_rt (.publish [0x61] (some 9) [] [1] false 2 false)).2.2 = .ok true ∧
    (handlePacket C04_ex C04_rt (.publish [0x61] (some 9) [] [1] false 2 false)).1.pendingServerIds = [7, 9] ∧
    (handlePacket C04_ex C04_rt (.publish [0x61] (some 7) [] [1] false 2 true)).2.2 = .ok false ∧
    ((handlePacket C04_ex C04_rt (.publish [0x61] (some 7) [] [1] false 2 true)).1.outbound.control.map (·.action)) =
      [{ typ := MT_PubAck, id := 3, rc := 0 }, { typ := MT_PubRec, id := 7, rc := 0 }] ∧
    (handlePacket C04_ex C04_rt (.pubRel 7 { code := none, props := none })).1.pendingServerIds = [] ∧
    ((handlePacket C04_ex C04_rt (.pubRel 8 { code := none, props := none })).1.outbound.control.map (·.action)) =
      [{ typ := MT_PubAck, id := 3, rc := 0 }, { typ := MT_PubComp, id := 8, rc := RC_PacketIdNotFound }] := by
  refine ⟨?_, ?_, ?_, ?_, ?_, ?_⟩ <;> first | rfl | decide

/-- Non-vacuity of `C04_decode_publish`: a QoS 1 retained PUBLISH of topic "a" with identifier 0x0102,
an empty property block and payload `05 06`. -/
example : brokerPublish [0x61] (some 0x0102) [] [5, 6] true 1 false = [0x33, 8, 0, 1, 0x61, 1, 2, 0, 5, 6] ∧
    fromBuffer [0x33, 8, 0, 1, 0x61, 1, 2, 0, 5, 6] = some (.publish [0x61] (some 0x0102) [] [5, 6] true 1 false) := by
  decide +kernel

/-- A control queue with all `MAX_PENDING_CONTROL` slots taken (eight unsent acknowledgements). -/
def C04_full : SessionData :=
  { outbound := { (Outbound.new 8) with
      control := List.replicate 8 { action := { typ := MT_PubAck, id := 3, rc := 0 }, state := .write 0 } } }

/-- **An inbound QoS 2 PUBLISH whose PUBREC cannot be queued leaves no trace** (repair of F24). If the
broker's Maximum Packet Size is below the five bytes of a PUBREC, or the control queue is full, handling
the PUBLISH changes neither the session data nor the runtime and reports the error (`PacketTooLarge`,
after which `process_received_packet` closes the connection, resp. `InflightExhausted`). In particular
the identifier is not recorded, so the broker's retransmission — on this or on a later, resumed
connection — is handled as a first arrival. -/
theorem C04_unacknowledged_qos2_not_recorded (d : SessionData) (r : Runtime) (t : Bytes) (id : Nat) (pr pl : Bytes)
    (rt dup : Bool) (qos : Nat) (hid : id ≠ 0) (hq0 : qos ≠ 0) (hq1 : qos ≠ 1) :
    (r.packetTooLarge 5 = true →
      handlePacket d r (.publish t (some id) pr pl rt qos dup) = (d, r, .error .packetTooLarge)) ∧
    (r.packetTooLarge 5 = false → ¬ d.outbound.control.length < MAX_PENDING_CONTROL →
      handlePacket d r (.publish t (some id) pr pl rt qos dup) = (d, r, .error .inflightExhausted)) := by
  rw [C04_qos2 d r t id pr pl rt dup qos hid hq0 hq1]
  exact ⟨(C04_ack_outcome2 d r _ _ _).1, (C04_ack_outcome2 d r _ _ _).2.2⟩

/-- **An identifier is recorded only together with its PUBREC.** If handling an inbound packet puts an
identifier into the list that was not there, the packet is a QoS 2 PUBLISH with that identifier, the
PUBREC with reason Success for it was appended to the control queue in this same step, and the publish
is delivered to the application. -/
theorem C04_recorded_only_with_pubrec (d : SessionData) (r : Runtime) (p : Recv) (id : Nat)
    (hnew : id ∈ (handlePacket d r p).1.pendingServerIds) (hold : id ∉ d.pendingServerIds) :
    (∃ t pr pl rt qos dup, p = .publish t (some id) pr pl rt qos dup ∧ qos ≠ 0 ∧ qos ≠ 1) ∧ id ≠ 0 ∧
    (handlePacket d r p).1.outbound.control = d.outbound.control ++
      [{ action := { typ := MT_PubRec, id := id, rc := RC_Success }, state := .write 0 }] ∧
    (handlePacket d r p).2.2 = .ok true ∧
    (handlePacket d r p).1.pendingServerIds = d.pendingServerIds ++ [id] := by
  have hp := C04_pending_ids_changed_only_by d r p
  -- in every case but one the list stays as it was, or only loses an entry
  have same : (handlePacket d r p).1.pendingServerIds = d.pendingServerIds → False := fun e => hold (e ▸ hnew)
  cases p with
  | publish t i pr pl rt qos dup =>
    cases i with
    | none => exact (same hp).elim
    | some i =>
      simp only [] at hp
      by_cases h1 : qos = 0 ∨ qos = 1 ∨ i = 0
      · exact (same (by rw [hp, if_pos h1])).elim
      by_cases h2 : r.packetTooLarge 5 = false ∧ d.outbound.control.length < MAX_PENDING_CONTROL
      · rw [if_neg h1, if_pos h2] at hp
        unfold qos2Ids at hp
        by_cases hc : d.pendingServerIds.contains i = true
        · exact (same (by rw [hp, if_pos hc])).elim
        by_cases hl : d.pendingServerIds.length < MAX_INBOUND_QOS2
        · -- the one case: a new identifier, room in the list, and the PUBREC queued
          rw [if_neg hc, if_pos hl] at hp
          obtain rfl : id = i := by
            rw [hp] at hnew
            rcases List.mem_append.1 hnew with hm | hm
            · exact absurd hm hold
            · simpa using hm
          simp only [not_or] at h1
          have he := C04_qos2 d r t id pr pl rt dup qos h1.2.2 h1.1 h1.2.1
          rw [(C04_ack_outcome2 d r _ _ _).2.1 h2.1 h2.2] at he
          refine ⟨⟨t, pr, pl, rt, qos, dup, rfl, h1.1, h1.2.1⟩, h1.2.2, ?_, ?_, hp⟩
          · rw [he]; simp [qos2Ids, hold, hl]
          · rw [he]; simp [hold, hl]
        · exact (same (by rw [hp, if_neg hc, if_neg hl])).elim
      · exact (same (by rw [hp, if_neg h1, if_neg h2])).elim
  | pubRel i rs =>
    simp only [] at hp
    by_cases hc : i ≠ 0 ∧ d.pendingServerIds.contains i = true
    · have hm : i ∈ d.pendingServerIds := by simpa using hc.2
      rw [hp, if_pos hc] at hnew
      exact absurd (List.mem_of_mem_erase ((swapRemove_perm _ i hm).mem_iff.1 hnew)) hold
    · exact (same (by rw [hp, if_neg hc])).elim
  | _ => exact (same hp).elim

theorem Reach.pending_gain {I : Session → Prop} {s0 s : Session} (h : Reach I s0 s) {id : Nat}
    (h1 : id ∉ s0.data.pendingServerIds) (h2 : id ∈ s.data.pendingServerIds) :
    ∃ a b, Reach I s0 a ∧ SessStep a b ∧ Reach I b s ∧ id ∉ a.data.pendingServerIds ∧ id ∈ b.data.pendingServerIds :=
  h.first_change (P := fun s => id ∉ s.data.pendingServerIds) h1 (Decidable.not_not.2 h2)
    fun _ _ hb => Decidable.not_not.1 hb

/-- **Every recorded identifier was acknowledged and delivered, for all programs.** After any program,
for every identifier in `pending_server_packet_ids` the execution contains one particular primitive step
`a → b` — the handling of an inbound QoS 2 PUBLISH with that identifier — in which the identifier was
recorded, the PUBREC (reason Success) for it was appended to the control queue, and the publish was
handed to the application. -/
theorem C04_recorded_ids_were_acknowledged (cfg : Cfg) (ds : List Directive) :
    let s := (ds.foldl World.execDirective { sess := Session.new cfg }).sess
    ∀ id ∈ s.data.pendingServerIds,
      ∃ a b p, Reach (fun _ => True) (Session.new cfg) a ∧ b = (a.handle p).1 ∧ Reach (fun _ => True) b s ∧
        (∃ t pr pl rt qos dup, p = .publish t (some id) pr pl rt qos dup ∧ qos ≠ 0 ∧ qos ≠ 1) ∧
        b.data.outbound.control = a.data.outbound.control ++
          [{ action := { typ := MT_PubRec, id := id, rc := RC_Success }, state := .write 0 }] ∧
        (a.handle p).2 = .ok true ∧ id ∉ a.data.pendingServerIds := by
  intro s id hid
  have hr : Reach (fun _ => True) (Session.new cfg) s :=
    run_reach closed_true ds { sess := Session.new cfg } trivial
  obtain ⟨a, b, r1, st, r2, ha, hb⟩ := hr.pending_gain (by simp [Session.new]) hid
  rcases st.classify with hq | ⟨p, rfl⟩ | ⟨block, now, rfl⟩
  · rw [hq.pending] at hb; exact absurd hb ha
  · rw [Session.handle_fst_data] at hb
    obtain ⟨h1, _, h3, h4, _⟩ := C04_recorded_only_with_pubrec a.data a.rt p id hb ha
    refine ⟨a, _, p, r1, rfl, r2, h1, ?_, ?_, ha⟩
    · rw [Session.handle_fst_data]; exact h3
    · show (handlePacket a.data a.rt p).2.2 = .ok true
      exact h4
  · rw [(activate_false_data a block now).2.1] at hb; simp at hb

def C04_F24_cfg : Cfg :=
  { rx := 64, tx := 128, keepaliveS := 0, expiry := 300, downgrade := false, clientId := [0x63], auth := none, will := none }

/-- The CONNACK announces Maximum Packet Size 4; an inbound QoS 2 PUBLISH with identifier 1 arrives;
`poll` fails with `PacketTooLarge` and closes the connection. The client reconnects, the broker resumes
the session (no size limit this time) and retransmits the PUBLISH with the DUP flag. -/
def C04_F24_prog : List Directive :=
  [.connect, .rx [0x20, 0x08, 0x00, 0x00, 0x05, 0x27, 0x00, 0x00, 0x00, 0x04], .go,
   .rx [0x34, 0x07, 0x00, 0x01, 0x74, 0x00, 0x01, 0x00, 0x70], .poll, .go,
   .connect, .rx [0x20, 0x03, 0x01, 0x00, 0x00], .go,
   .rx [0x3c, 0x07, 0x00, 0x01, 0x74, 0x00, 0x01, 0x00, 0x70], .poll, .go]

/-- After the first `poll`: the error is `PacketTooLarge`, the connection is closed, nothing was
delivered or queued — and identifier 1 is NOT recorded. After the retransmission on
the resumed connection: the message IS delivered (`ret poll ok msg`, payload `70`), identifier 1 is
recorded and its PUBREC is queued. (With the identifier recorded at the first arrival the retransmission would be
PUBRECed as a duplicate and never delivered: F24.) -/
theorem C04_example_F24_retransmission_delivered :
    let w1 := (C04_F24_prog.take 6).foldl World.execDirective { sess := Session.new C04_F24_cfg }
    let w2 := C04_F24_prog.foldl World.execDirective { sess := Session.new C04_F24_cfg }
    (match w1.lastRes with | some (.error .packetTooLarge) => true | _ => false) = true ∧ w1.live = false ∧
    w1.sess.data.pendingServerIds = [] ∧ w1.sess.data.outbound.control = [] ∧
    w2.live = true ∧ w2.sess.data.pendingServerIds = [1] ∧
    w2.sess.data.outbound.control.map (·.action) = [{ typ := MT_PubRec, id := 1, rc := RC_Success }] ∧
    w2.out.contains "ret poll ok msg @0" = true ∧
    w2.out.contains "msg topic=74 payload=70 qos=2 retain=0 props=- iter=- rt=none cd=none" = true := by
  decide +kernel

end Minimq
