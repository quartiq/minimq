import Minimq.Proofs.QuiesceFinal
import Minimq.Theorems.C12Machine
/-
C16, liveness half — "from any reachable state, once transport and broker behave, repeatedly calling
`poll()` completes every pending publish, subscribe and unsubscribe, sends every owed acknowledgement and
reaches a publish-quiescent session within a bounded number of steps".

The closed loop (`Proofs/QuiesceLoop.lean`).
* **The broker** (`answerOf`, `ansHeader`, `Proofs/QuiesceSession.lean`): for every packet the current
  transport has accepted
  completely — an entry of the transmission log `World.log`, which carries the queue entry's identifier
  and the packet's bytes — it sends PUBACK(id, Success) for a QoS 1 PUBLISH, PUBREC(id, Success) for a
  QoS 2 PUBLISH, PUBCOMP(id) for a PUBREL, SUBACK(id, one reason code 0) / UNSUBACK(id, one reason code
  0) for SUBSCRIBE / UNSUBSCRIBE (the client accepts any number of codes, it only looks for failures),
  PINGRESP for a PINGREQ, and nothing for the client's own acknowledgements; all without properties, as
  the bytes `Spec.encodeServer …` appended to the inbound queue of the current transport
  (`Directive.rx`). It sends nothing else — no inbound publishes.
* **A round** (`round`): the application calls `poll()` (`Directive.poll`; a `poll()` still suspended
  from the round before is dropped, which `poll` allows), every I/O call gets the decision 250 — accept /
  deliver everything — until that `poll()` returns or its read is starved (`Directive.go`); then the broker
  answers the log entries of the current transport that were added during the round. A round is three
  directives, so every world of the loop is again a world a program produced.
* Time stands still; no keep-alive event is due (`KaCalm`) and no PINGREQ is queued.

`Setting w` spells out the hypotheses; `Ready w` is the invariant between rounds.

What is proved (`C16Q_bounded_quiescence`). After at most
`mu = [something is not yet Sent] + Σ retained (2 for a QoS 2 PUBLISH, else 1) + |release|`
rounds (`≤ 1 + 2·|retained| + |release|`; `mu` itself is attained: see the examples) the three queues are
empty: every packet has been written, flushed and acknowledged, every owed acknowledgement has been written
and flushed (they leave the control queue when flushed), every handle that was pending reports `complete`,
the send quota is back at its maximum; the session stays quiescent in all later rounds; every world on the
way is a world a program produced, so all the invariants proved for programs hold of it — in particular no
retained packet and no PUBREL is handed to the transport twice on this connection
(`C16Q_nothing_sent_twice`, from the C02 / C03 wire invariants). That the 10000 decisions of `go` suffice
for a round is shown inside the proof of `client_turn` (`nu` ≤ 2·24 + 1 + 4·96 = 433); no statement exports
that number. `C16Q_reconnect_then_quiescence` is the
reconnect clause: `connect`, a conformant CONNACK with session present, then the rounds.

Not proved separately: the byte count of the writes (it follows from `C16Q_nothing_sent_twice` with
`C02_logged_packets_are_on_the_wire`: the wire behind the CONNECT is the logged packets, each once).

Hypotheses of `Setting` that hold of every program-produced world (`Theorems/C16Setting.lean` and
`Theorems/C06Balance.lean` prove them and state the theorem without them): no `Sent` entry in the control queue,
at most 8 control entries, identifiers below 65536, balanced quota books on a live handle with `deficit` clear,
and — for programs that publish with QoS 0, 1, 2 — retained packets of the four kinds. Genuine restrictions:
live; nothing over the broker's size limit (F14; a limit below 5 also blocks PUBREL); `deficit` clear (F5c);
no keep-alive traffic (no PINGREQ queued, none due: time stands still); the receive buffer holds six bytes;
and the broker is *up to date* (`sync`) — a packet already on the wire whose answer is not in the inbound
queue would never be answered by a broker that only answers what it sees completed, and the session would
wait for it for ever: that is the closed loop's assumption, not a defect of the client.

The proof is a potential argument on two levels: `nu` (decisions that certainly suffice to end the
client's turn) goes down with every POLL of a round (`mid_step`), and `mu` goes down with every round
that does not end quiescent (`round_ready`).
-/
namespace Minimq
open Gen World Fuel Outbound Quiesce

/-- **One round keeps the invariant and makes progress**: fewer rounds are needed afterwards, or the
session is quiescent. -/
theorem C16Q_round_progress (w : World) (h : Ready w) :
    Ready (round w) ∧
    (mu (round w).sess.data.outbound < mu w.sess.data.outbound ∨ (round w).sess.data.outbound.isQuiescent = true) :=
  ⟨(round_ready w h).1, (round_ready w h).2.1⟩

/-- **Bounded quiescence.** Let a program have produced `w`, in the setting `Setting w` (live,
nothing over the size limit, `deficit` clear, broker up to date, …). The broker of the loop answers
what the transmission log says was completed on the current transport; that is what a real broker
parses only if the transport is not torn (no CONNECT / QoS 0 PUBLISH / DISCONNECT write was dropped on
it: `tearsPacket w.fut = false`, `w.nets.length ∉ w.tornNets` — the hypotheses of
`C16Q_nothing_sent_twice`, under which `C02_logged_packets_are_on_the_wire` identifies log and wire).
`Setting` does not ask for it: on a torn transport the statement is about the client's bookkeeping
against that idealised broker, not about a broker that reads the bytes. Then there is `n ≤ mu` — so
`n ≤ 1 + 2·|retained| + |release|` — such that after `n` rounds

* the session is quiescent: control, retained and release queue are empty;
* it stays quiescent in every later round;
* every operation handle whose status was `pending` reports `complete`;
* the send quota is back at its maximum;
* the world is one a program produced, and the invariant between rounds holds. -/
theorem C16Q_bounded_quiescence (w : World) (hprog : Produced w) (hs : Setting w) :
    ∃ n, n ≤ mu w.sess.data.outbound ∧
      n ≤ 1 + 2 * w.sess.data.outbound.retained.length + w.sess.data.outbound.release.length ∧
      (rounds n w).sess.data.outbound.isQuiescent = true ∧
      (∀ m, (rounds m (rounds n w)).sess.data.outbound.isQuiescent = true) ∧
      (∀ op, w.sess.data.status op = .pending → (rounds n w).sess.data.status op = .complete) ∧
      (rounds n w).sess.rt.sendQuota = (rounds n w).sess.rt.maxSendQuota ∧
      Produced (rounds n w) ∧ Ready (rounds n w) := by
  obtain ⟨n, hn, hq, hst, hh, hquota, hr'⟩ := (ready_of w hprog hs).bounded_quiescence
  exact ⟨n, hn, Nat.le_trans hn (mu_le _), hq, hst, hh, hquota, hr'.reach, hr'⟩

/-- **The reconnect clause.** Let a program have produced `w` — dead, dropped, whatever — with no I/O
decision left over, and let CONNECT fit (else F9). The application calls `connect()`; a conformant broker
answers CONNACK with session present, success and acceptable properties; the transport takes enough healthy
decisions. Call the result `W` (`C12M_connect_succeeds`: connected, everything re-armed for replay). If the
new CONNACK's limits leave room (`Fits`: F14; `deficit` clear: F5c) and the queue facts of `Setting` hold of
`W`, then the rounds of the closed loop from `W` reach a quiescent session within `mu` rounds, where every handle
that was pending reports `complete`. -/
theorem C16Q_reconnect_then_quiescence (w : World) (hprog : Produced w) (hslot : w.slot = none)
    (off : Nat) (pkt : Bytes)
    (he : encodeConnect w.sess.data.outbound.scratchLen w.sess.beginConnect.connectPacket = .ok (off, pkt))
    (block : Bytes) (hblk : connackBlockOk block)
    (hwf : (Spec.ServerPacket.connAck true 0 block).wf = true)
    (hfit : (Spec.encodeServer (.connAck true 0 block)).length ≤ w.sess.reader.cap)
    (ks : List Nat) (hks : ∀ k ∈ ks, 1 ≤ k ∧ k ≤ 250)
    (hlen : pkt.length + 1 + (Spec.encodeServer (.connAck true 0 block)).length ≤ ks.length) :
    let W := runDs ks ((w.execDirective .connect).execDirective (.rx (Spec.encodeServer (.connAck true 0 block))))
    (∀ e ∈ W.sess.data.outbound.control, e.state ≠ .sent) →
    (∀ e ∈ W.sess.data.outbound.control, e.action.typ ≠ MT_PingReq) →
    W.sess.data.outbound.control.length ≤ MAX_PENDING_CONTROL →
    Quiesce.Fits W.sess → (∀ id ∈ W.sess.data.outbound.usedIds, id < 65536) → W.sess.rt.deficit = false →
    KnownKinds W.sess.data.outbound → 6 ≤ w.sess.reader.cap →
    W.live = true ∧ W.conn = some { live := true, resumed := true } ∧
    ∃ n, n ≤ mu W.sess.data.outbound ∧ (rounds n W).sess.data.outbound.isQuiescent = true ∧
      (∀ m, (rounds m (rounds n W)).sess.data.outbound.isQuiescent = true) ∧
      (∀ op, W.sess.data.status op = .pending → (rounds n W).sess.data.status op = .complete) := by
  intro W h1 h2 h3 h4 h5 h6 h7 h8
  obtain ⟨_, c2, c3, _, c5, c6, c7, c8⟩ := C12M_connect_succeeds w hprog.arena hslot off pkt he true block hblk hwf hfit
    ks hks hlen
  have hW : Produced W := ((hprog.exec _).exec _).run _
  have hs := setting_after_reconnect w W pkt _ block c3 c7 c5 c6 c8 h1 h2 h3 h4 h5 h6 h7 h8
  obtain ⟨n, hn, _, hq, hst, hh, _, _, _⟩ := C16Q_bounded_quiescence W hW hs
  exact ⟨c3, c2, n, hn, hq, hst, hh⟩

/-- **Nothing is sent twice.** In the setting of the theorem, with the transport not marked torn and no
operation-local write (CONNECT, QoS 0 PUBLISH, DISCONNECT) suspended at the start: after any number of
rounds the serials of the retained packets, and those of the PUBRELs, in the transmission log of the current
transport strictly increase — every packet was handed to the transport at most once on this connection, in
queue order (`C02_retained_queue_agrees_with_log`, `C03_release_queue_agrees_with_log` for the worlds of the
loop). With `C02_logged_packets_are_on_the_wire` the bytes written are those packets and nothing else. -/
theorem C16Q_nothing_sent_twice (w : World) (hprog : Produced w) (hs : Setting w)
    (hsafe : tearsPacket w.fut = false) (hu : w.nets.length ∉ w.tornNets) (n : Nat) :
    (sers (rounds n w).curLog).Pairwise (· < ·) ∧ (relSers (rounds n w).curLog).Pairwise (· < ·) := by
  obtain ⟨h1, h2, _⟩ := rounds_untorn w (ready_of w hprog hs) hsafe hu n
  exact (h1.reach.winv.curLog h2 h1.live.live).2.sorted

/-- The bound in plain terms. -/
theorem C16Q_bound (o : Outbound) : mu o ≤ 1 + 2 * o.retained.length + o.release.length := mu_le o

/-- Quiescent means that nothing is left in any of the three queues, and `mu = 0` says the same. -/
theorem C16Q_quiescent_iff (o : Outbound) :
    (o.isQuiescent = true ↔ o.control = [] ∧ o.retained = [] ∧ o.release = []) ∧ (mu o = 0 ↔ o.isQuiescent = true) :=
  ⟨quiescent_iff' o, mu_zero_iff o⟩


/-- A client with a 64-byte receive buffer and a 128-byte arena, no keep-alive. -/
def C16Q_cfg : Cfg :=
  { rx := 64, tx := 128, keepaliveS := 0, expiry := 300, downgrade := false, clientId := [0x63], auth := none, will := none }

def C16Q_pub (q t p : Nat) : Directive :=
  .publish { qos := q, retain := false, topic := [UInt8.ofNat t], payload := .bytes [UInt8.ofNat p], props := .slice [] }

def C16Q_sub : Directive :=
  .subscribe { topics := [{ topic := [0x61], opts := { maxQos := 1, noLocal := false, rap := false, rh := 0 } }], props := [] }

/-- First world. Connected; a QoS 2 publish sent and its PUBREC handled, so its PUBREL is sent (id 1); a
QoS 1 publish sent (id 2); a second QoS 1 publish with 3 of its 9 bytes written (id 3), its operation still
suspended; the broker's PUBCOMP(1) and PUBACK(2) have arrived and have not been read. -/
def C16Q_prog : List Directive :=
  [.connect, .rx [0x20, 0x03, 0x00, 0x00, 0x00], .go,
   C16Q_pub 2 0x74 0x70, .go, .rx [0x50, 0x02, 0x00, 0x01], .poll, .go,
   C16Q_pub 1 0x75 0x71, .go,
   C16Q_pub 1 0x76 0x72, .d 3,
   .rx [0x70, 0x02, 0x00, 0x01, 0x40, 0x02, 0x00, 0x02]]

def C16Q_w : World := C16Q_prog.foldl World.execDirective { sess := Session.new C16Q_cfg }

theorem C16Q_w_produced : Produced C16Q_w := ⟨C16Q_cfg, C16Q_prog, rfl⟩

/-- `C16Q_w` evaluated, once for every file that asks something of it: what `Setting` needs, `mu`, the rounds,
the quota (`Theorems/C06Balance.lean`), keep-alive and log (`Theorems/C10NoPing.lean`). -/
theorem C16Q_w_facts :
    (C16Q_w.live = true ∧ C16Q_w.slot = none ∧
      (C16Q_w.sess.rt.nextPing = none ∧ C16Q_w.sess.rt.pingTimeout = none) ∧
      C16Q_w.sess.data.outbound.control = [] ∧
      C16Q_w.sess.rt.packetTooLarge 5 = false ∧
      (∀ v ∈ retView C16Q_w.sess.data.outbound, C16Q_w.sess.rt.packetTooLarge v.1.length = false) ∧
      (∀ id ∈ C16Q_w.sess.data.outbound.usedIds, id < 65536) ∧
      C16Q_w.sess.rt.deficit = false ∧ C16Q_w.sess.rt.maxSendQuota ≤ maxInflight ∧
      C16Q_w.sess.rt.sendQuota + C16Q_w.sess.data.outbound.inflightPublishes = C16Q_w.sess.rt.maxSendQuota ∧
      (∀ v ∈ retView C16Q_w.sess.data.outbound, (ansHeader (hd v.1) v.2.1).isSome = true) ∧
      6 ≤ C16Q_w.sess.reader.cap ∧ C16Q_w.sess.reader.data = [] ∧ C16Q_w.sess.reader.packetLength = none ∧
      expected C16Q_w.sess.data.outbound = [.ack .pubAck 2 .none, .ack .pubComp 1 .none] ∧
      C16Q_w.curNet.rx = enc [.ack .pubComp 1 .none, .ack .pubAck 2 .none]) ∧
    mu C16Q_w.sess.data.outbound = 4 ∧
    (List.range 6).map (fun n => (mu (rounds n C16Q_w).sess.data.outbound,
        (rounds n C16Q_w).sess.data.outbound.isQuiescent)) =
      [(4, false), (3, false), (2, false), (1, false), (0, true), (0, true)] ∧
    (C16Q_w.live = true ∧ C16Q_w.sess.rt.deficit = false ∧ C16Q_w.sess.rt.sendQuota = 5 ∧
      C16Q_w.sess.data.outbound.inflightPublishes = 3 ∧ C16Q_w.sess.rt.maxSendQuota = 8) ∧
    (C16Q_w.live = true ∧ C16Q_w.sess.rt.keepaliveMs = 0 ∧
      C16Q_w.curLog.map (·.tag) = [.retained 0 1, .release 0 0 1 0, .retained 1 2]) := by
  decide +kernel

/-- `Setting` holds of `C16Q_w`: the retained queue is `[(2, Sent), (3, Write 3)]`, the release queue
`[(1, Sent)]`, the control queue empty; the broker owes PUBACK(2) and PUBCOMP(1), and exactly these are in
the inbound queue. -/
theorem C16Q_w_setting : Setting C16Q_w := by
  obtain ⟨⟨hlive, hslot, hka, hctl, hrel, hret, hsmall, hdef, hmaxq, hquota, hkinds, hcap, hdata, hlen, hexp, hrx⟩, _⟩ :=
    C16Q_w_facts
  refine ⟨hlive, hslot, ?_, ?_, ?_, ?_, ⟨?_, hrel, hret⟩, hsmall, hdef, hmaxq, hquota, hkinds, hcap, hdata, hlen, ?_⟩
  · exact KaCalm.of_none hka.1 hka.2
  · rw [hctl]; intro e he; cases he
  · rw [hctl]; intro e he; cases he
  · rw [hctl]; decide
  · rw [hctl]; intro e he; cases he
  · exact ⟨_, hrx, by rw [hexp]; exact List.Perm.swap _ _ _⟩

/-- Four rounds are needed and four suffice (`mu = 4`: one entry is not sent, the QoS 1 publishes need one
acknowledgement each, the PUBREL one): the count of rounds still needed goes 4, 3, 2, 1, 0. -/
example : (List.range 6).map (fun n => (mu (rounds n C16Q_w).sess.data.outbound,
      (rounds n C16Q_w).sess.data.outbound.isQuiescent)) =
    [(4, false), (3, false), (2, false), (1, false), (0, true), (0, true)] := by
  obtain ⟨_, _, h, _⟩ := C16Q_w_facts
  exact h

theorem C16Q_w_mu : mu C16Q_w.sess.data.outbound = 4 := by
  obtain ⟨_, h, _⟩ := C16Q_w_facts
  exact h

/-- `C16Q_bounded_quiescence` on `C16Q_w`: within `mu = 4` rounds, and then the quota is back at its maximum. -/
example : ∃ n, n ≤ 4 ∧ (rounds n C16Q_w).sess.data.outbound.isQuiescent = true ∧
    (rounds n C16Q_w).sess.rt.sendQuota = (rounds n C16Q_w).sess.rt.maxSendQuota := by
  obtain ⟨n, hn, _, hq, _, _, hquota, _⟩ := C16Q_bounded_quiescence C16Q_w C16Q_w_produced C16Q_w_setting
  exact ⟨n, C16Q_w_mu ▸ hn, hq, hquota⟩

/-- Second world. A session with an owed PUBACK (for an inbound QoS 1 PUBLISH, id 9), a QoS 2 exchange in
its PUBREL phase (id 1), a QoS 1 publish (id 2), a QoS 2 publish (id 3) and a subscribe (id 4), all
unacknowledged, whose connection was dropped; reconnected with session present — everything is re-armed —
and a `poll()` has put 3 of the 5 bytes of the owed PUBACK on the new wire. -/
def C16Q_prog2 : List Directive :=
  [.connect, .rx [0x20, 0x03, 0x00, 0x00, 0x00], .go,
   C16Q_pub 2 0x74 0x70, .go, .rx [0x50, 0x02, 0x00, 0x01], .poll, .go,
   C16Q_pub 1 0x75 0x71, .go, C16Q_pub 2 0x76 0x72, .go, C16Q_sub, .go,
   .rx [0x32, 0x06, 0x00, 0x01, 0x74, 0x00, 0x09, 0x00], .poll, .go,
   .drop, .connect, .rx [0x20, 0x03, 0x01, 0x00, 0x00], .go, .poll, .d 3]

def C16Q_w2 : World := C16Q_prog2.foldl World.execDirective { sess := Session.new C16Q_cfg }

/-- `C16Q_w2` evaluated once: what `Setting` needs, the rounds, the quota (`Theorems/C06Balance.lean`). -/
theorem C16Q_w2_facts :
    (C16Q_w2.live = true ∧ C16Q_w2.slot = none ∧
      (C16Q_w2.sess.rt.nextPing = none ∧ C16Q_w2.sess.rt.pingTimeout = none) ∧
      C16Q_w2.sess.data.outbound.control = [⟨⟨4, 9, 0⟩, .write 3⟩] ∧
      C16Q_w2.sess.rt.packetTooLarge 5 = false ∧
      (∀ v ∈ retView C16Q_w2.sess.data.outbound, C16Q_w2.sess.rt.packetTooLarge v.1.length = false) ∧
      (∀ id ∈ C16Q_w2.sess.data.outbound.usedIds, id < 65536) ∧
      C16Q_w2.sess.rt.deficit = false ∧ C16Q_w2.sess.rt.maxSendQuota ≤ maxInflight ∧
      C16Q_w2.sess.rt.sendQuota + C16Q_w2.sess.data.outbound.inflightPublishes = C16Q_w2.sess.rt.maxSendQuota ∧
      (∀ v ∈ retView C16Q_w2.sess.data.outbound, (ansHeader (hd v.1) v.2.1).isSome = true) ∧
      6 ≤ C16Q_w2.sess.reader.cap ∧ C16Q_w2.sess.reader.data = [] ∧ C16Q_w2.sess.reader.packetLength = none ∧
      expected C16Q_w2.sess.data.outbound = [] ∧ C16Q_w2.curNet.rx = enc []) ∧
    (List.range 8).map (fun n => (mu (rounds n C16Q_w2).sess.data.outbound,
        (rounds n C16Q_w2).sess.data.outbound.isQuiescent)) =
      [(6, false), (5, false), (4, false), (3, false), (2, false), (1, false), (0, true), (0, true)] ∧
    (C16Q_w2.live = true ∧ C16Q_w2.sess.rt.deficit = false ∧ C16Q_w2.sess.rt.sendQuota = 5 ∧
      C16Q_w2.sess.data.outbound.inflightPublishes = 3 ∧ C16Q_w2.sess.data.outbound.retained.length = 3 ∧
      C16Q_w2.sess.rt.maxSendQuota = 8) := by
  decide +kernel

/-- `Setting` holds of `C16Q_w2`: control `[PUBACK 9, Write 3]`, release `[(1, Write 0)]`, retained
`[(2, Write 0), (3, Write 0), (4, Write 0)]`; nothing is completely on the new wire, so the broker owes
nothing, and the inbound queue is empty. -/
theorem C16Q_w2_setting : Setting C16Q_w2 := by
  obtain ⟨⟨hlive, hslot, hka, hctl, hrel, hret, hsmall, hdef, hmaxq, hquota, hkinds, hcap, hdata, hlen, hexp, hrx⟩, _⟩ :=
    C16Q_w2_facts
  have henc : encodeControl ⟨4, 9, 0⟩ = .ok [0x40, 0x03, 0x00, 0x09, 0x00] := by rfl
  refine ⟨hlive, hslot, ?_, ?_, ?_, ?_, ⟨?_, hrel, hret⟩, hsmall, hdef, hmaxq, hquota, hkinds, hcap, hdata, hlen, ?_⟩
  · exact KaCalm.of_none hka.1 hka.2
  · rw [hctl]; decide
  · rw [hctl]; decide
  · rw [hctl]; decide
  · rw [hctl]
    intro e he
    simp only [List.mem_singleton] at he
    subst he
    exact ⟨_, henc, hrel⟩
  · exact ⟨[], hrx, by rw [hexp]⟩

/-- Six rounds (`mu = 1 + (1 + 2 + 1) + 1`): the first replays everything, the others take one
acknowledgement each; the PUBREC round also sends the PUBREL. -/
example : (List.range 8).map (fun n => (mu (rounds n C16Q_w2).sess.data.outbound,
      (rounds n C16Q_w2).sess.data.outbound.isQuiescent)) =
    [(6, false), (5, false), (4, false), (3, false), (2, false), (1, false), (0, true), (0, true)] := by
  obtain ⟨_, h, _⟩ := C16Q_w2_facts
  exact h

end Minimq
