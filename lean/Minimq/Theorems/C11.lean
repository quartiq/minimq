import Minimq.Proofs.Program
import Minimq.Proofs.IoCalls
import Minimq.Theorems.C10
/-
C11 — a dead connection handle stays dead and never touches the transport again.

(1) `C11_dead_stays_dead`: `dead` is absorbing under every API call on the handle (`connect` makes a new
    handle and is not among them), the transports are untouched
    (`nets` is where every accepted byte and every consumed byte is recorded) and the session too.
(2) the `…_latches` theorems: each fatal outcome — a transport error at any write, flush or read,
    end of stream, a broker DISCONNECT, an undecodable packet, an expired ping timeout, and a
    completed `disconnect()` — leaves `live = false`. They are stated on the functions that
    perform the corresponding await, for every state and every calling context. The I/O decision in
    `w.slot` (`Proofs/IoCalls.lean`): up to 250 bytes move, 251 = zero bytes written / end of stream, from 252
    the transport error with that number.
-/
namespace Minimq
open Gen World

/-- On a dead handle every operation runs its body at once: there is a connection, and nothing to cancel. -/
theorem startOp_dead {w : World} (h : w.dead) (name : String) (body : World → World) :
    w.startOp name body = body { w with wakes := 0, lastIoStarved := false } := by
  obtain ⟨⟨c, hc, _⟩, hf⟩ := h
  exact startOp_ready w name body (by rw [hc]; rfl) hf

/-- No API call on a dead handle (`hd`: the operations, `poll`, I/O decisions, time and cancellation; not
`connect`, `drop`, `rx`, `setpid`, `decode`, `bad`) touches a transport, revives the handle or changes the session
(the results — `Disconnected`, `Ok` for `disconnect` — are `C11_dead_results`; any number of calls:
`C11_dead_forever`). -/
theorem C11_dead_stays_dead (w : World) (d : Directive) (h : w.dead)
    (hd : match d with
      | .publish _ | .subscribe _ | .unsubscribe _ | .disconnect _ | .poll | .recv | .drive
      | .d _ | .go | .tick _ | .cancel => True
      | _ => False) :
    (w.execDirective d).dead ∧ (w.execDirective d).nets = w.nets ∧ (w.execDirective d).sess = w.sess := by
  have hl : ({ w with wakes := 0, lastIoStarved := false } : World).live = false := dead_live_false h
  have hop := startOp_dead h
  obtain ⟨⟨c, hc, hcl⟩, hf⟩ := h
  -- every outcome below has the handle, the transports and the session of `w`, and no suspended operation
  have keep : ∀ w' : World, w'.conn = w.conn → w'.fut = none → w'.nets = w.nets → w'.sess = w.sess →
      w'.dead ∧ w'.nets = w.nets ∧ w'.sess = w.sess :=
    fun w' h1 h2 h3 h4 => ⟨⟨⟨c, h1 ▸ hc, hcl⟩, h2⟩, h3, h4⟩
  cases d <;> simp only [] at hd
  case publish _ | subscribe _ | unsubscribe _ | poll | recv | drive =>
    simp only [World.execDirective, hop, hl, Bool.not_false, if_true, driveEnter_dead _ _ hl]
    exact keep _ (finishErr_conn _ _ _) (finishErr_fut _ _ _) (finishErr_nets _ _ _) (finishErr_sess _ _ _)
  case disconnect _ =>
    simp only [World.execDirective, hop, hl, Bool.not_false, if_true]
    exact keep _ (finish_conn _ _) (finish_fut _ _) (finish_nets _ _) (finish_sess _ _)
  case d _ | go =>
    simp only [World.execDirective, hf, Option.isNone_none, if_true]
    exact keep _ rfl hf rfl rfl
  case tick us =>
    simp only [World.execDirective, hf, Option.isSome_none, Bool.false_eq_true, if_false]
    split
    · exact keep _ rfl hf rfl rfl
    · exact keep _ rfl rfl rfl rfl
  case cancel =>
    rw [World.execDirective, cancelFut_of_idle hf]
    exact keep _ rfl hf rfl rfl

/-- **The documented results on a dead handle**: every network operation reports `Disconnected`,
`disconnect()` reports `Ok`, and both `is_connected()` and `can_publish(qos)` are false. -/
theorem C11_dead_results (w : World) (h : w.dead) :
    (∀ r, (w.execDirective (.publish r)).lastRes = some (.error .disconnected)) ∧
    (∀ r, (w.execDirective (.subscribe r)).lastRes = some (.error .disconnected)) ∧
    (∀ r, (w.execDirective (.unsubscribe r)).lastRes = some (.error .disconnected)) ∧
    (w.execDirective .poll).lastRes = some (.error .disconnected) ∧
    (w.execDirective .recv).lastRes = some (.error .disconnected) ∧
    (w.execDirective .drive).lastRes = some (.error .disconnected) ∧
    (∀ d, (w.execDirective (.disconnect d)).lastRes = some (.ok ())) ∧
    w.live = false ∧ (∀ q, (w.live && canPublishS w.sess.data w.sess.rt q) = false) := by
  have hl := dead_live_false h
  have hl1 : ({ w with wakes := 0, lastIoStarved := false } : World).live = false := hl
  refine ⟨fun r => ?_, fun r => ?_, fun r => ?_, ?_, ?_, ?_, fun d => ?_, hl, fun q => by rw [hl]; rfl⟩ <;>
    simp only [World.execDirective, startOp_dead h, hl1, Bool.not_false, if_true, driveEnter_dead _ _ hl1,
      finishErr_lastRes, finish_lastRes]

/-- **For good**: any sequence of API calls on a dead handle leaves it dead, the transports and the
session untouched. -/
theorem C11_dead_forever (w : World) (h : w.dead) (ops : List Directive)
    (hops : ∀ d ∈ ops, match d with
      | .publish _ | .subscribe _ | .unsubscribe _ | .disconnect _ | .poll | .recv | .drive
      | .d _ | .go | .tick _ | .cancel => True
      | _ => False) :
    (ops.foldl World.execDirective w).dead ∧ (ops.foldl World.execDirective w).nets = w.nets ∧
    (ops.foldl World.execDirective w).sess = w.sess := by
  refine program_ind_mem (P := fun r => r.dead ∧ r.nets = w.nets ∧ r.sess = w.sess) ops (fun r d hd hr => ?_) ⟨h, rfl, rfl⟩
  obtain ⟨a, b, c⟩ := C11_dead_stays_dead r d hr.1 (hops d hd)
  exact ⟨a, b.trans hr.2.1, c.trans hr.2.2⟩

/-- A transport error on the write of a queued packet (retained packet, PUBREL, acknowledgement,
PINGREQ) kills the handle, whoever was writing. -/
theorem C11_stepWrite_fault_latches (fuel : Nat) (w : World) (ctx : StepCtx) (pkt : Flushed) (bytes : Bytes)
    (written len now k : Nat) (hs : w.slot = some k) (hk : 252 ≤ k) :
    (doStepWrite (fuel + 1) w ctx pkt bytes written len now).live = false ∧
    (doStepWrite (fuel + 1) w ctx pkt bytes written len now).lastRes = some (.error (.transport k)) := by
  simp [doStepWrite, ioWrite_err hs hk]

theorem C11_stepFlush_fault_latches (fuel : Nat) (w : World) (ctx : StepCtx) (pkt : Flushed) (now k : Nat)
    (hs : w.slot = some k) (hk : 252 ≤ k) :
    (doStepFlush (fuel + 1) w ctx pkt now).live = false ∧
    (doStepFlush (fuel + 1) w ctx pkt now).lastRes = some (.error (.transport k)) := by
  simp [doStepFlush, ioFlush_err hs hk]

/-- **`disconnect()` ends the connection also when its preliminary flush fails without a transport
error** (F25, fixed in the crate: `disconnect_with` calls `handle_disconnect()` before it returns the
error of `flush_outbound`). A write that accepts nothing (`Ok(0)`, decision 251) of a queued packet
inside `disconnect`: the call reports `WriteZero` and the handle is dead. -/
theorem C11_disconnect_flush_writeZero_latches (fuel : Nat) (w : World) (d : Disconnect) (pkt : Flushed)
    (bytes : Bytes) (written len now : Nat) (hs : w.slot = some 251) :
    (doStepWrite (fuel + 1) w (.flush (.discPre d)) pkt bytes written len now).live = false ∧
    (doStepWrite (fuel + 1) w (.flush (.discPre d)) pkt bytes written len now).lastRes = some (.error .writeZero) := by
  simp [doStepWrite, ioWrite_zero hs]

/-- An `Ok(0)` met by `poll`/`recv`/`drive` or by the flush of a publish, subscribe or unsubscribe (anywhere but
inside `disconnect`) is reported and leaves the handle as it was (`WriteZero` is not a transport error). -/
theorem C11_writeZero_elsewhere_keeps_handle (fuel : Nat) (w : World) (ctx : StepCtx) (pkt : Flushed)
    (bytes : Bytes) (written len now : Nat) (hs : w.slot = some 251) (hctx : ∀ d, ctx ≠ .flush (.discPre d)) :
    (doStepWrite (fuel + 1) w ctx pkt bytes written len now).live = w.live ∧
    (doStepWrite (fuel + 1) w ctx pkt bytes written len now).lastRes = some (.error .writeZero) := by
  rcases discFail_cases (w.io s!"wz {w.netIdx}") ctx with ⟨e, _⟩ | ⟨_, d, hd⟩
  · simp only [doStepWrite, ioWrite_zero hs, e]
    exact ⟨finishErr_live _ _ _, finishErr_lastRes _ _ _⟩
  · exact (hctx d hd).elim

/-- Every other way the preliminary flush of `disconnect` can fail — a queued packet that cannot be
encoded or exceeds the broker's packet size limit (`prepareStep` fails), a PINGREQ that cannot be
queued — ends the connection too. -/
theorem C11_disconnect_flush_fail_latches (fuel : Nat) (w : World) (d : Disconnect) (step : Outbound.Step)
    (now : Nat) (e : Err) (hp : prepareStep w step = .fail e) :
    (performStep (fuel + 1) w (.flush (.discPre d)) step now).live = false ∧
    (performStep (fuel + 1) w (.flush (.discPre d)) step now).lastRes = some (.error e) := by
  cases step <;> simp [performStep, hp]

/-- **A queued acknowledgement or PUBREL that this connection cannot carry closes it**, whoever is
flushing (F14b, repaired in the crate: `perform_outbound_step` calls `handle_disconnect()` before it
returns the error): the packet was queued under an earlier, larger Maximum Packet Size, the size check
at send time fails, the call reports the error and the handle is dead. (A retained packet in the same
situation is finding F14: the call fails and the handle stays as it was.) -/
theorem C11_unsendable_ack_closes (fuel : Nat) (w : World) (ctx : StepCtx) (step : Outbound.Step)
    (now : Nat) (e : Err) (hp : prepareStep w step = .fail e)
    (hstep : (∃ a st, step = .control a st) ∨ (∃ id rc st, step = .release id rc st)) :
    (performStep (fuel + 1) w ctx step now).live = false ∧
    (performStep (fuel + 1) w ctx step now).lastRes = some (.error e) := by
  rcases hstep with ⟨a, st, rfl⟩ | ⟨id, rc, st, rfl⟩ <;> simp [performStep, hp]

theorem C11_disconnect_pingreq_fail_latches (fuel : Nat) (w : World) (d : Disconnect) (e : Err)
    (hq : w.maybeQueuePingreq w.now = .error e) :
    (flushLoop (fuel + 1) w (.discPre d)).live = false ∧
    (flushLoop (fuel + 1) w (.discPre d)).lastRes = some (.error e) := by
  simp [flushLoop, hq]

/-- QoS 0 PUBLISH (`which = 1`) and DISCONNECT (`which = 2`) written from their local buffer:
a transport error on write or flush kills the handle. -/
theorem C11_localWrite_fault_latches (fuel : Nat) (w : World) (which : Nat) (bytes : Bytes) (k : Nat)
    (hw : which = 1 ∨ which = 2) (hb : bytes ≠ []) (hs : w.slot = some k) (hk : 252 ≤ k) :
    (doLocalWrite (fuel + 1) w which bytes).live = false := by
  have hbe : bytes.isEmpty = false := by cases bytes <;> simp_all
  rcases hw with h | h <;> subst h <;> simp [doLocalWrite, ioWrite_err hs hk, hbe]

theorem C11_localFlush_fault_latches (fuel : Nat) (w : World) (which : Nat) (k : Nat)
    (hw : which = 1 ∨ which = 2) (hs : w.slot = some k) (hk : 252 ≤ k) :
    (doLocalFlush (fuel + 1) w which).live = false := by
  rcases hw with h | h <;> subst h <;> simp [doLocalFlush, ioFlush_err hs hk]

/-- `disconnect()` leaves a dead handle also when the DISCONNECT went out fine. -/
theorem C11_disconnect_done_is_dead (fuel : Nat) (w : World) (k : Nat) (hs : w.slot = some k) (hk : 1 ≤ k ∧ k ≤ 251) :
    (doLocalFlush (fuel + 1) w 2).live = false := by
  simp [doLocalFlush, ioFlush_ok hs hk.2]

/-- An expired ping timeout is checked before anything else in `service` and kills the handle. -/
theorem C11_ping_timeout_latches (fuel : Nat) (w : World) (o : Outer) (adv : Bool) (d : Nat)
    (hnp : w.sess.reader.packetAvailable = false) (hpt : w.sess.rt.pingTimeout = some d) (hd : d ≤ w.now) :
    (driveLoop (fuel + 1) w o adv).live = false ∧
    (driveLoop (fuel + 1) w o adv).lastRes = some (.error .disconnected) ∧
    (driveLoop (fuel + 1) w o adv).nets = w.nets := by
  obtain ⟨e, h1, h2⟩ := C10_timeout_fires fuel w o adv d hnp hpt hd
  exact ⟨h1, h2, by rw [e]; rfl⟩

/-- End of stream or a transport error while waiting for input kills the handle. -/
theorem C11_waitRead_fault_latches (fuel : Nat) (w : World) (o : Outer) (deadline : Option Nat) (y : Bool) (k : Nat)
    (s1 : Session) (window : Nat)
    (hnp : w.sess.reader.packetAvailable = false) (hwin : w.sess.window = some (s1, window))
    (hw0 : window ≠ 0) (hs : w.slot = some k) (hk : 251 ≤ k) :
    (doWaitRead (fuel + 1) w o deadline y).live = false := by
  by_cases h251 : k = 251
  · subst h251
    simp [doWaitRead, hnp, hwin, hw0, ioRead_eof (w := { w with sess := s1 }) hs]
  · simp [doWaitRead, hnp, hwin, hw0, ioRead_err (w := { w with sess := s1 }) hs (by omega)]

/-- An undecodable inbound packet kills the handle (and nothing of it is acted upon: the session data
and runtime are untouched apart from the transport reset every disconnect performs). -/
theorem C11_invalid_packet_latches (w : World) (s1 : Session)
    (hav : w.sess.reader.packetAvailable = true) (htp : w.sess.takePkt = (s1, none)) :
    (w.processReceivedPacket).1.live = false ∧ (w.processReceivedPacket).2 = .error .peerInvalid ∧
    (w.processReceivedPacket).1.nets = w.nets ∧
    (w.processReceivedPacket).1.sess = s1.handleDisconnect := by
  rw [processReceivedPacket_invalid w hav (by rw [htp]), htp]
  exact ⟨handleDisconnect_live _, rfl, rfl, rfl⟩

/-- A broker DISCONNECT kills the handle. -/
theorem C11_broker_disconnect_latches (w : World) (s1 : Session) (len : Nat) (rc : Option Nat) (props : Option Bytes)
    (hav : w.sess.reader.packetAvailable = true)
    (htp : w.sess.takePkt = (s1, some (len, .disconnect rc props))) :
    (w.processReceivedPacket).1.live = false ∧ (w.processReceivedPacket).2 = .error .disconnected := by
  simp [World.processReceivedPacket, hav, htp, Session.handle, (handlePacket_other _ _).2.2]

/-- Non-vacuity: a world with a dead handle and a QoS 1 publish still retained. -/
example : ∃ w : World, w.dead ∧ w.sess.data.outbound.retained ≠ [] :=
  ⟨{ sess := { (Session.new { rx := 64, tx := 64, keepaliveS := 60, expiry := 0, downgrade := false,
                              clientId := [], auth := none, will := none }) with
                data := { outbound := { (Outbound.new 64) with
                  retained := [{ id := 1, offset := 3, len := 9, state := .write 0 }], used := 12 } } },
     conn := some { live := false, resumed := false } },
   ⟨⟨_, rfl, rfl⟩, rfl⟩, by simp⟩

end Minimq
