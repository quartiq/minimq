import Minimq.Theorems.C03
import Minimq.Theorems.C16Quiesce
/-
C03 / C06 — a successful PUBREC always finds room for its PUBREL.

`C03_pubrec` lists what `handle_packet` does with a PUBREC; one of the outcomes is
`Resource.InflightExhausted`: the retained QoS 2 PUBLISH has been removed, but the release queue
(`MAX_PENDING_RELEASE = 8` entries) is full, so no PUBREL entry is made — the exchange would be dropped half-way.
`C06_pubrec_has_room_partial` shows that this cannot happen IF the send-quota invariant holds. Here the
invariant is not a hypothesis: `C06_quota_books_balance` (`Theorems/C06Balance.lean`) gives it after every
program, on a live handle with `deficit` clear, and the statements below are about every world a program
can produce.

The counting argument (`pubRec_release_room`, `Proofs/Quota.lean`): a retained QoS 2 PUBLISH that awaits
its PUBREC is counted by `inflight_publishes` together with every release entry; `send_quota +
inflight_publishes = max_send_quota ≤ min(MAX_RETAINED, MAX_PENDING_RELEASE) = 8`; hence
`release.length + 1 ≤ 8`.

Hypotheses, and why they are there:
* `live`: `handle_packet` is only ever called from `drive_packet`, which checks the handle at entry; on a
  dead handle the quota books need not balance (F19, `C06_balance_needs_live`).
* `deficit = false`: finding F5c (`C06_balance_needs_no_deficit`) — after a CONNACK whose Receive Maximum is
  below the number of publishes to replay the balance `send_quota + inflight = max_send_quota` is not
  available; nothing is claimed for that case here.
-/
namespace Minimq
open Gen World Outbound

theorem pubrec_not_exhausted (d : SessionData) (r : Runtime) (id : Nat) (rs : ReasonIn)
    (hroom : d.awaits id .pubRec = true → d.outbound.release.length < MAX_PENDING_RELEASE) :
    (handlePacket d r (.pubRec id rs)).2.2 ≠ .error .inflightExhausted := by
  rw [handlePacket_pubRec]
  split
  · rename_i hf
    by_cases h1 : (!reasonSuccess rs.rc) = true
    · rw [if_pos h1]; nofun
    · rw [if_neg h1]
      by_cases h2 : r.packetTooLarge 5 = true
      · rw [if_pos h2]; nofun
      · rw [if_neg h2, if_pos (hroom hf)]; nofun
  · split <;> simp

/-- **The release queue has room whenever a QoS 2 PUBLISH awaits its PUBREC**: in every world a program
produces, live and `deficit` clear, a retained QoS 2 PUBLISH with identifier `id` means that fewer than
`MAX_PENDING_RELEASE` PUBRELs are waiting for their PUBCOMP — the capacity hypothesis `hcap` of
`C03_pubrec_success` always holds. -/
theorem C06_release_queue_has_room (cfg : Cfg) (ds : List Directive) (id : Nat) :
    let w := ds.foldl World.execDirective { sess := Session.new cfg }
    w.live = true → w.sess.rt.deficit = false → w.sess.data.awaits id .pubRec = true →
    w.sess.data.outbound.release.length < MAX_PENDING_RELEASE := by
  intro w hl hd hf
  have hb := (Quiesce.produced cfg ds).bal hl
  exact pubRec_release_room _ w.sess.rt id (Quiesce.produced cfg ds).arena (Nat.le_of_eq (hb.2 hd)) hb.1
    ((ackPacket_found_iff ..).trans hf)

/-- **No PUBREC is ever answered with `Resource.InflightExhausted`.** After any program — API calls, I/O
decisions, inbound bytes of any kind, ticks, cancellations, drops, reconnects —, if the connection handle is
live and `deficit` is clear, then whatever PUBREC arrives next (any identifier, any reason code, with or
without a matching PUBLISH), `handle_packet` does not fail for lack of a release slot: no QoS 2 exchange is
dropped because too many of them are waiting for their PUBCOMP. -/
theorem C06_pubrec_never_exhausted (cfg : Cfg) (ds : List Directive) (id : Nat) (rs : ReasonIn) :
    let w := ds.foldl World.execDirective { sess := Session.new cfg }
    w.live = true → w.sess.rt.deficit = false →
    (handlePacket w.sess.data w.sess.rt (.pubRec id rs)).2.2 ≠ .error .inflightExhausted :=
  fun hl hd => pubrec_not_exhausted _ _ id rs (C06_release_queue_has_room cfg ds id hl hd)

/-- `C06_pubrec_never_exhausted` through `Session.handle` (the primitive `process_received_packet` calls). -/
theorem C06_pubrec_never_exhausted_handle (cfg : Cfg) (ds : List Directive) (id : Nat) (rs : ReasonIn) :
    let w := ds.foldl World.execDirective { sess := Session.new cfg }
    w.live = true → w.sess.rt.deficit = false →
    (w.sess.handle (.pubRec id rs)).2 ≠ .error .inflightExhausted :=
  fun hl hd => C06_pubrec_never_exhausted cfg ds id rs hl hd

/-- **The PUBREL is queued.** In every world a program produces, live and `deficit` clear: a PUBREC with a
success code that finds its PUBLISH (a retained QoS 2 PUBLISH with that identifier), the 5-byte PUBREL being
within the broker's Maximum Packet Size (`packetTooLarge 5 = false`, the bound `check_pubrel_size` uses; else
`Resource.PacketTooLarge` and the connection ends, `C06Balance`), is handled with `Ok`: the runtime is
unchanged, the release queue is what it was plus ONE new LAST entry — identifier `id`, reason Success, not yet
written, with the next release serial and the serial of the PUBLISH it continues —, the control queue is
untouched, and from the retained queue exactly the first QoS 2 PUBLISH with that identifier is gone.
(`C03_pubrec_success` with its capacity hypothesis discharged.) -/
theorem C06_pubrec_queues_pubrel (cfg : Cfg) (ds : List Directive) (id : Nat) (rs : ReasonIn) :
    let w := ds.foldl World.execDirective { sess := Session.new cfg }
    let d := w.sess.data
    let d' := (handlePacket d w.sess.rt (.pubRec id rs)).1
    w.live = true → w.sess.rt.deficit = false →
    d.awaits id .pubRec = true → reasonSuccess rs.rc = true → w.sess.rt.packetTooLarge 5 = false →
    (handlePacket d w.sess.rt (.pubRec id rs)).2 = (w.sess.rt, .ok false) ∧
    d'.outbound.release = d.outbound.release ++
      [{ id := id, rc := RC_Success, state := .write 0, rser := d.outbound.nextRser, pser := d.outbound.ackedSer id .pubRec }] ∧
    d'.outbound.release.getLast?.map (·.id) = some id ∧
    d'.outbound.release.length = d.outbound.release.length + 1 ∧
    d'.outbound.control = d.outbound.control ∧
    ∃ l₁ e l₂, d.outbound.retained = l₁ ++ e :: l₂ ∧ (∀ x ∈ l₁, ackPred d.outbound id .pubRec x = false) ∧
      e.id = id ∧ AckKind.pubRec.acknowledges (d.outbound.headerAt e.offset) = true ∧
      d'.outbound.keys = (l₁ ++ l₂).map RetainedPacket.key := by
  intro w d d' hl hd hf hok hsz
  have hcap := C06_release_queue_has_room cfg ds id hl hd hf
  obtain ⟨h1, h2, h3, h4⟩ := C03_pubrec_success d w.sess.rt id rs hf hok hsz hcap
  refine ⟨h1, h2, ?_, ?_, h3, h4⟩
  · show (handlePacket d w.sess.rt (.pubRec id rs)).1.outbound.release.getLast?.map (·.id) = some id
    rw [h2]; simp
  · show (handlePacket d w.sess.rt (.pubRec id rs)).1.outbound.release.length = _
    rw [h2]; simp


/-- Eight QoS 2 publishes are sent (the whole window of 8); PUBRECs for the first seven arrive and are
handled, their PUBRELs are sent: seven release entries wait for PUBCOMP, the eighth PUBLISH (identifier 8)
waits for its PUBREC. The application waits in `recv()`. -/
def C06R_prog : List Directive :=
  [.connect, .rx [0x20, 0x03, 0x00, 0x00, 0x00], .go,
   C16Q_pub 2 0x74 0x70, .go, C16Q_pub 2 0x74 0x71, .go, C16Q_pub 2 0x74 0x72, .go, C16Q_pub 2 0x74 0x73, .go,
   C16Q_pub 2 0x74 0x74, .go, C16Q_pub 2 0x74 0x75, .go, C16Q_pub 2 0x74 0x76, .go, C16Q_pub 2 0x74 0x77, .go,
   .rx [0x50, 0x02, 0x00, 0x01, 0x50, 0x02, 0x00, 0x02, 0x50, 0x02, 0x00, 0x03, 0x50, 0x02, 0x00, 0x04,
        0x50, 0x02, 0x00, 0x05, 0x50, 0x02, 0x00, 0x06, 0x50, 0x02, 0x00, 0x07], .recv, .go]

def C06R_w : World := C06R_prog.foldl World.execDirective { sess := Session.new C16Q_cfg }

/-- `C06R_w` evaluated once: its state, and what `handle_packet` makes of PUBREC(8) in it. -/
theorem C06R_w_eval :
    (C06R_w.live = true ∧ C06R_w.sess.rt.deficit = false ∧ C06R_w.sess.data.awaits 8 .pubRec = true ∧
      C06R_w.sess.rt.packetTooLarge 5 = false ∧
      C06R_w.sess.data.outbound.release.length = 7 ∧ C06R_w.sess.data.outbound.retained.length = 1 ∧
      C06R_w.sess.rt.sendQuota = 0 ∧ C06R_w.sess.rt.maxSendQuota = 8 ∧ MAX_PENDING_RELEASE = 8) ∧
    (handlePacket C06R_w.sess.data C06R_w.sess.rt (.pubRec 8 { code := none, props := none })).1.outbound.release.map (·.id) =
      [1, 2, 3, 4, 5, 6, 7, 8] ∧
    (match (handlePacket C06R_w.sess.data C06R_w.sess.rt (.pubRec 8 { code := none, props := none })).2.2 with
      | .ok false => true | _ => false) = true := by
  decide +kernel

/-- The hypotheses hold of `C06R_w`, at the boundary: seven of the eight release slots are taken, the send quota is
used up (0 of 8), one QoS 2 PUBLISH awaits its PUBREC. -/
theorem C06R_w_facts :
    C06R_w.live = true ∧ C06R_w.sess.rt.deficit = false ∧ C06R_w.sess.data.awaits 8 .pubRec = true ∧
    C06R_w.sess.rt.packetTooLarge 5 = false ∧
    C06R_w.sess.data.outbound.release.length = 7 ∧ C06R_w.sess.data.outbound.retained.length = 1 ∧
    C06R_w.sess.rt.sendQuota = 0 ∧ C06R_w.sess.rt.maxSendQuota = 8 ∧ MAX_PENDING_RELEASE = 8 := by
  obtain ⟨h, _⟩ := C06R_w_eval
  exact h

/-- The theorems apply to `C06R_w`: PUBREC(8, Success) is not refused, and the eighth release entry is made. -/
example :
    (handlePacket C06R_w.sess.data C06R_w.sess.rt (.pubRec 8 { code := none, props := none })).2.2 ≠ .error .inflightExhausted ∧
    (handlePacket C06R_w.sess.data C06R_w.sess.rt (.pubRec 8 { code := none, props := none })).1.outbound.release.length = 8 ∧
    (handlePacket C06R_w.sess.data C06R_w.sess.rt (.pubRec 8 { code := none, props := none })).1.outbound.release.getLast?.map (·.id) = some 8 := by
  obtain ⟨hl, hd, hf, hsz, hlen, _⟩ := C06R_w_facts
  unfold C06R_w at hl hd hf hsz hlen ⊢
  have h := C06_pubrec_queues_pubrel C16Q_cfg C06R_prog 8 { code := none, props := none } hl hd hf (by decide) hsz
  exact ⟨C06_pubrec_never_exhausted C16Q_cfg C06R_prog 8 _ hl hd, by rw [h.2.2.2.1, hlen], h.2.2.1⟩

/-- Computed: the release queue after PUBREC(8, Success) holds identifiers 1 … 8, the result is `Ok`. -/
example :
    (handlePacket C06R_w.sess.data C06R_w.sess.rt (.pubRec 8 { code := none, props := none })).1.outbound.release.map (·.id) =
      [1, 2, 3, 4, 5, 6, 7, 8] ∧
    (match (handlePacket C06R_w.sess.data C06R_w.sess.rt (.pubRec 8 { code := none, props := none })).2.2 with
      | .ok false => true | _ => false) = true := by
  obtain ⟨_, h⟩ := C06R_w_eval
  exact h

/-- What the counting argument excludes, in isolation: a state that no program produces — eight release
entries AND a retained QoS 2 PUBLISH (nine exchanges in flight, window 8) — in which the PUBREC is answered
with `Resource.InflightExhausted` and the exchange is lost (the PUBLISH is gone, no PUBREL is queued). -/
example :
    let rel : List PendingRelease := (List.range 8).map fun i => { id := i + 1, rc := 0, state := .sent, rser := i, pser := i }
    let o : Outbound := { (Outbound.new 32) with
      buf := [0x34, 0, 0] ++ List.replicate 29 0, used := 3, nextSer := 9, nextRser := 8,
      retained := [{ id := 9, offset := 0, len := 3, state := .sent, ser := 8 }], release := rel }
    let r : Runtime := { keepaliveMs := 0, configuredKeepaliveMs := 0, sendQuota := 0, maxSendQuota := 8 }
    let res := handlePacket { outbound := o } r (.pubRec 9 { code := none, props := none })
    o.inflightPublishes = 9 ∧ (match res.2.2 with | .error .inflightExhausted => true | _ => false) = true ∧
    res.1.outbound.retained = [] ∧
    res.1.outbound.release.length = 8 := by
  decide +kernel

end Minimq
