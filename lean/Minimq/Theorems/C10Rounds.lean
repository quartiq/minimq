import Minimq.Proofs.KeepaliveRounds
import Minimq.Theorems.C10Machine
/-
C10 over arbitrarily long virtual time: the keep-alive cadence of an application waiting in `recv()`
(`outer = .recv`) or calling `poll()` in a loop (`outer = .poll`), as an induction over a schedule of
rounds of any length (`Theorems/C10Machine.lean` proves one round).

A schedule is a `List Round` (`Proofs/KeepaliveRounds.lean`). Round `i` is the directive list
  `tick e₁ … tick eₘ`            wake-ups that come before the PINGREQ time (any number, `early`)
  `tick us, d k1, d k2`          the wake-up at or after the PINGREQ time, write and flush decision
  [`poll`]                       only for `poll()`: it has returned `Ok(None)` and is called again
  `tick w₁ … tick wₙ`            wake-ups while the PINGRESP is outstanding (any number, `wait`);
                                 the PINGRESP arrives at the time of the last of them
  `rx D000, d r1, d r2`          the PINGRESP and the two read decisions that deliver it
  [`poll`]                       only for `poll()`: called again
(`Round.sendDirs`, `Round.recvDirs`) and `runRounds outer rs W` executes the concatenation
(`schedule outer rs`) with `World.execDirective`. The timing hypotheses `SchedOK ka t0 now rs` are, per
round (`Round.OK`), with `t_prev` the completion time of the PINGREQ of the round before (`t0` for the
first) and `t = sentAt` the time of the waking tick:
  every `early` wake-up lands before `t_prev + (ka − 5000) ms` (the PINGREQ time `nextPing`);
  `nextPing ≤ t ≤ t_prev + ka ms` (the executor is prompt within the slack the crate leaves: 5 s);
  `2 ≤ k1 ≤ 250` (both bytes at once), `k2 ≤ 250`;
  every `wait` wake-up lands before `t + 5 s` (the ping timeout); `1 ≤ r1, r2 ≤ 250`.
Virtual time is bounded by `4611686018427387904` = 2^62 µs (the guard of `tick` in `execDirective`) as in the
one-round theorems; the bound is a hypothesis on the time at which the schedule ends.

All statements keep the hypothesis `2 * ROUND_TRIP_TIMEOUT_MS ≤ keepaliveMs`: below it the PINGREQ time
falls before the ping timeout (`C10M_boundary_sharp`) and the rounds no longer have this shape; nothing
is proved for such keep-alives. A gap above the keep-alive (finding F12) needs a keep-alive under 5 s;
`C10R_below_boundary_gap_exceeds_keepalive` shows one at 2 s.

Limits: the PINGREQ write decision takes both bytes at once; no wake-up between the arrival of the
PINGRESP and its two read decisions; with `poll()` the application calls it again at once (no virtual
time passes while no operation is suspended — the property speaks of the time the application waits in
`poll()`); the control queue is empty (nothing else is sent in between — any other completed client
packet re-arms the timer as well, which is not covered here).
-/
namespace Minimq
open Gen World Outbound

/-- **C10, cadence for ever.** The application waits in `recv()` or `poll()` after a full service pass
(`IdleWait`), nothing queued, no ping timeout running, the PINGREQ timer armed from the completion time
`t0` of the previous client packet, reader at a packet boundary, keep-alive at least 10 s (twice the
round-trip bound). For EVERY schedule `rs` of rounds that satisfies its timing hypotheses and ends within
the clock's range, of whatever length:

* (every round) for every round `r` of the schedule (`rs = pre ++ r :: post`), with `Wn` the world after
  the rounds before it, `t_prev` the completion time of the PINGREQ before it, `C` the world after its
  flush decision (for `poll()`: and the next call), `R` the world after its PINGRESP, `t` the time of its
  waking tick:
  - `Wn` is `Armed` from `t_prev`: waiting, no timeout, `nextPing = t_prev + (ka − 5000) ms`;
  - the PINGREQ is complete at `C.now = t` with `t_prev + (ka − 5000) ms ≤ t ≤ t_prev + ka ms`; `C` is
    waiting again with the ping timeout `t + 5 s` running and the timer re-armed from `t`; the wire of
    the current transport holds what it held at the start plus exactly `pre.length + 1` times `C0 00`,
    the transmission log exactly as many PINGREQ entries more;
  - `R` (which is `runRounds outer (pre ++ [r]) W`) is `Armed` from `t` — `IdleWait` again, live, no ping
    timeout, `nextPing = t + (ka − 5000) ms` — and the wire and the log are those of `C`: the PINGRESP
    wrote nothing; the session's data is that of `W`;
* (whole run) after every prefix of the directive list the connection is live; with `recv()` the
  operation is still suspended and no operation has returned; with `poll()` the last result is what it
  was or `Ok` — never an error: a PINGRESP received in time never leads to a disconnect;
* (end) the world after the whole schedule is `Armed` from the completion time of the last PINGREQ, the
  clock reads `endTime`, and exactly `rs.length` PINGREQs have gone out. -/
theorem C10R_cadence_forever (W : World) (outer : Outer) (ho : outer = .recv ∨ outer = .poll) (t0 : Nat)
    (hI : IdleWait W outer)
    (hctl : W.sess.data.outbound.control = []) (hpt : W.sess.rt.pingTimeout = none)
    (hsz : W.sess.rt.packetTooLarge 2 = false)
    (harmed : W.sess.rt.nextPing = W.sess.rt.keepaliveSendInterval.map (fun i => t0 + i * 1000))
    (hka : 2 * ROUND_TRIP_TIMEOUT_MS ≤ W.sess.rt.keepaliveMs)
    (hrd : W.sess.reader.data = [] ∧ W.sess.reader.packetLength = none ∧ 2 ≤ W.sess.reader.cap)
    (hrx : W.curNet.rx = [])
    (rs : List Round) (hok : SchedOK W.sess.rt.keepaliveMs t0 W.now rs)
    (hb : endTime rs W.now ≤ 4611686018427387904) :
    let ka := W.sess.rt.keepaliveMs;
    (∀ (pre : List Round) (r : Round) (post : List Round), rs = pre ++ r :: post →
      let Wn := runRounds outer pre W
      let t_prev := lastPing t0 pre W.now
      let C := run (r.sendDirs outer) Wn
      let R := runRounds outer (pre ++ [r]) W
      let t := r.sentAt Wn.now
      (Armed Wn outer ka t_prev ∧ Wn.sess.rt.nextPing = some (t_prev + (ka - ROUND_TRIP_TIMEOUT_MS) * 1000)) ∧
      (C.now = t ∧ t_prev + (ka - ROUND_TRIP_TIMEOUT_MS) * 1000 ≤ t ∧ t ≤ t_prev + ka * 1000 ∧
        IdleWait C outer ∧ C.live = true ∧
        C.sess.rt.pingTimeout = some (t + ROUND_TRIP_TIMEOUT_MS * 1000) ∧
        C.sess.rt.nextPing = some (t + (ka - ROUND_TRIP_TIMEOUT_MS) * 1000) ∧
        C.curNet.wire = W.curNet.wire ++ (List.replicate (pre.length + 1) pingBytes).flatten ∧
        C.log = W.log ++ List.replicate (pre.length + 1) (pingEntry W.nets.length) ∧
        C.nets.dropLast = W.nets.dropLast) ∧
      (R = run (r.recvDirs outer) C ∧ Armed R outer ka t ∧ IdleWait R outer ∧ R.live = true ∧
        R.sess.rt.pingTimeout = none ∧ R.sess.rt.nextPing = some (t + (ka - ROUND_TRIP_TIMEOUT_MS) * 1000) ∧
        R.now = r.endAt Wn.now ∧ R.curNet.wire = C.curNet.wire ∧ R.log = C.log ∧
        R.nets.dropLast = W.nets.dropLast ∧ R.sess.data = W.sess.data)) ∧
    (∀ n, let X := run ((schedule outer rs).take n) W
      X.live = true ∧ (outer = .recv → X.fut.isSome = true ∧ X.lastRes = W.lastRes) ∧
      (X.lastRes = W.lastRes ∨ X.lastRes = some (.ok ()))) ∧
    (let R := runRounds outer rs W;
      Armed R outer ka (lastPing t0 rs W.now) ∧ R.now = endTime rs W.now ∧ Sent W R rs.length) := by
  intro ka
  have hA : Armed W outer ka t0 := ⟨⟨hctl, hpt, hsz, rfl, harmed, hrd, hrx⟩, hI⟩
  have e := rounds_run ho hka rs W t0 W.now ⟨hA, rfl⟩ hok hb
  refine ⟨?_, fun n => (Stays.prefix _ W e.stays n).spell, e.post.1, e.post.2, e.sent⟩
  intro pre r post hsplit Wn t_prev C R t
  obtain ⟨i, hr, c, a⟩ := rounds_each ho hka rs W t0 hA hok hb pre r post hsplit
  have hR : R = run (r.recvDirs outer) C := runRounds_snoc outer pre r W
  obtain ⟨r1, r2⟩ := a.post
  have sC := i.sent.trans c.sent
  have sR := sC.trans a.sent
  have aS := a.sent
  rw [← hR] at r1 r2 sR aS
  exact ⟨⟨i.post.1, i.post.1.nextPing hka⟩,
    ⟨c.post.2, hr.due, hr.prompt, c.post.1.idle, c.post.1.idle.live, c.post.1.timeout, c.post.1.nextPing hka,
      sC.wire, sC.log, sC.others⟩,
    hR, r1, r1.idle, r1.idle.live, r1.noTimeout, r1.nextPing hka, r2, aS.quiet.1, aS.quiet.2, sR.others, sR.data⟩

/-- **C10, the gap between consecutive client packets never exceeds the keep-alive — given a prompt
executor.** The schedule's admissibility (`SchedOK`: each waking tick lands between the PINGREQ time and
the end of the keep-alive period, i.e. the executor honours the deadline the crate hands it within the
5 s of slack the crate leaves) is an *assumption* about the environment, and the upper bound below is
that assumption read off the clock. What the machine contributes, and what is proved, is everything
that makes the assumption sufficient: the PINGREQ is complete at the very tick that wakes the client
(no further wait), exactly one `C0 00` goes out, the deadline handed to the executor for the next round
is `completion + (ka − 5 s)` — never later, so a prompt executor can always meet it — and nothing else
is ever needed. Under the hypotheses of `C10R_cadence_forever`:
* the first PINGREQ of the schedule is complete (clock of the world after its flush decision) no later
  than `t0 + ka ms`, and between the start and that moment exactly `C0 00` was written;
* for any two consecutive rounds `r`, `r'`, the clocks `C.now`, `C'.now` of the worlds after their flush
  decisions satisfy `C.now + (ka − 5000) ms ≤ C'.now ≤ C.now + ka ms`, and between the two moments
  exactly `C0 00` was written on the current transport (and one PINGREQ entry logged);
* in list form: `pingTimes rs W.now` lists these clocks (entry `pre.length` is the clock of the world
  after the flush decision of the round behind `pre`), and any two consecutive entries `a`, `b` of
  `t0 :: pingTimes rs W.now` satisfy `a + (ka − 5000) ms ≤ b` and `b − a ≤ ka ms`. -/
theorem C10R_gap_bound (W : World) (outer : Outer) (ho : outer = .recv ∨ outer = .poll) (t0 : Nat)
    (hI : IdleWait W outer)
    (hctl : W.sess.data.outbound.control = []) (hpt : W.sess.rt.pingTimeout = none)
    (hsz : W.sess.rt.packetTooLarge 2 = false)
    (harmed : W.sess.rt.nextPing = W.sess.rt.keepaliveSendInterval.map (fun i => t0 + i * 1000))
    (hka : 2 * ROUND_TRIP_TIMEOUT_MS ≤ W.sess.rt.keepaliveMs)
    (hrd : W.sess.reader.data = [] ∧ W.sess.reader.packetLength = none ∧ 2 ≤ W.sess.reader.cap)
    (hrx : W.curNet.rx = [])
    (rs : List Round) (hok : SchedOK W.sess.rt.keepaliveMs t0 W.now rs)
    (hb : endTime rs W.now ≤ 4611686018427387904) :
    let ka := W.sess.rt.keepaliveMs;
    (∀ (r : Round) (post : List Round), rs = r :: post →
      let C := run (r.sendDirs outer) W
      C.now - t0 ≤ ka * 1000 ∧ t0 + (ka - ROUND_TRIP_TIMEOUT_MS) * 1000 ≤ C.now ∧
      C.curNet.wire = W.curNet.wire ++ pingBytes ∧ C.log = W.log ++ [pingEntry W.nets.length]) ∧
    (∀ (pre : List Round) (r r' : Round) (post : List Round), rs = pre ++ r :: r' :: post →
      let C := run (r.sendDirs outer) (runRounds outer pre W)
      let C' := run (r'.sendDirs outer) (runRounds outer (pre ++ [r]) W)
      C'.now - C.now ≤ ka * 1000 ∧ C.now + (ka - ROUND_TRIP_TIMEOUT_MS) * 1000 ≤ C'.now ∧
      C'.curNet.wire = C.curNet.wire ++ pingBytes ∧ C'.log = C.log ++ [pingEntry W.nets.length]) ∧
    (∀ (pre : List Round) (r : Round) (post : List Round), rs = pre ++ r :: post →
      (pingTimes rs W.now)[pre.length]? = some (run (r.sendDirs outer) (runRounds outer pre W)).now) ∧
    (∀ (i : Nat) (hi : i + 1 < (t0 :: pingTimes rs W.now).length),
      (t0 :: pingTimes rs W.now)[i] + (ka - ROUND_TRIP_TIMEOUT_MS) * 1000 ≤ (t0 :: pingTimes rs W.now)[i + 1] ∧
      (t0 :: pingTimes rs W.now)[i + 1] - (t0 :: pingTimes rs W.now)[i] ≤ ka * 1000) := by
  intro ka
  have hA : Armed W outer ka t0 := ⟨⟨hctl, hpt, hsz, rfl, harmed, hrd, hrx⟩, hI⟩
  refine ⟨?_, ?_, ?_, hok.gap rs t0 W.now⟩
  · intro r post hsplit C
    obtain ⟨i, hr, c, _⟩ := rounds_each ho hka rs W t0 hA hok hb [] r post hsplit
    have hC : C.now = r.sentAt W.now := c.post.2
    have sC : Sent W C 1 := i.sent.trans c.sent
    rw [hC]
    exact ⟨hr.within, hr.due, sC.once⟩
  · intro pre r r' post hsplit C C'
    obtain ⟨i, _, c, a⟩ := rounds_each ho hka rs W t0 hA hok hb pre r (r' :: post) hsplit
    obtain ⟨_, hr', c', _⟩ := rounds_each ho hka rs W t0 hA hok hb (pre ++ [r]) r' post
      (by rw [hsplit, List.append_assoc]; rfl)
    have i2 : (runRounds outer pre W).now = endTime pre W.now := i.post.2
    rw [lastPing_snoc, ← i2] at hr'
    have hC : C.now = r.sentAt (runRounds outer pre W).now := c.post.2
    have hC' : C'.now = r'.sentAt (runRounds outer (pre ++ [r]) W).now := c'.post.2
    -- from one PINGREQ to the next: the PINGRESP half of `r`, then the PINGREQ half of `r'`
    have aS : Sent C (runRounds outer (pre ++ [r]) W) 0 := runRounds_snoc outer pre r W ▸ a.sent
    have s : Sent C C' 1 := aS.trans c'.sent
    have hlen : C.nets.length = W.nets.length := (i.sent.trans c.sent).len
    rw [hC, hC', ← hlen]
    exact ⟨hr'.within, hr'.due, s.once⟩
  · intro pre r post hsplit
    obtain ⟨i, _, c, _⟩ := rounds_each ho hka rs W t0 hA hok hb pre r post hsplit
    have i2 : (runRounds outer pre W).now = endTime pre W.now := i.post.2
    rw [hsplit, pingTimes_at, c.post.2, i2]

/-- **C10, an unanswered PINGREQ ends the wait with `Disconnected`, at the bound and not before.** Same
starting state; after ANY schedule `rs` of answered rounds comes a round `r` whose PINGREQ half satisfies
its hypotheses (PINGREQ complete at `t = sentAt`) but whose PINGRESP does not arrive. Then
* through the whole run up to and including the last wake-up of `r.wait` — all of which land before
  `t + 5 s` — the connection is live, `recv()` is suspended and nothing has returned (`poll()` has
  returned nothing but `Ok`), after every prefix of the directive list; at that point the application is
  waiting (`IdleWait`), the clock reads `endAt < t + 5 s`, the ping timeout `t + 5 s` is running, and
  `rs.length + 1` PINGREQs have gone out;
* the next tick, the first to reach `t + 5 s` (by whatever amount), ends the wait with
  `Err(Disconnected)`: no operation suspended, handle dead, session disconnected; nothing is written or
  logged. -/
theorem C10R_unanswered_round_disconnects (W : World) (outer : Outer) (ho : outer = .recv ∨ outer = .poll)
    (t0 : Nat) (hI : IdleWait W outer)
    (hctl : W.sess.data.outbound.control = []) (hpt : W.sess.rt.pingTimeout = none)
    (hsz : W.sess.rt.packetTooLarge 2 = false)
    (harmed : W.sess.rt.nextPing = W.sess.rt.keepaliveSendInterval.map (fun i => t0 + i * 1000))
    (hka : 2 * ROUND_TRIP_TIMEOUT_MS ≤ W.sess.rt.keepaliveMs)
    (hrd : W.sess.reader.data = [] ∧ W.sess.reader.packetLength = none ∧ 2 ≤ W.sess.reader.cap)
    (hrx : W.curNet.rx = [])
    (rs : List Round) (hok : SchedOK W.sess.rt.keepaliveMs t0 W.now rs) (r : Round)
    (hr : r.SentOK W.sess.rt.keepaliveMs (lastPing t0 rs W.now) (endTime rs W.now)) (u : Nat)
    (hd : r.sentAt (endTime rs W.now) + ROUND_TRIP_TIMEOUT_MS * 1000 ≤ r.endAt (endTime rs W.now) + u)
    (hb : r.endAt (endTime rs W.now) + u ≤ 4611686018427387904) :
    let t := r.sentAt (endTime rs W.now)
    let ds := schedule outer rs ++ (r.sendDirs outer ++ r.wait.map Directive.tick)
    let Q := run ds W
    let D := Q.execDirective (.tick u)
    (∀ n, let X := run (ds.take n) W
      X.live = true ∧ (outer = .recv → X.fut.isSome = true ∧ X.lastRes = W.lastRes) ∧
      (X.lastRes = W.lastRes ∨ X.lastRes = some (.ok ()))) ∧
    (IdleWait Q outer ∧ Q.now = r.endAt (endTime rs W.now) ∧ Q.now < t + ROUND_TRIP_TIMEOUT_MS * 1000 ∧
      Q.sess.rt.pingTimeout = some (t + ROUND_TRIP_TIMEOUT_MS * 1000) ∧
      Q.curNet.wire = W.curNet.wire ++ (List.replicate (rs.length + 1) pingBytes).flatten) ∧
    (D.fut = none ∧ D.lastRes = some (.error .disconnected) ∧ D.live = false ∧
      D.sess = Q.sess.handleDisconnect ∧ D.nets = Q.nets ∧ D.log = Q.log) := by
  intro t ds Q D
  have hA : Armed W outer W.sess.rt.keepaliveMs t0 := ⟨⟨hctl, hpt, hsz, rfl, harmed, hrd, hrx⟩, hI⟩
  have hbr : r.endAt (endTime rs W.now) ≤ 4611686018427387904 := Nat.le_trans (Nat.le_add_right _ _) hb
  have hbs := Nat.le_trans (r.sentAt_le_endAt _) hbr
  have hl := (rounds_run ho hka rs W t0 W.now ⟨hA, rfl⟩ hok (Nat.le_trans (r.le_sentAt _) hbs)).seq fun _ h =>
    (round_sends ho hka h r hr hbs).seq fun _ h => h.early r.wait hr.wait hbr
  obtain ⟨q1, q2⟩ := hl.post
  exact ⟨fun n => (Stays.prefix _ W hl.stays n).spell, ⟨q1.idle, q2, q1.fresh, q1.timeout, hl.sent.wire⟩,
    tick_timeout Q outer q1.idle _ q1.timeout u (by rw [q2]; exact hb) (by rw [q2]; exact hd)⟩

/-- The world of `C10M_example_pingreq`: keep-alive 10 s, connected, `recv()` waiting at time 0. -/
def C10R_W0 : World := C10M_run []

/-- As `C10R_W0`, with `poll()` instead of `recv()`. -/
def C10R_P0 : World :=
  [Directive.connect, .go, .rx [b 0x20, b 3, b 0, b 0, b 0], .go, .poll].foldl World.execDirective { sess := Session.new C10M_cfg }

/-- Three rounds: PINGREQs at 5 s, 11.5 s and 21.5 s (the last at the very end of its keep-alive
period), PINGRESPs after 1 s, at once, and 1 µs before the timeout; with early wake-ups. -/
def C10R_rounds : List Round :=
  [{ early := [4999999], us := 1, k1 := 250, k2 := 250, wait := [1000000], r1 := 1, r2 := 1 },
   { early := [1000000, 2000000], us := 2500000, k1 := 2, k2 := 0, wait := [], r1 := 250, r2 := 7 },
   { early := [], us := 10000000, k1 := 100, k2 := 250, wait := [2000000, 2999999], r1 := 3, r2 := 250 }]

theorem C10R_W0_checks :
    waitReadOf C10R_W0.fut = some (Outer.recv, C10R_W0.sess.rt.nextDeadline, true) ∧
    C10R_W0.live = true ∧ C10R_W0.slot = none ∧
    C10R_W0.sess.data.outbound.nextStep.isNone = true ∧ C10R_W0.nets.isEmpty = false ∧
    C10R_W0.sess.data.outbound.control.isEmpty = true ∧ C10R_W0.sess.rt.pingTimeout = none ∧
    C10R_W0.sess.rt.packetTooLarge 2 = false ∧ C10R_W0.sess.rt.keepaliveMs = 10000 ∧
    C10R_W0.sess.rt.nextPing = C10R_W0.sess.rt.keepaliveSendInterval.map (fun i => 0 + i * 1000) ∧
    (C10R_W0.sess.reader.data = [] ∧ C10R_W0.sess.reader.packetLength = none ∧ 2 ≤ C10R_W0.sess.reader.cap) ∧
    C10R_W0.curNet.rx = [] ∧ C10R_W0.now = 0 := by
  decide +kernel

theorem C10R_P0_checks :
    waitReadOf C10R_P0.fut = some (Outer.poll, C10R_P0.sess.rt.nextDeadline, true) ∧
    C10R_P0.live = true ∧ C10R_P0.slot = none ∧
    C10R_P0.sess.data.outbound.nextStep.isNone = true ∧ C10R_P0.nets.isEmpty = false ∧
    C10R_P0.sess.data.outbound.control.isEmpty = true ∧ C10R_P0.sess.rt.pingTimeout = none ∧
    C10R_P0.sess.rt.packetTooLarge 2 = false ∧ C10R_P0.sess.rt.keepaliveMs = 10000 ∧
    C10R_P0.sess.rt.nextPing = C10R_P0.sess.rt.keepaliveSendInterval.map (fun i => 0 + i * 1000) ∧
    (C10R_P0.sess.reader.data = [] ∧ C10R_P0.sess.reader.packetLength = none ∧ 2 ≤ C10R_P0.sess.reader.cap) ∧
    C10R_P0.curNet.rx = [] ∧ C10R_P0.now = 0 := by
  decide +kernel

/-- The starting state of the examples satisfies the hypotheses of the theorems. -/
theorem C10R_W0_armed : Armed C10R_W0 .recv 10000 0 := by
  obtain ⟨h1, h2, h3, h4, h5, h6, h7, h8, h9, h10, h11, h12, _⟩ := C10R_W0_checks
  exact Armed.of_checks _ _ _ _ (by decide) h1 h2 h3 h4 h5 h6 h7 h8 h9 h10 h11 h12

theorem C10R_P0_armed : Armed C10R_P0 .poll 10000 0 := by
  obtain ⟨h1, h2, h3, h4, h5, h6, h7, h8, h9, h10, h11, h12, _⟩ := C10R_P0_checks
  exact Armed.of_checks _ _ _ _ (by decide) h1 h2 h3 h4 h5 h6 h7 h8 h9 h10 h11 h12

/-- The schedule satisfies its timing hypotheses; its PINGREQ completion times and its end. -/
theorem C10R_rounds_ok : SchedOK 10000 0 0 C10R_rounds ∧ pingTimes C10R_rounds 0 = [5000000, 11500000, 21500000] ∧
    endTime C10R_rounds 0 = 26499999 := by
  decide +kernel

/-- The hypotheses of `C10R_cadence_forever` hold for `C10R_W0` and `C10R_rounds`, and its conclusion
for the whole schedule, spelled out: after the three rounds the application is waiting again, timer
armed from 21.5 s, the clock reads 26.499999 s, and the wire holds three `C0 00` more. -/
example :
    let R := runRounds .recv C10R_rounds C10R_W0
    Armed R .recv 10000 21500000 ∧ R.now = 26499999 ∧ R.live = true ∧
    R.curNet.wire = C10R_W0.curNet.wire ++ [b 0xC0, b 0, b 0xC0, b 0, b 0xC0, b 0] ∧
    (∀ n, (run ((schedule .recv C10R_rounds).take n) C10R_W0).live = true ∧
      (run ((schedule .recv C10R_rounds).take n) C10R_W0).fut.isSome = true) := by
  obtain ⟨_, _, _, _, _, _, _, _, hka, _, _, _, hnow⟩ := C10R_W0_checks
  have hA := C10R_W0_armed
  have hok : SchedOK C10R_W0.sess.rt.keepaliveMs 0 C10R_W0.now C10R_rounds := by
    rw [hka, hnow]; exact C10R_rounds_ok.1
  obtain ⟨_, h2, h3, h4, h5⟩ := C10R_cadence_forever C10R_W0 .recv (Or.inl rfl) 0 hA.idle hA.ctl hA.noTimeout hA.fits
    hA.armed (by rw [hka]; decide) hA.reader hA.rx C10R_rounds hok (by rw [hnow]; decide)
  rw [hka, hnow] at h3
  rw [hnow] at h4
  exact ⟨h3, h4, h3.idle.live, h5.wire, fun n => ⟨(h2 n).1, ((h2 n).2.1 rfl).1⟩⟩

/-- The same conclusion for `C10R_P0`, where the application calls `poll()`. -/
example :
    let R := runRounds .poll C10R_rounds C10R_P0
    Armed R .poll 10000 21500000 ∧ R.now = 26499999 ∧ R.live = true ∧
    R.curNet.wire = C10R_P0.curNet.wire ++ [b 0xC0, b 0, b 0xC0, b 0, b 0xC0, b 0] := by
  obtain ⟨_, _, _, _, _, _, _, _, hka, _, _, _, hnow⟩ := C10R_P0_checks
  have hA := C10R_P0_armed
  have hok : SchedOK C10R_P0.sess.rt.keepaliveMs 0 C10R_P0.now C10R_rounds := by
    rw [hka, hnow]; exact C10R_rounds_ok.1
  obtain ⟨_, _, h3, h4, h5⟩ := C10R_cadence_forever C10R_P0 .poll (Or.inr rfl) 0 hA.idle hA.ctl hA.noTimeout hA.fits
    hA.armed (by rw [hka]; decide) hA.reader hA.rx C10R_rounds hok (by rw [hnow]; decide)
  rw [hka, hnow] at h3
  rw [hnow] at h4
  exact ⟨h3, h4, h3.idle.live, h5.wire⟩

set_option maxRecDepth 16384 in
/-- The state after the three rounds by evaluation, for `recv()` and for `poll()` (view: time, PINGREQ time, ping
timeout, live, wire behind the CONNECT, control queue length, suspended), and the PINGREQ completion clocks of the
three rounds. -/
example :
    (C10M_view (runRounds .recv C10R_rounds C10R_W0) ==
      (26499999, some 26500000, none, true, [b 0xC0, b 0, b 0xC0, b 0, b 0xC0, b 0], 0, true)) = true ∧
    (C10M_view (runRounds .poll C10R_rounds C10R_P0) ==
      (26499999, some 26500000, none, true, [b 0xC0, b 0, b 0xC0, b 0, b 0xC0, b 0], 0, true)) = true ∧
    (run (C10R_rounds[0].sendDirs .recv) C10R_W0).now = 5000000 ∧
    (run (C10R_rounds[1].sendDirs .recv) (runRounds .recv (C10R_rounds.take 1) C10R_W0)).now = 11500000 ∧
    (run (C10R_rounds[2].sendDirs .recv) (runRounds .recv (C10R_rounds.take 2) C10R_W0)).now = 21500000 := by
  decide +kernel

/-- The third round unanswered: wake-ups up to 1 µs before 26.5 s change nothing, the tick that reaches
26.5 s ends `recv()` with `Disconnected` — by `C10R_unanswered_round_disconnects`. -/
example :
    let r : Round := { early := [], us := 10000000, k1 := 2, k2 := 250, wait := [2000000, 2999999], r1 := 0, r2 := 0 }
    let Q := run (schedule .recv (C10R_rounds.take 2) ++ (r.sendDirs .recv ++ r.wait.map Directive.tick)) C10R_W0
    let D := Q.execDirective (.tick 1)
    Q.now = 26499999 ∧ Q.live = true ∧ Q.fut.isSome = true ∧
    D.fut = none ∧ D.lastRes = some (.error .disconnected) ∧ D.live = false := by
  intro r Q D
  obtain ⟨_, _, _, _, _, _, _, _, hka, _, _, _, hnow⟩ := C10R_W0_checks
  have hA := C10R_W0_armed
  have hok : SchedOK C10R_W0.sess.rt.keepaliveMs 0 C10R_W0.now (C10R_rounds.take 2) := by
    rw [hka, hnow]; decide
  have hr : r.SentOK C10R_W0.sess.rt.keepaliveMs (lastPing 0 (C10R_rounds.take 2) C10R_W0.now)
      (endTime (C10R_rounds.take 2) C10R_W0.now) := by
    rw [hka, hnow]; decide
  obtain ⟨_, ⟨q0, q1, _, _, _⟩, d1, d2, d3, _⟩ := C10R_unanswered_round_disconnects C10R_W0 .recv (Or.inl rfl) 0
    hA.idle hA.ctl hA.noTimeout hA.fits hA.armed (by rw [hka]; decide) hA.reader hA.rx (C10R_rounds.take 2) hok r hr 1
    (by rw [hnow]; decide) (by rw [hnow]; decide)
  have q1' : Q.now = 26499999 := by rw [q1, hnow]; decide
  exact ⟨q1', q0.live, by rw [q0.fut]; rfl, d1, d2, d3⟩

set_option maxRecDepth 16384 in
/-- The unanswered third round by evaluation, for `recv()` and for `poll()`. -/
example :
    let sent : List Directive := schedule .recv (C10R_rounds.take 2) ++ [.tick 10000000, .d 2, .d 250]
    let sentP : List Directive := schedule .poll (C10R_rounds.take 2) ++ [.tick 10000000, .d 2, .d 250, .poll]
    (C10M_view (run (sent ++ [.tick 2000000, .tick 2999999]) C10R_W0) ==
      (26499999, some 26500000, some 26500000, true, [b 0xC0, b 0, b 0xC0, b 0, b 0xC0, b 0], 0, true)) = true ∧
    (C10M_view (run (sent ++ [.tick 2000000, .tick 2999999, .tick 1]) C10R_W0) ==
      (26500000, none, none, false, [b 0xC0, b 0, b 0xC0, b 0, b 0xC0, b 0], 0, false)) = true ∧
    (match (run (sent ++ [.tick 2000000, .tick 2999999, .tick 1]) C10R_W0).lastRes with
      | some (.error .disconnected) => true | _ => false) = true ∧
    (C10M_view (run (sentP ++ [.tick 2000000, .tick 2999999]) C10R_P0) ==
      (26499999, some 26500000, some 26500000, true, [b 0xC0, b 0, b 0xC0, b 0, b 0xC0, b 0], 0, true)) = true ∧
    (match (run (sentP ++ [.tick 2000000, .tick 2999999, .tick 1]) C10R_P0).lastRes with
      | some (.error .disconnected) => true | _ => false) = true := by
  decide +kernel

/-! ### The hypothesis `2 * ROUND_TRIP_TIMEOUT_MS ≤ keepaliveMs` cannot be dropped (finding F12) -/

/-- Keep-alive 2 s, below the boundary: the PINGREQ interval is 1 s. -/
def C10R_cfg2 : Cfg := { C10M_cfg with keepaliveS := 2 }

def C10R_run2 (ds : List Directive) : World :=
  (C10M_pre ++ ds).foldl World.execDirective { sess := Session.new C10R_cfg2 }

/-- A round of the same shape with keep-alive 2 s: the PINGREQ is complete at 1 s (timeout at 6 s, next
PINGREQ time 2 s); the wake-ups at 2 s, 3 s and 4 s — at and after the PINGREQ time — send nothing
because the ping timeout is running; the PINGRESP arrives in time at 4.999999 s and only then is the
next PINGREQ queued, and completed at 4.999999 s: 3.999999 s after the previous client packet, with an
effective keep-alive of 2 s. -/
theorem C10R_below_boundary_gap_exceeds_keepalive :
    let sent : List Directive := [.tick 1000000, .d 250, .d 250]
    let late : List Directive := sent ++ [.tick 1000000, .tick 1000000, .tick 1000000]
    let answered : List Directive := late ++ [.tick 999999, .rx [b 0xD0, b 0], .d 1, .d 1]
    (C10R_run2 []).sess.rt.keepaliveMs = 2000 ∧
    (C10M_view (C10R_run2 sent) == (1000000, some 2000000, some 6000000, true, [b 0xC0, b 0], 0, true)) = true ∧
    (C10M_view (C10R_run2 late) == (4000000, some 2000000, some 6000000, true, [b 0xC0, b 0], 0, true)) = true ∧
    (C10M_view (C10R_run2 answered) == (4999999, some 2000000, none, true, [b 0xC0, b 0], 1, true)) = true ∧
    (C10M_view (C10R_run2 (answered ++ [.d 250, .d 250])) ==
      (4999999, some 5999999, some 9999999, true, [b 0xC0, b 0, b 0xC0, b 0], 0, true)) = true ∧
    4999999 - 1000000 > 2000 * 1000 := by
  decide +kernel

end Minimq
