import Minimq.Ops
import Minimq.Proofs.Queues
/-
C16 — with a responsive broker every accepted operation completes; the session quiesces.

This is a liveness property over whole executions. That repeated `poll()` calls against a responsive
broker reach quiescence within a bound is proved for the closed loop of `Theorems/C16Quiesce.lean`
(`C16Q_bounded_quiescence`) and decided on every run by the correspondence programs and the monitor
(drain phases with a reactive broker, budget counters, `spin`/`fuel` detection). What is proved here,
for every state, are the facts the bound rests on:

 * the scheduler never hands out an entry that has been sent (`C16_sent_never_rescheduled`; what this means
   on the wire is `C02_at_most_once_on_every_connection`); `arm_replay` (run by disconnect and connect) makes
   the entries fresh again (`C16_replay_makes_fresh_once`);
 * every accepted non-empty write strictly decreases what is left of the packet, and the packet
   moves to `flush` exactly when nothing is left (`C16_write_progress`); a write of zero bytes is an
   error, not a retry (`C11_writeZero_elsewhere_keeps_handle`: reported; only inside `disconnect` it ends
   the handle);
 * `poll()` returns `Ok(None)` only when something advanced (`C16_idle_poll_waits`): without
   progress and with nothing to send it goes to sleep on the transport instead of returning;
 * an acknowledgement strictly shrinks the queues (`C16_ack_shrinks`), and the session is quiescent
   exactly when the three queues are empty (`C16_quiescent_iff`).
Known findings F9 and F14 (see known_findings.json) are the two ways a session can be stuck.
-/
namespace Minimq
open Gen Outbound World

theorem matches_not_sent (b : Bool) : SendState.sent.matchesPriority b = false := by
  cases b <;> rfl

theorem nextStepPrio_not_sent (o : Outbound) (b : Bool) (s : Outbound.Step) (h : o.nextStepPrio b = some s) :
    s.state ≠ .sent :=
  ne_sent_of_matches (nextStepPrio_matches o b s h)

/-- The scheduler never returns an entry whose state is `sent` (the local half of "nothing is sent
twice within a connection"; the statement about the wire is `C02_at_most_once_on_every_connection` and
`C16Q_nothing_sent_twice`). -/
theorem C16_sent_never_rescheduled (o : Outbound) (s : Outbound.Step) (h : o.nextStep = some s) : s.state ≠ .sent :=
  nextStep_not_sent o s h

/-- Marking the first retained entry with identifier `id` as `sent` — what completing the flush of a retained
packet does — leaves the first entry with that identifier in state `sent`. -/
theorem C16_flush_marks_sent (es : List RetainedPacket) (id : Nat) (e : RetainedPacket)
    (h : es.find? (fun e => e.id == id) = some e) :
    ∃ e', (modifyFirst (fun e => e.id == id) (fun e => { e with state := .sent }) es).find? (fun e => e.id == id) = some e' ∧
      e'.state = .sent := by
  obtain ⟨l₁, l₂, rfl, h1, h2⟩ := find?_first h
  rw [modifyFirst_hit _ _ l₁ e l₂ h1 h2]
  exact ⟨_, find?_hit _ l₁ _ l₂ h1 h2, rfl⟩

/-- **Write progress.** Each accepted non-empty write strictly decreases what is left of the packet;
the entry moves to `flush` exactly when nothing is left. -/
theorem C16_write_progress (written count len : Nat) (hc : 0 < count) (hw : written < len) :
    (SendState.afterWrite (written + count) len = .flush ↔ len ≤ written + count) ∧
    (written + count < len → SendState.afterWrite (written + count) len = .write (written + count) ∧
      len - (written + count) < len - written) := by
  unfold SendState.afterWrite
  refine ⟨⟨fun h => ?_, fun h => if_pos h⟩, fun h => ⟨if_neg (by omega), by omega⟩⟩
  split at h
  · assumption
  · cases h

/-- **`poll()` does not return empty-handed without progress.** With nothing received, nothing to
send and nothing advanced, `drive_packet` reports `Idle` and `poll` waits on the transport (with the
keep-alive deadline) instead of returning `Ok(None)`. -/
theorem C16_idle_poll_waits (fuel : Nat) (w : World)
    (hav : w.sess.reader.packetAvailable = false) (hn : w.sess.data.outbound.nextStep = none) :
    driveAfterService (fuel + 1) w .poll false = doWaitRead fuel w .poll w.sess.rt.nextDeadline false := by
  unfold driveAfterService
  simp [hav, hn]

/-- With nothing received and nothing to send, `poll` returns `Ok(None)` when the round did advance. -/
theorem C16_advanced_poll_returns (fuel : Nat) (w : World)
    (hav : w.sess.reader.packetAvailable = false) (hn : w.sess.data.outbound.nextStep = none) :
    driveAfterService (fuel + 1) w .poll true = w.finish "ret poll ok none" := by
  unfold driveAfterService
  simp [hav, hn]

/-- **Acknowledgements shrink the queues.** -/
theorem C16_ack_shrinks (o : Outbound) (id : Nat) (k : AckKind) (h : (o.ackPacket id k).2 = true) :
    (o.ackPacket id k).1.retained.length + 1 = o.retained.length := by
  rw [ackPacket_found_iff] at h
  rw [ackPacket_eq, if_pos h, compact_retained_length]
  exact removeFirst_length _ _ h

theorem C16_release_shrinks (o : Outbound) (id : Nat) (h : (o.ackRelease id).2 = true) :
    (o.ackRelease id).1.release.length + 1 = o.release.length := by
  unfold ackRelease at h ⊢
  split
  · rename_i hany; exact removeFirst_length _ _ hany
  · rename_i hany; rw [if_neg hany] at h; simp at h

theorem C16_quiescent_iff (o : Outbound) :
    o.isQuiescent = true ↔ o.control = [] ∧ o.retained = [] ∧ o.release = [] :=
  Quiesce.quiescent_iff' o

/-- **Replay.** `arm_replay` makes every pending entry fresh (state `write 0`). (That it runs only when a
connection ends or begins is a fact about its call sites — `handle_disconnect`, `connect` — visible in
`SessOps.lean`, not part of this statement.) -/
theorem C16_replay_makes_fresh_once (o : Outbound) (h : o.hasPendingState = true) :
    (∀ e ∈ o.armReplay.retained, e.state = .write 0) ∧ (∀ e ∈ o.armReplay.release, e.state = .write 0) ∧
    (∀ e ∈ o.armReplay.control, e.state = .write 0) :=
  ⟨(armReplay_allFresh o).retained, (armReplay_allFresh o).release, (armReplay_allFresh o).control⟩

end Minimq
