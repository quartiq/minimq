import Minimq.Proofs.ReadSim
/-
C15, read half, for the machine — "for a given inbound byte stream and application program, the
delivered messages, the operation results and the outbound byte stream are identical for every way
of splitting the inbound stream across read() calls".

Setting. The inbound stream is `Net.rx` of the current transport. A `poll` / `recv` suspended in
`read_packet` (`Pc.waitRead outer deadline yielded`; the machine never suspends a `drive` there, the
statements take any `outer`) is resumed by the directive `d k`
(`execDirective`): one POLL with the single I/O decision "read at most `k` bytes" (`k = 250`: as much
as the window allows). The packet reader offers a window of one byte while the length is unknown,
so even whole-window decisions need two or three POLLs per packet.

What is proved: no directive looks at the trace already printed; feeding read decisions `ks` to the suspended
read up to the one that ends it (`readPacket ks W`) gives `W.afterPacket outer dl`, a function of `W` alone
given by the framing specification `frame1` (C15 reader level), plus read lines in the trace; hence two
fragmentations give worlds that differ in their read lines only (`Sim`), for one packet and for a whole
program with the same directives between the reads of the packets.

Hypotheses, and what happens outside them.
* `DeadlineOK W.now dl`: the wait has no deadline or it is in the future, and no `tick` occurs
  between the read decisions of one packet (ticks between packets are ordinary common directives).
  Neither `yielded` nor `wakes` matters then: they are only consulted once the deadline is reached.
  If the deadline *is* reached, the first pending read makes the operation leave `read_packet` for
  the drive loop (PINGREQ, time-out) with the packet half read; the following decisions then go to
  writes. That is not a counterexample to C15 but it is outside `readPacket`, which only describes
  decisions consumed by reads.
* `Waiting W.sess.reader W.curNet.rx`: the reader is as `receive_buffer` leaves it when it has to
  wait, consistent with the stream. At a packet boundary (`data = []`, length unknown, capacity ≥ 1)
  this holds (`C15M_boundary_waits`); `readsOKb` / `admissibleb` are the decidable form used in the
  examples. It is kept by every partial read (`C15M_partial_read`).
* at least as many decisions as bytes (`rx.length ≤ ks.length`): every decision reads at least one
  byte; fewer are used if they read more.
-/
namespace Minimq
open Gen World

/-- **The trace is write-only.** Every directive does to a world with further old trace lines
exactly what it does without them; the old lines stay at the old end. The thirteen machine
functions, `poll`, `go`, `connect`, the operations: none reads `World.out`. -/
theorem C15M_trace_write_only (ds : List Directive) (w : World) (o : List String) :
    ds.foldl World.execDirective (w.addOld o) = (ds.foldl World.execDirective w).addOld o :=
  run_addOld ds w o

/-- A reader at a packet boundary with room for one byte is `Waiting`, whatever the transport has. -/
theorem C15M_boundary_waits (r : Reader) (rx : Bytes) (hd : r.data = []) (hp : r.packetLength = none)
    (hc : 1 ≤ r.cap) : Waiting r rx :=
  Waiting_fresh r rx hd hp hc

/-- **A read decision that does not complete the packet.** `doWaitRead` commits the `c` bytes and
loops; the next `read` has no decision left and the operation suspends at
`waitRead outer deadline true`; only the reader (holding `c` more bytes, probed), the transport
(`c` bytes shorter) and the trace (`r n c`, `rp n`) have changed, and the reader is `Waiting` again. -/
theorem C15M_partial_read (W : World) (outer : Outer) (dl : Option Nat) (y : Bool) (k : Nat)
    (hfut : W.fut = some (.waitRead outer dl y)) (hdl : DeadlineOK W.now dl)
    (hwait : Waiting W.sess.reader W.curNet.rx) (hne : W.curNet.rx ≠ []) (hk1 : 1 ≤ k) (hk : k ≤ 250)
    (hkind : readKind W.sess.reader W.curNet.rx (W.readCount k) = .more) :
    W.execDirective (.d k) =
      W.withRead (W.sess.reader.holding (W.sess.reader.data ++ W.curNet.rx.take (W.readCount k)))
        (W.curNet.rx.drop (W.readCount k)) [W.rpLine, W.rLine (W.readCount k)]
        (some (.waitRead outer dl true)) ∧
    Waiting (W.sess.reader.holding (W.sess.reader.data ++ W.curNet.rx.take (W.readCount k)))
      (W.curNet.rx.drop (W.readCount k)) :=
  let h := (waitReadLoop outer dl y).more W k hfut hdl hwait hne hk1 hk hkind
  ⟨h.1, h.2.1⟩

/-- **A read decision that completes the packet**: `drive_packet` is entered, in the same POLL and
with the decision used up, in the world where the reader holds exactly the next packet of the
framing specification and the transport exactly the rest — never a byte of the next packet. -/
theorem C15M_completing_read (W : World) (outer : Outer) (dl : Option Nat) (y : Bool) (k : Nat)
    (hfut : W.fut = some (.waitRead outer dl y)) (hwait : Waiting W.sess.reader W.curNet.rx)
    (hne : W.curNet.rx ≠ []) (hk1 : 1 ≤ k) (hk : k ≤ 250)
    (hkind : readKind W.sess.reader W.curNet.rx (W.readCount k) = .packet) :
    frame1 W.sess.reader.cap (W.sess.reader.data ++ W.curNet.rx) =
      .packet (W.sess.reader.data ++ W.curNet.rx.take (W.readCount k)) (W.curNet.rx.drop (W.readCount k)) ∧
    W.execDirective (.d k) =
      { driveEnter 3998
          (W.withRead (W.sess.reader.packetOf (W.sess.reader.data ++ W.curNet.rx.take (W.readCount k)))
            (W.curNet.rx.drop (W.readCount k)) [W.rLine (W.readCount k)] none) outer with slot := none } := by
  rw [driveEnter_3998]
  exact (waitReadLoop outer dl y).packet W k hfut hwait hne hk1 hk hkind

/-- **One packet, any fragmentation.** For every list of read decisions (each 1 … 250, at least as
many as there are bytes), reading the next packet ends in `W.afterPacket outer dl` — which does not
mention the decisions — with the read lines `io` and the old trace behind what `afterPacket`
printed. -/
theorem C15M_one_packet (ks : List Nat) (W : World) (outer : Outer) (dl : Option Nat) (y : Bool)
    (hfut : W.fut = some (.waitRead outer dl y)) (hdl : DeadlineOK W.now dl)
    (hwait : Waiting W.sess.reader W.curNet.rx) (hne : W.curNet.rx ≠ [])
    (hks : ∀ k ∈ ks, 1 ≤ k ∧ k ≤ 250) (hlen : W.curNet.rx.length ≤ ks.length) :
    ∃ io, IoLines W io ∧ readPacket ks W = (W.afterPacket outer dl).addOld (io ++ W.out) :=
  readPacket_eq ks W outer dl y hfut hdl hwait hne hks hlen

/-- `readPacket ks W` is `W` after a prefix of the directives `d k₁, d k₂, …` — the decisions up to
and including the one that ends the reading of the packet. -/
theorem C15M_readPacket_is_a_prefix (ks : List Nat) (W : World) : ∃ n, n ≤ ks.length ∧
    readPacket ks W = (ks.take n).foldl (fun w k => w.execDirective (.d k)) W :=
  readPacket_eq_foldl ks W

/-- What `afterPacket` is, by the framing specification of the bytes held followed by the bytes the transport
has (3998: the fuel left of the 4000 of the POLL where `drive_packet` is entered). -/
theorem C15M_afterPacket_spec (W : World) (outer : Outer) (dl : Option Nat) :
    W.afterPacket outer dl =
      match frame1 W.sess.reader.cap (W.sess.reader.data ++ W.curNet.rx) with
      | .packet pkt rest =>
        { driveEnter 3998 (W.clearOut.withRead (W.sess.reader.packetOf pkt) rest [] none) outer with
          slot := none }
      | .stop (.malformed held) =>
        { ((W.clearOut.withRead (W.sess.reader.packetOf held)
              ((W.sess.reader.data ++ W.curNet.rx).drop held.length) [] none).handleDisconnect).finishErr
            (outerName outer) .peerInvalid with slot := none }
      | .stop (.exhausted held) =>
        W.clearOut.withRead (W.sess.reader.holding held) [] [] (some (.waitRead outer dl true)) := rfl

/-- **Fragmented reading is equivalent to whole reading.** Two lists of read decisions for the same
suspended read (for instance `[1, 1, 1, …]` and `[250, 250, 250]`): the resulting worlds have the
same session — reader included —, transports, connection, handles, last result, transmission log,
suspended operation, clock, decision slot, wake count, starvation flag; and their traces are
`new ++ io₁ ++ old` and `new ++ io₂ ++ old` with the same `new` (everything printed by the handling
of the packet: `msg …`, `ret …`, pending writes) and read lines `io₁`, `io₂`. -/
theorem C15M_fragmentation_independent (ks₁ ks₂ : List Nat) (W : World) (outer : Outer)
    (dl : Option Nat) (y : Bool)
    (hfut : W.fut = some (.waitRead outer dl y)) (hdl : DeadlineOK W.now dl)
    (hwait : Waiting W.sess.reader W.curNet.rx) (hne : W.curNet.rx ≠ [])
    (hk1 : ∀ k ∈ ks₁, 1 ≤ k ∧ k ≤ 250) (hl1 : W.curNet.rx.length ≤ ks₁.length)
    (hk2 : ∀ k ∈ ks₂, 1 ≤ k ∧ k ≤ 250) (hl2 : W.curNet.rx.length ≤ ks₂.length) :
    let a := readPacket ks₁ W
    let c := readPacket ks₂ W
    a.sess = c.sess ∧ a.nets = c.nets ∧ a.conn = c.conn ∧ a.handles = c.handles ∧
    a.lastRes = c.lastRes ∧ a.log = c.log ∧ a.fut = c.fut ∧ a.now = c.now ∧ a.slot = c.slot ∧
    a.wakes = c.wakes ∧ a.lastIoStarved = c.lastIoStarved ∧ a.tornNets = c.tornNets ∧
    ∃ new io₁ io₂, IoLines W io₁ ∧ IoLines W io₂ ∧
      a.out = new ++ io₁ ++ W.out ∧ c.out = new ++ io₂ ++ W.out := by
  obtain ⟨io₁, h1, e1⟩ := readPacket_eq ks₁ W outer dl y hfut hdl hwait hne hk1 hl1
  obtain ⟨io₂, h2, e2⟩ := readPacket_eq ks₂ W outer dl y hfut hdl hwait hne hk2 hl2
  simp only [e1, e2]
  refine ⟨rfl, rfl, rfl, rfl, rfl, rfl, rfl, rfl, rfl, rfl, rfl, rfl,
    (W.afterPacket outer dl).out, io₁, io₂, h1, h2, ?_, ?_⟩
  · simp [World.addOld, List.append_assoc]
  · simp [World.addOld, List.append_assoc]

/-- `Sim a c`: all of the above in one relation — equal but for the trace, traces equal up to read
lines; in particular whatever a test that never selects a read line (`r n k`, `rp n`) selects from
the two traces — the `msg …` and `ret …` lines, say — is the same. -/
theorem C15M_sim_meaning {a c : World} (h : Sim a c) :
    (a.sess = c.sess ∧ a.conn = c.conn ∧ a.nets = c.nets ∧ a.fut = c.fut ∧ a.now = c.now ∧
     a.slot = c.slot ∧ a.handles = c.handles ∧ a.lastIoStarved = c.lastIoStarved ∧ a.wakes = c.wakes ∧
     a.lastRes = c.lastRes ∧ a.tornNets = c.tornNets ∧ a.log = c.log) ∧
    ∀ p : String → Bool, (∀ l, isReadLine l → p l = false) → a.out.filter p = c.out.filter p :=
  ⟨h.fields, fun p hp => h.out.filter p hp⟩

/-- **A whole stream of packets, any fragmentation of each.** Two runs made of the same directives
between the reads of the packets (`Seg.same`: operations re-issued after each return, `d 250` for
every write and flush — or any other decision, as long as it is the same in both —, ticks, further
inbound bytes) and, for each packet, its own list of read decisions in each run (`Seg.reads ks₁
ks₂`). If each `reads` piece is entered (in the left run) suspended in `read_packet` before its
deadline with a `Waiting` reader and bytes to read (`Admissible`), the two runs end in `Sim`ilar
worlds. -/
theorem C15M_stream (segs : List Seg) (w : World) (h : Admissible w segs) :
    Sim (segs.foldl (runSeg true) w) (segs.foldl (runSeg false) w) :=
  runSegs_sim segs w w (Sim.refl w) h

/-- 64-byte buffers, no keep-alive (so no deadline), client identifier "c". -/
def C15M_cfg : Cfg :=
  { rx := 64, tx := 64, keepaliveS := 0, expiry := 0, downgrade := false, clientId := [0x63], auth := none,
    will := none }

/-- Connect, CONNACK, `recv()` (suspends in `read_packet`), then the broker sends: a QoS 0 PUBLISH
(topic "a", payload "A"), a PINGRESP (no body), and the first byte of another PUBLISH. -/
def C15M_pre : List Directive :=
  [.connect, .go, .rx [0x20, 0x03, 0x00, 0x00, 0x00], .go, .recv,
   .rx [0x30, 0x05, 0x00, 0x01, 0x61, 0x00, 0x41, 0xD0, 0x00, 0x30]]

def C15M_w0 : World := C15M_pre.foldl World.execDirective { sess := Session.new C15M_cfg }

/-- The whole stream: the PUBLISH byte by byte / in whole windows; `recv` re-issued; the PINGRESP
(header split after its first byte in both, the window being one byte; the second byte completes a
packet without body) with decisions 250 / 1 — `recv` goes on waiting —; then the single byte of the
next packet, after which the transport is empty. -/
def C15M_segs : List Seg :=
  [.reads [1, 1, 1, 1, 1, 1, 1, 1, 1, 1] [2, 250, 250, 250, 250, 250, 250, 250, 250, 250], .same .recv,
   .reads [250, 250, 250] [1, 1, 1], .reads [7] [250]]

/-- `C15M_w0` evaluated once: the checks of the three lists, the packet read in the three ways, the
admissibility of `C15M_segs`, and both runs of it. -/
theorem C15M_w0_eval :
    (readsOKb C15M_w0 [1, 1, 1, 1, 1, 1, 1, 1, 1, 1] = true ∧
      readsOKb C15M_w0 [2, 250, 250, 250, 250, 250, 250, 250, 250, 250] = true ∧
      readsOKb C15M_w0 [250, 250, 250, 250, 250, 250, 250, 250, 250, 250] = true) ∧
    (let a := readPacket [1, 1, 1, 1, 1, 1, 1, 1, 1, 1] C15M_w0
     let b' := readPacket [2, 250, 250, 250, 250, 250, 250, 250, 250, 250] C15M_w0
     let c := readPacket [250, 250, 250, 250, 250, 250, 250, 250, 250, 250] C15M_w0
     (a.sess.reader.last = [0x30, 0x05, 0x00, 0x01, 0x61, 0x00, 0x41] ∧ a.sess.reader.data = [] ∧
       a.curNet.rx = [0xD0, 0x00, 0x30] ∧ a.fut.isNone = true ∧
       (match a.lastRes with | some (.ok ()) => true | _ => false) = true) ∧
     (b'.sess.reader.last = a.sess.reader.last ∧ b'.curNet.rx = a.curNet.rx ∧ b'.fut.isNone = true) ∧
     (c.sess.reader.last = a.sess.reader.last ∧ c.curNet.rx = a.curNet.rx ∧ c.fut.isNone = true)) ∧
    (readPacket [1, 1, 1, 1, 1, 1, 1, 1, 1, 1] C15M_w0).out.length =
      (readPacket [250, 250, 250, 250, 250, 250, 250, 250, 250, 250] C15M_w0).out.length + 8 ∧
    admissibleb C15M_w0 C15M_segs = true ∧
    (let a := C15M_segs.foldl (runSeg true) C15M_w0
     let c := C15M_segs.foldl (runSeg false) C15M_w0
     a.sess.reader.data = [0x30] ∧ c.sess.reader.data = [0x30] ∧ a.curNet.rx = [] ∧ c.curNet.rx = [] ∧
     a.fut.isSome = true ∧ c.fut.isSome = true) := by
  decide +kernel

/-- The hypotheses of `C15M_one_packet` hold in `C15M_w0` for each of the three lists. -/
example : readsOKb C15M_w0 [1, 1, 1, 1, 1, 1, 1, 1, 1, 1] = true ∧
    readsOKb C15M_w0 [2, 250, 250, 250, 250, 250, 250, 250, 250, 250] = true ∧
    readsOKb C15M_w0 [250, 250, 250, 250, 250, 250, 250, 250, 250, 250] = true := by
  obtain ⟨h, _⟩ := C15M_w0_eval
  exact h

/-- The PUBLISH is delivered identically byte by byte, with a first decision of 2 (cut inside the
fixed header: the window is one byte), and with whole-window decisions: `recv` returns `Ok`, the
packet handed to the application is the PUBLISH, the reader is empty again, and the transport still
has the PINGRESP and the first byte of the next packet — not a byte of them was consumed. -/
example :
    let a := readPacket [1, 1, 1, 1, 1, 1, 1, 1, 1, 1] C15M_w0
    let b' := readPacket [2, 250, 250, 250, 250, 250, 250, 250, 250, 250] C15M_w0
    let c := readPacket [250, 250, 250, 250, 250, 250, 250, 250, 250, 250] C15M_w0
    (a.sess.reader.last = [0x30, 0x05, 0x00, 0x01, 0x61, 0x00, 0x41] ∧ a.sess.reader.data = [] ∧
      a.curNet.rx = [0xD0, 0x00, 0x30] ∧ a.fut.isNone = true ∧
      (match a.lastRes with | some (.ok ()) => true | _ => false) = true) ∧
    (b'.sess.reader.last = a.sess.reader.last ∧ b'.curNet.rx = a.curNet.rx ∧ b'.fut.isNone = true) ∧
    (c.sess.reader.last = a.sess.reader.last ∧ c.curNet.rx = a.curNet.rx ∧ c.fut.isNone = true) := by
  obtain ⟨_, h, _⟩ := C15M_w0_eval
  exact h

/-- The number of POLLs differs: reading byte by byte prints eight lines more than reading whole windows. -/
example :
    (readPacket [1, 1, 1, 1, 1, 1, 1, 1, 1, 1] C15M_w0).out.length =
      (readPacket [250, 250, 250, 250, 250, 250, 250, 250, 250, 250] C15M_w0).out.length + 8 := by
  obtain ⟨_, _, h, _⟩ := C15M_w0_eval
  exact h

example : admissibleb C15M_w0 C15M_segs = true := by
  obtain ⟨_, _, _, h, _⟩ := C15M_w0_eval
  exact h

/-- Both runs end suspended in the read with the lone header byte in the reader and nothing left in
the transport. -/
example :
    let a := C15M_segs.foldl (runSeg true) C15M_w0
    let c := C15M_segs.foldl (runSeg false) C15M_w0
    a.sess.reader.data = [0x30] ∧ c.sess.reader.data = [0x30] ∧ a.curNet.rx = [] ∧ c.curNet.rx = [] ∧
    a.fut.isSome = true ∧ c.fut.isSome = true := by
  obtain ⟨_, _, _, _, h⟩ := C15M_w0_eval
  exact h

theorem C15M_example_stream : Sim (C15M_segs.foldl (runSeg true) C15M_w0) (C15M_segs.foldl (runSeg false) C15M_w0) := by
  obtain ⟨_, _, _, h, _⟩ := C15M_w0_eval
  exact C15M_stream C15M_segs C15M_w0 (admissible_of_b _ _ h)

end Minimq
