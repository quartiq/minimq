import Minimq.Proofs.WireTop
/-
C01, whole machine — the outbound byte stream of every transport is whole framed packets.

`Theorems/C01.lean` proves the local facts (every encoder output is a well-formed packet, the
scheduler continues the entry in progress, the arena holds whole packets). This file proves the
end-to-end statement for every program (list of directives) from the initial world: what `write`
has accepted on a transport is, at every moment, a sequence of whole framed packets followed by the
written part of at most one more, and that part is exactly what the session state says is half
written — whatever the transport does (partial acceptances, errors, end of stream), whatever the
broker sends, and whichever operation is dropped at whichever await point, with one exception that
is the property's own: dropping a future that is suspended inside the operation-local `write_all` of
CONNECT, of a QoS 0 PUBLISH or of DISCONNECT (connect and QoS 0 publish are not cancel-safe; a
cancelled `disconnect` is finding F2b).

Vocabulary.
 * `Framed bs` (`Proofs/Arena.lean`): header byte, canonical remaining length, exactly that many bytes.
   That each packet is moreover a well-formed MQTT 5 client packet is `Theorems/C01.lean`/`C09`.
 * `w.tornNets` is a ghost field this proof adds to the model (never printed; the driver's
   output on all traces is unchanged; the other one, `w.log`, is used by `Theorems/C02Wire.lean`): the ordinals (1 = first) of the transports on which such a
   local write was dropped. It is set by `cancelFut` and nowhere else (`C01_mark_only_when_local_write_dropped`).
 * Fuel. The machine functions are defined with fuel for the synchronous code between two I/O calls.
   The theorems below do not assume that it suffices: by fuel adequacy (`Proofs/FuelAdequate.lean`) a call
   run with `pollFuel = 4000` ends in the same world as with any larger amount and never by running out,
   and the induction over the steps of the machine (`wire_step`, `wire_call` in `Proofs/Wire.lean`) starts from that.
-/
namespace Minimq
open Gen World Outbound

/-- **The wire of the current transport is whole packets plus the part the session knows about.**
Run any program from the initial world and let `w` be the world it ends in. Suppose no operation-local
write was dropped on the current transport. While the connection is live, or
the handshake is in flight, the bytes accepted by the current transport are `frames.flatten ++ part`
with every element of `frames` a whole framed packet, and

 * either `part = []`, no queue entry is partially written, and no local write is suspended; or
 * exactly one entry of the three queues is in progress, `n + 1 <` its packet's length bytes of it have
   been written, `part` is exactly those bytes, every other entry is untouched or completely sent,
   and no local write is suspended (whatever runs next — also after the suspended operation was
   dropped — `next_step` returns that entry and `perform_outbound_step` offers its remaining bytes); or
 * the suspended operation is inside the `write_all` of CONNECT, a QoS 0 PUBLISH or DISCONNECT holding
   `rest`, `part ++ rest` is a whole framed packet, and no queue entry is in progress.

In particular no operation ever starts a packet in the middle of another one. -/
theorem C01_wire_is_whole_packets (cfg : Cfg) (ds : List Directive) :
    let w := ds.foldl World.execDirective { sess := Session.new cfg }
    w.nets.length ∉ w.tornNets → (w.live = true ∨ (w.conn = none ∧ w.fut.isSome = true)) →
    ∃ (frames : List Bytes) (part : Bytes), w.curNet.wire = frames.flatten ++ part ∧ (∀ f ∈ frames, Framed f) ∧
      ((part = [] ∧ tearsPacket w.fut = false ∧ w.sess.data.outbound.NoPartial) ∨
       (∃ n bytes, part = bytes.take (n + 1) ∧ n + 1 < bytes.length ∧ Framed bytes ∧ tearsPacket w.fut = false ∧
          w.sess.data.outbound.OnePartial n bytes) ∨
       (∃ rest, (w.fut = some (.connWrite rest) ∨ w.fut = some (.q0Write rest) ∨ w.fut = some (.discWrite rest)) ∧
          Framed (part ++ rest) ∧ w.sess.data.outbound.NoneInProgress)) := by
  intro w hnt hact
  obtain ⟨frames, part, hw, hfr, _, _, _, hcase⟩ := (Quiesce.produced cfg ds).winv.wireFacts hnt hact
  refine ⟨frames, part, hw, hfr, ?_⟩
  rcases hcase with h1 | ⟨n, bytes, a, b', c, _, d, e⟩ | ⟨rest, a, b', c, _⟩
  · exact .inl h1
  · exact .inr (.inl ⟨n, bytes, a, b', c, d, e⟩)
  · exact .inr (.inr ⟨rest, a, b', c⟩)

/-- **Every transport ever handed to `connect`** — the current one whatever its state (mid-handshake,
live, dead, dropped) and every earlier one — carries whole framed packets followed at most by the
beginning of one more (a connection that died, or was replaced, in the middle of a packet), unless an
operation-local write was dropped on it. Transport `i` (0-based) has ordinal `i + 1` in `tornNets`.
By itself this is a weak statement (`Framed` only constrains the length field, and `rest` is
existential: it is the *final* shape of a wire). What excludes interleaved packets is
`C01_wire_is_whole_packets` — which accounts for the partial packet by the queue state and holds after
*every* prefix of the program — together with `C01_replaced_transport_untouched` and C11 (a dead handle
writes nothing): each byte was appended while the stronger statement held of the then-current transport. -/
theorem C01_every_wire_is_a_prefix_of_whole_packets (cfg : Cfg) (ds : List Directive) :
    let w := ds.foldl World.execDirective { sess := Session.new cfg }
    ∀ i net, w.nets[i]? = some net → (i + 1) ∉ w.tornNets →
    ∃ (frames : List Bytes) (rest : Bytes), (∀ f ∈ frames, Framed f) ∧ frames.flatten = net.wire ++ rest := by
  intro w i net hg hnt
  obtain ⟨frames, hf, rest, hr⟩ := (Quiesce.produced cfg ds).winv.all_wires i net hg hnt
  exact ⟨frames, rest, hf, hr⟩

/-- **A transport that has been replaced is never written to again**: no directive changes any
transport other than the current one (the last of `nets`); `connect` opens a new one behind them. From
any world. (That a *dead* connection never touches its transport either is `C11_dead_stays_dead`.) -/
theorem C01_replaced_transport_untouched (w : World) (d : Directive) (i : Nat) (hi : i + 1 < w.nets.length) :
    (w.execDirective d).nets[i]? = w.nets[i]? := by
  have hf := exec_dframe w d (fun h0 => by rw [h0] at hi; simp at hi)
  refine hf.older i ?_
  rcases Classical.em (d = .connect) with hd | hd
  · rw [hf.lenC hd]; omega
  · rw [hf.lenN hd]; exact hi

/-- **The ghost mark means what it says**: a directive changes `tornNets` only if the future it finds
suspended is inside an operation-local write — then `connect`, `drop`, `cancel` and every operation
start drop it (`cancelFut`) and mark the current transport. From any world. -/
theorem C01_mark_only_when_local_write_dropped (w : World) (d : Directive) (h : tearsPacket w.fut = false) :
    (w.execDirective d).tornNets = w.tornNets :=
  exec_tornNets w d h

/-- `tearsPacket` is exactly "suspended in the `write_all` of CONNECT, QoS 0 PUBLISH or DISCONNECT". -/
theorem C01_tearsPacket_iff (fut : Option Pc) :
    tearsPacket fut = true ↔ ∃ rest, fut = some (.connWrite rest) ∨ fut = some (.q0Write rest) ∨ fut = some (.discWrite rest) := by
  cases fut with
  | none => simp [tearsPacket]
  | some pc => cases pc <;> simp [tearsPacket]

/-- A client with a 64-byte receive buffer and a 128-byte arena, no keep-alive. Its CONNECT has 29 bytes: the
examples look at the wire behind them (`wire.drop 29`). -/
def C01Wire_cfg : Cfg :=
  { rx := 64, tx := 128, keepaliveS := 0, expiry := 300, downgrade := false, clientId := [0x63], auth := none, will := none }

/-- connect, CONNACK, run the handshake to the end, publish at QoS 1, and let the transport accept
only three bytes of the PUBLISH. -/
def C01Wire_prog : List Directive :=
  [.connect, .rx [0x20, 0x03, 0x00, 0x00, 0x00], .go,
   .publish { qos := 1, retain := false, topic := [0x74], payload := .bytes [0x70], props := .slice [] }, .d 3]

/-- The runs of the examples below, evaluated together: they begin alike, and the kernel runs a common
beginning once within a declaration. -/
theorem C01Wire_eval :
    (let w := C01Wire_prog.foldl World.execDirective { sess := Session.new C01Wire_cfg }
     w.nets.length ∉ w.tornNets ∧ w.live = true ∧ w.curNet.wire.length = 29 + 3 ∧
     w.curNet.wire.drop 29 = ([0x32, 0x07, 0x00] : Bytes) ∧
     w.sess.data.outbound.retained.map (·.state) = [.write 3]) ∧
    (let w := ([.connect, .d 5] : List Directive).foldl World.execDirective { sess := Session.new C01Wire_cfg }
     w.nets.length ∉ w.tornNets ∧ w.conn.isNone = true ∧ w.fut.isSome = true ∧
     w.curNet.wire = [0x10, 0x1b, 0x00, 0x04, 0x4d]) ∧
    ((([.connect, .d 5, .cancel] : List Directive).foldl World.execDirective { sess := Session.new C01Wire_cfg }).tornNets = [1] ∧
     let w := ([.connect, .d 5, .cancel, .connect] : List Directive).foldl World.execDirective { sess := Session.new C01Wire_cfg }
     w.tornNets = [1] ∧ w.nets.length = 2) ∧
    (let w := ([.connect, .rx [0x20, 0x03, 0x00, 0x00, 0x00], .go, .disconnect { reason := none, props := none }, .d 250,
                .cancel, .publish { qos := 1, retain := false, topic := [0x74], payload := .bytes [0x70], props := .slice [] },
                .go] : List Directive).foldl World.execDirective { sess := Session.new C01Wire_cfg }
     w.tornNets = [] ∧ w.live = false ∧ w.curNet.wire.drop 29 = ([0xe0, 0x00] : Bytes)) ∧
    (let w := (C01Wire_prog ++ ([.cancel, .poll, .go] : List Directive)).foldl World.execDirective { sess := Session.new C01Wire_cfg }
     w.tornNets = [] ∧ w.curNet.wire.drop 29 = ([0x32, 0x07, 0x00, 0x01, 0x74, 0x00, 0x01, 0x00, 0x70] : Bytes) ∧
     w.sess.data.outbound.retained.map (·.state) = [.sent]) := by
  decide +kernel

/-- The hypotheses of `C01_wire_is_whole_packets` hold for that program, and the second alternative is
the one that applies: the connection is live, nothing is marked torn, the wire holds the 29-byte
CONNECT and 3 bytes of the PUBLISH, and the one retained entry records exactly 3 bytes written. -/
example :
    let w := C01Wire_prog.foldl World.execDirective { sess := Session.new C01Wire_cfg }
    w.nets.length ∉ w.tornNets ∧ w.live = true ∧ w.curNet.wire.length = 29 + 3 ∧
    w.curNet.wire.drop 29 = ([0x32, 0x07, 0x00] : Bytes) ∧
    w.sess.data.outbound.retained.map (·.state) = [.write 3] := by
  obtain ⟨h, _⟩ := C01Wire_eval
  exact h

/-- Mid-handshake: the transport has accepted 5 bytes of CONNECT, the rest is held by the suspended
`connect` (third alternative of the theorem). -/
example :
    let w := ([.connect, .d 5] : List Directive).foldl World.execDirective { sess := Session.new C01Wire_cfg }
    w.nets.length ∉ w.tornNets ∧ w.conn.isNone = true ∧ w.fut.isSome = true ∧
    w.curNet.wire = [0x10, 0x1b, 0x00, 0x04, 0x4d] := by
  obtain ⟨_, h, _⟩ := C01Wire_eval
  exact h

/-- Dropping that `connect` sets the mark (the theorem then says nothing about transport 1), and a new
`connect` starts a transport that is not marked. -/
example :
    (([.connect, .d 5, .cancel] : List Directive).foldl World.execDirective { sess := Session.new C01Wire_cfg }).tornNets = [1] ∧
    let w := ([.connect, .d 5, .cancel, .connect] : List Directive).foldl World.execDirective { sess := Session.new C01Wire_cfg }
    w.tornNets = [1] ∧ w.nets.length = 2 := by
  obtain ⟨_, _, h, _⟩ := C01Wire_eval
  exact h

/-- **Nothing follows a DISCONNECT, also when `disconnect()` is dropped.** In every world a program
produces (transport not marked torn): while `disconnect()` is suspended at its `flush` — the DISCONNECT is
wholly on the transport — the handle is already dead (`disconnect_with` calls `handle_disconnect()` before it
awaits the flush: the repaired defect F26). So dropping the future there leaves a dead handle, and a dead
handle writes nothing (`C01_dead_handle_writes_nothing`). Dropping it earlier, inside the write of the
DISCONNECT, is the torn case the mark records (known finding F2b). -/
theorem C01_disconnect_flush_pending_means_dead (cfg : Cfg) (ds : List Directive) :
    let w := ds.foldl World.execDirective { sess := Session.new cfg }
    w.nets.length ∉ w.tornNets → w.fut = some .discFlush → w.live = false ∧ w.conn.isSome = true := by
  intro w hnt hf
  have hinv := (Quiesce.produced cfg ds).winv
  have hp : DiscFlushPre w.view := (hf ▸ hinv.phase hnt : PhaseV w.view (some .discFlush))
  exact ⟨hp.2.1, hp.2.2.2⟩

/-- One step before `C01_disconnect_flush_pending_means_dead`: the call of `doLocalWrite` that finds nothing left to write of the
DISCONNECT kills the handle before `doLocalFlush` runs, whatever the flush then does (pending, error, ok). -/
theorem C01_disconnect_written_kills_handle (fuel : Nat) (w : World) :
    doLocalWrite (fuel + 1) w 2 [] = doLocalFlush fuel w.handleDisconnect 2 := by
  simp only [doLocalWrite, List.isEmpty_nil, if_true, discDone_two]

/-- Concretely (the witness of F26): `disconnect`, the whole DISCONNECT accepted, the flush pending, the
future dropped, then a QoS 1 publish: the publish is refused with `Disconnected` and the wire ends with
the DISCONNECT. -/
example :
    let w := ([.connect, .rx [0x20, 0x03, 0x00, 0x00, 0x00], .go, .disconnect { reason := none, props := none }, .d 250,
               .cancel, .publish { qos := 1, retain := false, topic := [0x74], payload := .bytes [0x70], props := .slice [] },
               .go] : List Directive).foldl World.execDirective { sess := Session.new C01Wire_cfg }
    w.tornNets = [] ∧ w.live = false ∧ w.curNet.wire.drop 29 = ([0xe0, 0x00] : Bytes) := by
  obtain ⟨_, _, _, h, _⟩ := C01Wire_eval
  exact h

/-- Cancel-safety of the queued writes, concretely: the QoS 1 publish of `C01Wire_prog` is dropped
after 3 bytes; nothing is marked, and the `poll` that follows writes the remaining 6 bytes of the same
packet — the wire is CONNECT followed by one whole PUBLISH. -/
example :
    let w := (C01Wire_prog ++ ([.cancel, .poll, .go] : List Directive)).foldl World.execDirective { sess := Session.new C01Wire_cfg }
    w.tornNets = [] ∧ w.curNet.wire.drop 29 = ([0x32, 0x07, 0x00, 0x01, 0x74, 0x00, 0x01, 0x00, 0x70] : Bytes) ∧
    w.sess.data.outbound.retained.map (·.state) = [.sent] := by
  obtain ⟨_, _, _, _, h⟩ := C01Wire_eval
  exact h

end Minimq
