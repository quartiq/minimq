import Minimq.Proofs.NoPing
import Minimq.Theorems.C16Quiesce
/-
C10 — "a keep-alive of zero sends no pings", for the transmission log of every program.

`C10_zero_keepalive_no_pings` (`Theorems/C10.lean`) says that under keep-alive 0 there is no PINGREQ timer and
`maybe_queue_pingreq` queues nothing. That leaves open whether a PINGREQ can still reach the transport — one
that was queued earlier, under another keep-alive, or one whose write is suspended. Here: it cannot.

The transmission log (`World.log`, ghost; `Theorems/C02Wire.lean`) records every queue entry —
acknowledgement, PINGREQ, PUBREL, retained packet — at the moment the transport has accepted its last byte,
with the ordinal of the transport; `w.curLog` is the part that belongs to the current transport (a transport
is opened by `connect` and serves at most one connection). A PINGREQ is only ever sent as a queue entry
(`ControlAction` with `typ = MT_PingReq`), so "no PINGREQ entry in `curLog`" is "no PINGREQ was handed to the
current transport completely".

`Runtime.keepaliveMs` is the effective keep-alive: the broker's Server Keep Alive if the CONNACK carried one,
else the configured value (`C10_effective_keepalive`). Of all session primitives only `activate` — the
processing of a CONNACK with a success code, called from `connect_handshake` and nowhere else — writes it
(`C10_keepalive_set_by_connack_only`); `handle_disconnect` does not reset it. So between two CONNACKs it is
constant, and on a live handle it is the keep-alive negotiated for this connection; while the handle is dead or
a handshake is running it still holds the value of the previous connection (or the configured one). The
theorems below do not need the handle to be live: they hold whenever the field is 0.

The invariant behind them (`NpInv`, `Proofs/NoPing.lean`) is not a property of the session alone: that no
PINGREQ is queued when a CONNACK sets the keep-alive to 0 holds because the resets of `Session::connect`
(`Session.beginConnect`) ran before
(`arm_replay` drops queued PINGREQs — the repair of F22, `C10_no_stale_pingreq`), and because the operation
whose write of a PINGREQ was suspended has been dropped by `connect`.

Not proved here (no cheap route): the statement about the bytes on the wire, "no frame `C0 00` on the current
transport". `C02_logged_packets_are_on_the_wire` gives one direction only (every logged packet is a frame on
the wire); the converse — every frame behind the CONNECT is a logged entry, a QoS 0 PUBLISH or a DISCONNECT —
is not part of the wire invariant.
-/
namespace Minimq
open Gen World Outbound

/-- **Keep-alive 0: no PINGREQ reaches the current transport.** After any program — API calls, I/O
decisions, inbound bytes of any kind, ticks of any length, cancellations, drops, reconnects —, whenever the
effective keep-alive is 0, no entry of the transmission log of the current transport is a PINGREQ (a control
action of type 12, whatever its other fields). The handle need not be live. -/
theorem C10_no_pingreq_logged_when_zero (cfg : Cfg) (ds : List Directive) :
    let w := ds.foldl World.execDirective { sess := Session.new cfg }
    w.sess.rt.keepaliveMs = 0 → ∀ f ∈ w.curLog, ∀ a, f.tag = .control a → a.typ ≠ MT_PingReq := by
  intro w h0
  exact ((np_of_run cfg ds).1.l h0).curLog

/-- `C10_no_pingreq_logged_when_zero` in the form of the property: on a live connection negotiated with
keep-alive 0 the log of the current transport contains no entry tagged PINGREQ. -/
theorem C10_no_pingreq_logged_when_zero_live (cfg : Cfg) (ds : List Directive) :
    let w := ds.foldl World.execDirective { sess := Session.new cfg }
    w.live = true → w.sess.rt.keepaliveMs = 0 →
    ∀ f ∈ w.curLog, f.tag ≠ .control ControlAction.pingReq := by
  intro w _ h0 f hf ht
  exact C10_no_pingreq_logged_when_zero cfg ds h0 f hf _ ht rfl

/-- **Keep-alive 0: nothing is on its way either.** After any program, whenever the effective keep-alive is
0: there is no PINGREQ timer; no PINGREQ is in the control queue, in whatever send state (so
`perform_outbound_step` will never pick one); `maybe_queue_pingreq` leaves the session as it is at every time;
and the suspended operation, if any, is not in the middle of writing a PINGREQ. -/
theorem C10_no_pingreq_pending_when_zero (cfg : Cfg) (ds : List Directive) (now : Nat) :
    let w := ds.foldl World.execDirective { sess := Session.new cfg }
    w.sess.rt.keepaliveMs = 0 →
    w.sess.rt.nextPing = none ∧
    (∀ e ∈ w.sess.data.outbound.control, e.action.typ ≠ MT_PingReq) ∧
    w.sess.data.outbound.hasPendingPingreq = false ∧
    w.sess.queuePing now = .ok w.sess ∧
    (∀ ctx a bytes written len t, w.fut = some (.stepWrite ctx (.control a) bytes written len t) → a.typ ≠ MT_PingReq) := by
  intro w h0
  have hinv := np_of_run cfg ds
  have hq := NoPingQ.iff.1 (hinv.1.q h0)
  refine ⟨hinv.1.ka h0, hq, hasPendingPingreq_false hq, queuePing_no_keepalive _ now (hinv.1.ka h0), ?_⟩
  intro ctx a bytes written len t hf hping
  exact hinv.2 _ hf a rfl hping h0

/-- **Who sets the effective keep-alive.** Across every session primitive the effective keep-alive stays what
it was, unless the primitive is `activate`, the processing of a CONNACK with a success code (which
`connect_handshake` performs, once, and nothing else does), whether or not `activate` then accepts the
CONNACK's properties: the statement has no `.ok ()`. In particular it does not change during a
connection, and `handle_disconnect` leaves it alone. -/
theorem C10_keepalive_set_by_connack_only {s s' : Session} (h : Prim s s') :
    s'.rt.keepaliveMs = s.rt.keepaliveMs ∨ ∃ sp block now, s' = (s.activate sp block now).1 :=
  h.keepalive

/-- **The handshake starts clean.** While `connect` is suspended (writing or flushing the CONNECT, or waiting
for the CONNACK) — whatever the keep-alive of the connection before —: no PINGREQ timer, no PINGREQ in the
control queue, no PINGREQ in the log of the new transport. So the connection that the CONNACK establishes
begins without one, whatever keep-alive it negotiates. -/
theorem C10_handshake_has_no_pingreq (cfg : Cfg) (ds : List Directive) :
    let w := ds.foldl World.execDirective { sess := Session.new cfg }
    (w.fut = some .connFlush ∨ w.fut = some .connRead ∨ ∃ bs, w.fut = some (.connWrite bs)) →
    w.sess.rt.nextPing = none ∧ (∀ e ∈ w.sess.data.outbound.control, e.action.typ ≠ MT_PingReq) ∧
    ∀ f ∈ w.curLog, ∀ a, f.tag = .control a → a.typ ≠ MT_PingReq := by
  intro w hf
  have hinv := np_of_run cfg ds
  have hs : NpHs w.sess w.nets.length w.log := by
    rcases hf with hf | hf | ⟨bs, hf⟩ <;> exact hinv.2 _ hf
  exact ⟨hs.np, NoPingQ.iff.1 hs.q, hs.l.curLog⟩

/-- Configured keep-alive 0, accepted as it is: the first concrete world of `Theorems/C16Quiesce.lean` (QoS 2
and QoS 1 publishes, a PUBREL) — live, keep-alive 0, three entries in the log of the current transport. -/
example :
    C16Q_w.live = true ∧ C16Q_w.sess.rt.keepaliveMs = 0 ∧
    C16Q_w.curLog.map (·.tag) = [.retained 0 1, .release 0 0 1 0, .retained 1 2] := by
  obtain ⟨_, _, _, _, h⟩ := C16Q_w_facts
  exact h

/-- `C10_no_pingreq_logged_when_zero_live` applies to that world. -/
example : ∀ f ∈ C16Q_w.curLog, f.tag ≠ .control ControlAction.pingReq := by
  obtain ⟨_, _, _, _, hl, hk, _⟩ := C16Q_w_facts
  unfold C16Q_w at hl hk ⊢
  exact C10_no_pingreq_logged_when_zero_live C16Q_cfg C16Q_prog hl hk

def C10N_cfg : Cfg :=
  { rx := 64, tx := 128, keepaliveS := 60, expiry := 300, downgrade := false, clientId := [0x63], auth := none, will := none }

/-- Configured keep-alive 60 s; the CONNACK carries Server Keep Alive 0. A QoS 1 publish is sent; the
application waits in `recv()` for 100 s, receives the PUBACK, waits another 100 s. -/
def C10N_prog : List Directive :=
  [.connect, .rx [0x20, 0x06, 0x00, 0x00, 0x03, 0x13, 0x00, 0x00], .go,
   C16Q_pub 1 0x74 0x70, .go, .recv, .tick 100000000, .go, .rx [0x40, 0x02, 0x00, 0x01], .go, .tick 100000000, .go]

/-- The F22 scenario, whole machine. Keep-alive 60 s; after 56 s in `recv()` a PINGREQ is queued and its first
byte (`C0`) is written — the operation is suspended in that write; the connection is dropped; `connect` again,
and the broker answers with session present and Server Keep Alive 0. -/
def C10N_progF22 : List Directive :=
  [.connect, .rx [0x20, 0x03, 0x00, 0x00, 0x00], .go,
   C16Q_pub 1 0x74 0x70, .go, .recv, .tick 56000000, .d 1,
   .drop, .connect, .rx [0x20, 0x06, 0x01, 0x00, 0x03, 0x13, 0x00, 0x00], .go, .recv, .go, .tick 100000000, .go]

/-- The five runs of the examples below, evaluated together: three are stages of `C10N_progF22`, and a fourth
begins like it. -/
theorem C10N_eval :
    (let w := C10N_prog.foldl World.execDirective { sess := Session.new C10N_cfg }
     w.live = true ∧ w.sess.rt.keepaliveMs = 0 ∧ w.sess.rt.configuredKeepaliveMs = 60000 ∧ w.now = 200000000 ∧
     w.curLog.map (·.tag) = [.retained 0 1] ∧ w.sess.rt.nextPing = none) ∧
    (let w := [Directive.connect, .rx [0x20, 0x03, 0x00, 0x00, 0x00], .go,
       C16Q_pub 1 0x74 0x70, .go, .recv, .tick 100000000, .go].foldl World.execDirective { sess := Session.new C10N_cfg }
     w.live = true ∧ w.sess.rt.keepaliveMs = 60000 ∧
     w.curLog.map (·.tag) = [.retained 0 1, .control ControlAction.pingReq]) ∧
    (let w := (C10N_progF22.take 8).foldl World.execDirective { sess := Session.new C10N_cfg }
     w.live = true ∧ w.sess.rt.keepaliveMs = 60000 ∧
     w.sess.data.outbound.control = [{ action := ControlAction.pingReq, state := .write 1 }] ∧
     w.curNet.wire.getLast? = some 0xC0) ∧
    (let w := C10N_progF22.foldl World.execDirective { sess := Session.new C10N_cfg }
     w.live = true ∧ w.sess.rt.keepaliveMs = 0 ∧ w.nets.length = 2 ∧
     w.log.map (fun f => (f.net, f.tag)) = [(1, .retained 0 1), (2, .retained 0 1)] ∧
     w.curLog.map (·.tag) = [.retained 0 1] ∧ w.sess.data.outbound.control = []) ∧
    (let w := (C10N_progF22.take 10 ++ [Directive.go]).foldl World.execDirective { sess := Session.new C10N_cfg }
     (match w.fut with | some .connRead => true | _ => false) = true ∧ w.live = false ∧
     w.sess.rt.keepaliveMs = 60000 ∧ w.sess.data.outbound.control = []) := by
  decide +kernel

/-- Effective keep-alive 0 although 60 s are configured; after 200 s of virtual time the log of the transport
holds the PUBLISH and nothing else. -/
example :
    let w := C10N_prog.foldl World.execDirective { sess := Session.new C10N_cfg }
    w.live = true ∧ w.sess.rt.keepaliveMs = 0 ∧ w.sess.rt.configuredKeepaliveMs = 60000 ∧ w.now = 200000000 ∧
    w.curLog.map (·.tag) = [.retained 0 1] ∧ w.sess.rt.nextPing = none := by
  obtain ⟨h, _⟩ := C10N_eval
  exact h

/-- The contrast: the same without the Server Keep Alive property — keep-alive 60 s, and after 100 s in
`recv()` a PINGREQ is in the log. (The hypothesis `keepaliveMs = 0` is not idle.) -/
example :
    let w := [Directive.connect, .rx [0x20, 0x03, 0x00, 0x00, 0x00], .go,
      C16Q_pub 1 0x74 0x70, .go, .recv, .tick 100000000, .go].foldl World.execDirective { sess := Session.new C10N_cfg }
    w.live = true ∧ w.sess.rt.keepaliveMs = 60000 ∧
    w.curLog.map (·.tag) = [.retained 0 1, .control ControlAction.pingReq] := by
  obtain ⟨_, h, _⟩ := C10N_eval
  exact h

/-- Before the drop: a half-written PINGREQ in the control queue, its write suspended. -/
example :
    let w := (C10N_progF22.take 8).foldl World.execDirective { sess := Session.new C10N_cfg }
    w.live = true ∧ w.sess.rt.keepaliveMs = 60000 ∧
    w.sess.data.outbound.control = [{ action := ControlAction.pingReq, state := .write 1 }] ∧
    w.curNet.wire.getLast? = some 0xC0 := by
  obtain ⟨_, _, h, _⟩ := C10N_eval
  exact h

/-- After the reconnect under keep-alive 0 and another 100 s: the PUBLISH has been replayed on the second
transport, and no PINGREQ has been sent on it; the control queue is empty. -/
example :
    let w := C10N_progF22.foldl World.execDirective { sess := Session.new C10N_cfg }
    w.live = true ∧ w.sess.rt.keepaliveMs = 0 ∧ w.nets.length = 2 ∧
    w.log.map (fun f => (f.net, f.tag)) = [(1, .retained 0 1), (2, .retained 0 1)] ∧
    w.curLog.map (·.tag) = [.retained 0 1] ∧ w.sess.data.outbound.control = [] := by
  obtain ⟨_, _, _, h, _⟩ := C10N_eval
  exact h

/-- A handshake in progress (CONNECT written and flushed, waiting for the CONNACK): the hypothesis of
`C10_handshake_has_no_pingreq` holds of a concrete world. -/
example :
    let w := (C10N_progF22.take 10 ++ [Directive.go]).foldl World.execDirective { sess := Session.new C10N_cfg }
    (match w.fut with | some .connRead => true | _ => false) = true ∧ w.live = false ∧
    w.sess.rt.keepaliveMs = 60000 ∧ w.sess.data.outbound.control = [] := by
  obtain ⟨_, _, _, _, h⟩ := C10N_eval
  exact h

end Minimq
