import Minimq.Proofs.ReaderStream
/-
C15 — behaviour does not depend on how the transport fragments reads and writes (reader level and
write-progress bookkeeping; the read half for the whole machine is `Theorems/C15Machine.lean` and
`Theorems/C15Reach.lean`).

Read side. `readLoop sched r stream` is the loop `read_packet` / `fill_packet_reader` run on the
`PacketReader` (`doWaitRead` / `doConnRead`): `packet_available` → `take_packet`; otherwise
`receive_buffer` → `read` (the transport returns between 1 and `min window remaining` bytes, as
`sched` dictates) → `commit`. `frames cap stream` is a specification that does not mention reads at
all: it cuts the stream at the packet boundaries announced by the fixed headers and says where a
reader with a `cap`-byte buffer must fail. The loop computes `frames` for every schedule.

The loop goes on after a packet `from_buffer` refuses (the event then has `decoded = none`); the
machine stops at the first such event. As the event sequences are equal for all schedules, so are
their prefixes up to that event.

Write side. `stepWrites` / `localWrites` are the two write loops (`perform_outbound_step` with
`SendState::set_written`, and `write_all` from a local buffer) over a list of partial acceptances.
-/
namespace Minimq

/-- **The read loop computes the framing specification, whatever the fragmentation.** For every
buffer capacity, every inbound byte stream and every schedule of partial reads — single bytes,
cuts inside the fixed header, anything —, a `PacketReader` that starts fresh (`new`, or after
`reset` / `take_packet`) hands to the decoder exactly the packets `frames` cuts out of the stream,
byte for byte and in order, each with the decode result of those bytes; it stops for the same
reason (stream exhausted, or `MalformedPacket`) holding exactly the same partial data. -/
theorem C15_reader_computes_frames (sched : List Nat) (r : Reader) (stream : Bytes)
    (hd : r.data = []) (hp : r.packetLength = none) :
    readLoop sched r stream =
      some ((frames r.cap stream).packets.map eventOf, (frames r.cap stream).ending) :=
  readLoop_eq_frames sched r stream hd hp

/-- **Fragmentation independence.** Any two ways of splitting the same stream across `read()`
calls give the same packets, the same decode results, the same error (if any) at the same place,
and the same bytes left in the buffer. -/
theorem C15_fragmentation_independent (sched₁ sched₂ : List Nat) (r : Reader) (stream : Bytes)
    (hd : r.data = []) (hp : r.packetLength = none) :
    readLoop sched₁ r stream = readLoop sched₂ r stream := by
  rw [readLoop_eq_frames sched₁ r stream hd hp, readLoop_eq_frames sched₂ r stream hd hp]

/-- A new reader satisfies the hypotheses; here a stream of PINGRESP, PUBACK, a PUBLISH header with
a padded length and half a packet, in a buffer of 8 bytes: three packets, one byte left over. -/
example : (Reader.new 8).data = [] ∧ (Reader.new 8).packetLength = none := ⟨rfl, rfl⟩
example : frames 8 [0xD0, 0x00, 0x40, 0x02, 0x00, 0x01, 0x30, 0x80, 0x00, 0xD0] =
    ⟨[[0xD0, 0x00], [0x40, 0x02, 0x00, 0x01], [0x30, 0x80, 0x00]], .exhausted [0xD0]⟩ := by decide +kernel
/-- Byte-by-byte delivery and delivery in one piece: an instance of the theorem. -/
example : readLoop [1, 1, 1, 1, 1, 1, 1, 1, 1, 1] (Reader.new 8)
      [0xD0, 0x00, 0x40, 0x02, 0x00, 0x01, 0x30, 0x80, 0x00, 0xD0] =
    readLoop [] (Reader.new 8) [0xD0, 0x00, 0x40, 0x02, 0x00, 0x01, 0x30, 0x80, 0x00, 0xD0] :=
  C15_fragmentation_independent _ _ _ _ rfl rfl
/-- The same stream in a 3-byte buffer: the PUBACK does not fit; the error comes as soon as its
length byte is in. -/
example : frames 3 [0xD0, 0x00, 0x40, 0x02, 0x00, 0x01, 0x30, 0x80, 0x00, 0xD0] =
    ⟨[[0xD0, 0x00]], .malformed [0x40, 0x02]⟩ := by decide +kernel
/-- Four continuation bytes: malformed when the fifth header byte is in. -/
example : frames 64 [0x30, 0x80, 0x80, 0x80, 0x80, 0x01, 0x02] =
    ⟨[], .malformed [0x30, 0x80, 0x80, 0x80, 0x80]⟩ := by decide +kernel

/-- The specification, as a recursive equation: look at the first packet (`frame1`: the fixed
header — type byte, then the remaining length in one to four bytes, canonical or not —, the buffer
capacity, the bytes available); stop, or emit it and go on behind it. -/
theorem C15_frames_spec (cap : Nat) (s : Bytes) :
    frames cap s = match frame1 cap s with
      | .stop e => ⟨[], e⟩
      | .packet pkt rest => (frames cap rest).cons pkt :=
  frames_eq cap s

/-- Nothing is lost, duplicated or reordered: the packets handed off, followed by the bytes still
held, are a prefix of the stream — all of it when reading ended because the stream did. The
position of a `MalformedPacket` error is therefore `packets.flatten.length + held.length`, the same
for every schedule. -/
theorem C15_bytes_conserved (cap : Nat) (s : Bytes) :
    match (frames cap s).ending with
    | .exhausted held => (frames cap s).packets.flatten ++ held = s
    | .malformed held => ∃ unread, (frames cap s).packets.flatten ++ held ++ unread = s := by
  refine frames_induction (cap := cap) (P := fun s f => match f.ending with
    | .exhausted held => f.packets.flatten ++ held = s
    | .malformed held => ∃ unread, f.packets.flatten ++ held ++ unread = s) ?_ ?_ s
  · intro s e hf
    rcases frame1_stop hf with rfl | ⟨m, rfl⟩
    · exact List.nil_append s
    · exact ⟨s.drop m, List.take_append_drop m s⟩
  · intro s pkt rest hf ih
    obtain ⟨_, t, _, _, _, rfl, rfl⟩ := frame1_packet hf
    simp only [Framing.cons, List.flatten_cons, List.append_assoc]
    cases he : (frames cap (s.drop t)).ending with
    | exhausted held =>
      rw [he] at ih
      exact (congrArg (s.take t ++ ·) ih).trans (List.take_append_drop t s)
    | malformed held =>
      rw [he] at ih
      obtain ⟨unread, hun⟩ := ih
      rw [List.append_assoc] at hun
      exact ⟨unread, (congrArg (s.take t ++ ·) hun).trans (List.take_append_drop t s)⟩

/-- Every packet handed to the decoder begins with a complete fixed header whose remaining length
accounts for exactly the bytes handed over, and fits the receive buffer. -/
theorem C15_packets_well_framed (cap : Nat) (s : Bytes) : ∀ pkt ∈ (frames cap s).packets,
    (∃ hl, fixedHeader pkt = .complete hl pkt.length) ∧ pkt.length ≤ cap := by
  refine frames_induction (cap := cap) (P := fun _ f => ∀ pkt ∈ f.packets,
    (∃ hl, fixedHeader pkt = .complete hl pkt.length) ∧ pkt.length ≤ cap) ?_ ?_ s
  · intro s e _ pkt hmem
    cases hmem
  · intro s p rest hf ih pkt hmem
    rcases List.mem_cons.1 hmem with rfl | hmem
    · obtain ⟨hl, t, hfh, htc, hts, rfl, _⟩ := frame1_packet hf
      have hb := fixedHeader_complete_bounds hfh
      have hlen : (s.take t).length = t := by rw [List.length_take]; omega
      rw [hlen]
      exact ⟨⟨hl, fixedHeader_take t hfh hb.2.2.1⟩, htc⟩
    · exact ih pkt hmem

/-- For any reader whatsoever: an empty window means a complete packet. -/
theorem C15_empty_window_means_packet (r r1 : Reader) (h : r.receiveWindow = some (r1, 0)) :
    r1.packetAvailable = true :=
  receiveWindow_available h

/-- **Safety of every reachable reader state** (`RdReach`: the loop as a relation, every choice of
every read allowed). The buffer never holds more than its capacity; a window offered by
`receive_buffer` stays inside the buffer, is empty only when a complete packet is held (so
`read()` is never called with an empty buffer while a packet is still incomplete), and — whenever
the stream from the current packet on has a complete fixed header announcing `t` bytes — never
reaches past byte `t`: no byte of the next packet is ever consumed early. -/
theorem C15_reader_safe {r0 : Reader} {stream : Bytes} (hd : r0.data = [])
    (hp : r0.packetLength = none) {r : Reader} {unread : Bytes} (h : RdReach r0 stream r unread) :
    r.data.length ≤ r.cap ∧
    ∀ r1 n, r.receiveWindow = some (r1, n) →
      r.data.length + n ≤ r.cap ∧
      (n = 0 → r1.packetAvailable = true) ∧
      (r.packetAvailable = false → ∀ hl t, fixedHeader (r.data ++ unread) = .complete hl t →
        r.data.length + n ≤ t) := by
  obtain ⟨hinv, _, _⟩ := reach_inv hd hp h
  refine ⟨hinv.fits, ?_⟩
  intro r1 n hw
  have hwi := window_some hinv rfl hw
  obtain ⟨pl, rfl⟩ := receiveWindow_reader hw
  refine ⟨?_, fun hn => C15_empty_window_means_packet r _ (hn ▸ hw), ?_⟩
  · cases hp1 : pl with
    | none => obtain ⟨_, hc, hn⟩ := hwi.unknown hp1; exact hn ▸ hc
    | some l => obtain ⟨_, hc, hdl, hn⟩ := hwi.known l hp1; dsimp only at hc hdl hn; omega
  · intro _ hl t hfh
    cases hp1 : pl with
    | none =>
      obtain ⟨hinc, _, hn⟩ := hwi.unknown hp1
      have hlt : r.data.length < hl := fixedHeader_incomplete_append unread hinc hfh
      have := fixedHeader_complete_bounds hfh
      omega
    | some l =>
      obtain ⟨⟨hl', hfh'⟩, _, hdl, hn⟩ := hwi.known l hp1
      cases hfh.symm.trans hfh'
      dsimp only at hdl hn
      omega

/-- `RdReach` is not empty beyond its start: one byte read into a new reader. -/
example : RdReach (Reader.new 8) [0xD0, 0x00] ((Reader.new 8).commit [0xD0]) [0x00] :=
  RdReach.read (r1 := Reader.new 8) (n := 1) (k := 1) RdReach.init rfl rfl (by decide) (by decide)
    (by decide)

/-- **Partial writes of a queued packet** — the arithmetic of the write loop (`SendState::set_written`,
`SendState.afterWrite`), stated about the list function `stepWrites` that iterates it; no theorem ties
`stepWrites` to `doStepWrite` run by run (the machine-level statements about writes are C01Wire and
C02Wire: what is on the wire is the retained bytes, whole, whatever the acceptances), and an acceptance
of 0 bytes (`WriteZero`) is outside it. For
a packet of `len` bytes of which `written < len` have gone out, and any sequence of partial
acceptances by the transport (each at least one byte, at most what was offered — the offer is
always `bytes[written..]`): the chunks accepted so far, concatenated, are exactly the next `total`
bytes of the packet — nothing skipped, nothing sent twice —; the total never exceeds the packet;
the recorded state is `Write(written + total)` while bytes remain and `Flush` exactly when the
last byte has been accepted; no chunk is empty. -/
theorem C15_partial_writes (bytes : Bytes) (len : Nat) (hlen : bytes.length = len)
    (ks : List Nat) (written : Nat) (hw : written < len) :
    let res := stepWrites bytes len (.write written) ks
    let total := res.1.flatten.length
    res.1.flatten = (bytes.drop written).take total ∧ written + total ≤ len ∧
    res.2 = SendState.afterWrite (written + total) len ∧
    (res.2 = .flush ↔ written + total = len) ∧
    (∀ c ∈ res.1, c ≠ []) := by
  intro res total
  obtain ⟨h1, h2, h3, h4⟩ := stepWrites_spec bytes len hlen ks written hw
  refine ⟨h1, h2, h3, ?_, h4⟩
  replace h3 : res.2 = SendState.afterWrite (written + total) len := h3
  replace h2 : written + total ≤ len := h2
  rw [h3, afterWrite_flush_iff]
  omega

/-- With enough acceptances the packet is completed, and what went over the wire is then exactly
the part of the packet that was still to be sent. -/
theorem C15_partial_writes_complete (bytes : Bytes) (len : Nat) (hlen : bytes.length = len)
    (ks : List Nat) (written : Nat) (hw : written < len) (hk : len - written ≤ ks.length) :
    (stepWrites bytes len (.write written) ks).2 = .flush ∧
    (stepWrites bytes len (.write written) ks).1.flatten = bytes.drop written := by
  have hf := stepWrites_complete bytes len hlen ks written hw hk
  obtain ⟨h1, _, _, h4, _⟩ := C15_partial_writes bytes len hlen ks written hw
  refine ⟨hf, ?_⟩
  have := h4.mp hf
  rw [h1]
  apply List.take_of_length_le
  rw [List.length_drop]; omega

example : stepWrites [1, 2, 3, 4, 5] 5 (.write 0) [2, 0, 9] = ([[1, 2], [3], [4, 5]], .flush) := by
  decide +kernel

/-- **Partial writes from an operation-local buffer** (`write_all` for CONNECT, QoS 0 PUBLISH,
DISCONNECT): the accepted chunks followed by what is still unsent are the packet; once there have
been as many acceptances as bytes, nothing is left. -/
theorem C15_partial_writes_local (ks : List Nat) (bytes : Bytes) :
    (localWrites bytes ks).1.flatten ++ (localWrites bytes ks).2 = bytes ∧
    (bytes.length ≤ ks.length → (localWrites bytes ks).2 = []) := by
  induction ks generalizing bytes with
  | nil =>
    simp only [localWrites, List.flatten_nil, List.nil_append, List.length_nil, true_and]
    intro h; exact List.eq_nil_of_length_eq_zero (by omega)
  | cons k ks ih =>
    simp only [localWrites]
    by_cases he : bytes.isEmpty = true
    · rw [if_pos he]
      have : bytes = [] := by simpa using he
      simp [this]
    · rw [if_neg he]
      have hne : bytes.length ≠ 0 := by
        intro h0; exact he (by simp [List.eq_nil_of_length_eq_zero h0])
      have hc := clampWrite_bounds k bytes.length hne
      generalize clampWrite k bytes.length = c at hc
      obtain ⟨h1, h2⟩ := ih (bytes.drop c)
      simp only [List.flatten_cons, List.append_assoc, h1, List.take_append_drop, true_and]
      intro hl
      apply h2
      simp at hl ⊢; omega

end Minimq
