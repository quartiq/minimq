import Minimq.Proofs.WireRel
import Minimq.Proofs.WireTop
import Minimq.Theorems.C06
/-
C03, whole machine — PUBREL on the wire: once per connection, only after the PUBREC, and never before
the PUBLISH it continues.

Ghost state (never printed; the driver's traces are unchanged). A release entry (`PendingRelease`, the
PUBREL the client owes) carries two ghost numbers: `rser`, its own serial, taken by `queue_release` from
the ghost counter `Outbound.nextRser`, and `pser`, the serial (`RetainedPacket.ser`) of the retained
PUBLISH that the PUBREC acknowledged (`Outbound.ackedSer`, computed in `handlePacket` before
`ack_packet` removes that entry). The transmission log tags a completely written PUBREL with
`.release rser pser id rc`. As for retained packets, the serial — not the identifier, which is reused —
names "the same PUBREL" at two moments of an execution and on two transports.

Proved for every program, in parallel to `Theorems/C02Wire.lean`: the release queue agrees with the log of
the current transport; PUBREL serials strictly increase on every transport that is not marked torn; every
release entry and every logged PUBREL goes back to one step that handled a PUBREC with a success code; a
logged PUBREL has the PUBREL's five bytes, and no transmission of its PUBLISH stands behind it in the log.

That the log of the current transport *contains* a transmission of the PUBLISH in front of every PUBREL
whose release entry was created on this connection (`C03_publish_on_the_wire_before_pubrel`) is false at the
level of the session primitives — `handle (.pubRec id _)` removes a retained QoS 2 PUBLISH in whatever send
state, so a broker that acknowledges a PUBLISH it has not received gets a PUBREL for it. In the machine it
holds because the operations flush before they read: `drive_packet` reads only when `next_step` has nothing
left to do (`driveAfterService`), the reader never reads past the packet it is assembling, and nothing is
queued between the read and the handling; the wire invariant carries this ("nothing unsent" at
`process_received_packet` and at the `waitRead` await, `IdlePre` / `DrivePre` in `Proofs/WireInv.lean`), so when
a PUBREC is handled every retained entry is `Sent` and therefore in the log of this transport. "Created on
this connection" is read off one more ghost number, `Session.rmark`: the value of the release-serial counter
at the moment the CONNACK of this connection was accepted (`C03_mark_set_only_by_connack`).

Still open: the same for a PUBREL that is retransmitted on a later connection than the one on which its
PUBREC was handled (serial below the mark). Its PUBLISH was in the log of the transport of that earlier
connection if that transport was not marked torn at the time; after the fact the state does not say
whether it was, and the wire invariant is not maintained on a torn transport.
-/
namespace Minimq
open Gen World Outbound

/-- **The release queue agrees with the log of the current transport.** After any program, on a live
connection whose transport is not marked torn, with `L` the log of the current transport:

 1. the PUBREL serials in `L` strictly increase — no PUBREL twice on this connection, in queue order;
 2. every serial in `L` is below the counter;
 3. a release entry in state `Flush` or `Sent` is in `L`, tagged with its serial, the serial of its
    PUBLISH, its identifier and reason code, with the bytes of the PUBREL packet;
 4. an entry still waiting or partially written is not in `L`, and every PUBREL in `L` is older;
 5. the release queue is in serial order, and in front of an entry that has been started (any state
    but "waiting for the first byte") every entry is `Sent`. -/
theorem C03_release_queue_agrees_with_log (cfg : Cfg) (ds : List Directive) :
    let w := ds.foldl World.execDirective { sess := Session.new cfg }
    let o := w.sess.data.outbound
    w.nets.length ∉ w.tornNets → w.live = true →
    (relSers w.curLog).Pairwise (· < ·) ∧
    (∀ r ∈ relSers w.curLog, r < o.nextRser) ∧
    (∀ e ∈ o.release, (e.state = .sent ∨ e.state = .flush) →
        (⟨w.nets.length, .release e.rser e.pser e.id e.rc, pubrelBytes e.id e.rc⟩ : LogEntry) ∈ w.curLog) ∧
    (∀ e ∈ o.release, ∀ n, e.state = .write n → ∀ r ∈ relSers w.curLog, r < e.rser) ∧
    (o.release.map (·.rser)).Pairwise (· < ·) ∧
    o.release.Pairwise (fun a c => c.state ≠ .write 0 → a.state = .sent) := by
  intro w o hnt hl
  have hinv := (Quiesce.produced cfg ds).winv
  have hlog := (hinv.curLog hnt hl).2.r
  refine ⟨hlog.sorted, hlog.below, fun e he hst => ?_,
    fun e he n hst => hlog.unwritten e he (by simp [hst, SendState.isWrite]), hinv.sp.rel.inc, List.pairwise_map.1 hlog.ord⟩
  have := hlog.written e he hst
  simpa [relEntry, encodePubrel_eq, Except.toOption] using this

/-- **A PUBREL that is not completely written has not been on this wire.** -/
theorem C03_unfinished_pubrel_not_in_log (cfg : Cfg) (ds : List Directive) :
    let w := ds.foldl World.execDirective { sess := Session.new cfg }
    w.nets.length ∉ w.tornNets → w.live = true →
    ∀ e ∈ w.sess.data.outbound.release, ∀ n, e.state = .write n → e.rser ∉ relSers w.curLog := by
  intro w hnt hl e he n hst hm
  exact Nat.lt_irrefl _ ((C03_release_queue_agrees_with_log cfg ds hnt hl).2.2.2.1 e he n hst _ hm)

/-- **At most once on every connection, in order.** After any program, for every transport `k`
(ordinal, 1 = first) that is not marked torn — the current one in whatever state, or an earlier one —
the PUBREL serials in its part of the transmission log strictly increase: no PUBREL was handed to that
transport twice, and they went out in queue order. -/
theorem C03_pubrel_at_most_once_on_every_connection (cfg : Cfg) (ds : List Directive) :
    let w := ds.foldl World.execDirective { sess := Session.new cfg }
    ∀ k, 1 ≤ k → k ≤ w.nets.length → k ∉ w.tornNets →
      (relSers (w.log.filter (fun f => f.net == k))).Pairwise (· < ·) := by
  intro w k hk1 hk hnt
  exact ((Quiesce.produced cfg ds).winv.log_sorted k hk1 hk hnt).2

/-- **Where a release entry comes from, step by step.** For any primitive step `s → s'`: the counter
does not decrease, and every release entry of `s'` either is an entry of `s` (same serial, same origin,
same identifier and reason code; the send state may differ), or was created by this step — and then
(`CreatedAt`) the step handled a PUBREC for the entry's identifier with a success code, the PUBREL fits
the broker's packet size limit, the first retained entry with that identifier whose header is a QoS 2
PUBLISH was removed in this same step and its serial is the entry's `pser`, and the entry was appended
at the end of the release queue with reason Success, waiting for its first byte, with the counter value
as its serial. -/
theorem C03_release_entry_origin_step {s s' : Session} (st : SessStep s s') :
    s.data.outbound.nextRser ≤ s'.data.outbound.nextRser ∧
    ∀ e' ∈ s'.data.outbound.release,
      (∃ e ∈ s.data.outbound.release, e.rser = e'.rser ∧ e.pser = e'.pser ∧ e.id = e'.id ∧ e.rc = e'.rc) ∨
      (e'.rser = s.data.outbound.nextRser ∧ e'.rc = RC_Success ∧ e'.state = .write 0 ∧
        CreatedAt s s' e'.rser e'.pser e'.id) := by
  obtain ⟨h1, h2⟩ := st.relStep
  refine ⟨h1, fun e' he' => ?_⟩
  rcases h2 e' he' with ⟨e, he, htag⟩ | ⟨id, rs, rfl, hc, rfl, _⟩
  · exact Or.inl ⟨e, he, htag⟩
  · exact Or.inr ⟨rfl, rfl, rfl, createdAt_of_creates hc⟩

/-- `CreatedAt`, spelled out. -/
theorem C03_createdAt_iff (a b : Session) (r t id : Nat) :
    CreatedAt a b r t id ↔
      ∃ rs, b = (a.handle (.pubRec id rs)).1 ∧ reasonSuccess rs.rc = true ∧ a.rt.packetTooLarge 5 = false ∧
        a.data.outbound.nextRser = r ∧ b.data.outbound.nextRser = r + 1 ∧
        b.data.outbound.release = a.data.outbound.release ++ [⟨id, RC_Success, .write 0, r, t⟩] ∧
        ∃ l₁ e l₂, a.data.outbound.retained = l₁ ++ e :: l₂ ∧ (∀ x ∈ l₁, ackPred a.data.outbound id .pubRec x = false) ∧
          e.ser = t ∧ e.id = id ∧ AckKind.pubRec.acknowledges (a.data.outbound.headerAt e.offset) = true ∧
          b.data.outbound.keys = (l₁ ++ l₂).map RetainedPacket.key := Iff.rfl

/-- **Every PUBREL goes back to a successful PUBREC.** After any program the session has been reached
from the initial one by a chain of primitive steps (`Reach`). For every release entry in the queue, and
for every PUBREL in the transmission log — on whichever transport —, the chain contains one particular
step `a → b` that created its serial: the handling of a PUBREC with a success code which in the same
step removed the retained QoS 2 PUBLISH with that identifier (serial `t`). -/
theorem C03_pubrel_created_by_successful_pubrec (cfg : Cfg) (ds : List Directive) :
    let w := ds.foldl World.execDirective { sess := Session.new cfg }
    (∀ e ∈ w.sess.data.outbound.release,
      ∃ a b, Reach QuotaP (Session.new cfg) a ∧ SessStep a b ∧ Reach QuotaP b w.sess ∧ CreatedAt a b e.rser e.pser e.id) ∧
    (∀ g ∈ w.log, ∀ r t id rc, g.tag = .release r t id rc →
      ∃ a b, Reach QuotaP (Session.new cfg) a ∧ SessStep a b ∧ Reach QuotaP b w.sess ∧ CreatedAt a b r t id) := by
  intro w
  have h : RTraced QuotaP (Session.new cfg) w.sess w.log :=
    hrun (hclosed_RTraced closed_QuotaP (Session.new cfg)) ds { sess := Session.new cfg } (RTraced_init cfg (C06_init cfg))
  exact ⟨h.queue, h.logged⟩

/-- **PUBREL on the wire, all transports.** After any program, for every entry `g` of the transmission
log tagged `.release r t id rc` (a completely written PUBREL, on whichever transport, torn or not):

 1. `rc` is Success and the bytes are the PUBREL packet `62 03 id_hi id_lo 00`;
 2. `r` and `t` have been handed out, and the PUBLISH with serial `t` is no longer retained;
 3. any other PUBREL in the log with the same serial `r`, or continuing the same PUBLISH `t`, is the
    same PUBREL: same `r`, `t`, identifier, reason code and bytes (a retransmitted PUBREL is identical);
 4. a release entry still queued with serial `r`, or continuing `t`, is that exchange;
 5. every log entry recording a transmission of the retained packet `t` is a PUBLISH with identifier `id`;
 6. and none of them stands behind `g`: if the log is `l1 ++ g :: l2`, no entry of `l2` has serial `t`.
    Every transmission of the PUBLISH, on any transport, precedes every transmission of its PUBREL. -/
theorem C03_pubrel_on_the_wire (cfg : Cfg) (ds : List Directive) :
    let w := ds.foldl World.execDirective { sess := Session.new cfg }
    let o := w.sess.data.outbound
    ∀ g ∈ w.log, ∀ r t id rc, g.tag = .release r t id rc →
      (rc = RC_Success ∧ g.bytes = pubrelBytes id rc) ∧
      (r < o.nextRser ∧ t < o.nextSer ∧ t ∉ o.retained.map (·.ser)) ∧
      (∀ g' ∈ w.log, ∀ r' t' id' rc', g'.tag = .release r' t' id' rc' → (r = r' ∨ t = t') →
          r = r' ∧ t = t' ∧ id = id' ∧ rc = rc' ∧ g.bytes = g'.bytes) ∧
      (∀ e ∈ o.release, (r = e.rser ∨ t = e.pser) → r = e.rser ∧ t = e.pser ∧ id = e.id ∧ rc = e.rc) ∧
      (∀ f ∈ w.log, ∀ i, f.tag = .retained t i → i = id ∧ isPubPkt f.bytes = true) ∧
      (∀ l1 l2, w.log = l1 ++ g :: l2 → ∀ f ∈ l2, f.ser? ≠ some t) := by
  intro w o g hg r t id rc ht
  have h : RHist w.sess w.log := (Quiesce.produced cfg ds).rhist
  obtain ⟨b1, b2, b3, b4, b5⟩ := h.lbelow g hg r t id rc ht
  refine ⟨⟨b4, b5⟩, ⟨b1, b2, b3⟩, ?_, fun e he hor => h.lcur g hg e he r t id rc ht hor,
    fun f hf i hft => h.lid g hg f hf r t id rc i ht hft, fun l1 l2 hl f hf => pairwise_split h.order hl f hf r t id rc ht⟩
  intro g' hg' r' t' id' rc' ht' hor
  obtain ⟨c1, c2, c3, c4⟩ := h.lsame g hg g' hg' r t id rc r' t' id' rc' ht ht' hor
  refine ⟨c1, c2, c3, c4, ?_⟩
  rw [b5, (h.lbelow g' hg' r' t' id' rc' ht').2.2.2.2, c3, c4]

/-- **The mark of the current connection.** Of all the primitives only `activate` on an acceptable
CONNACK writes `rmark`, and it writes the current value of the release-serial counter (which it leaves
as it is): from then on `rmark ≤ e.rser` says that the release entry `e` was created on this connection. -/
theorem C03_mark_set_only_by_connack {s s' : Session} (h : Prim s s') :
    s'.rmark = s.rmark ∨
    ∃ sp block now, s' = (s.activate sp block now).1 ∧ (s.activate sp block now).2 = .ok () ∧
      s'.rmark = s'.data.outbound.nextRser ∧ s'.data.outbound.nextRser = s.data.outbound.nextRser := by
  rcases h.kinds with ⟨_, _, _, _, _, _, _, _, _, rfl⟩ | ⟨sp, block, now, e, hok, _, he⟩ | ⟨sp, _, _, _, _, _, he⟩
  · exact .inl rfl
  · exact .inr ⟨sp, block, now, e, hok, by rw [he]; cases sp <;> exact ⟨rfl, rfl⟩⟩
  · exact .inl (by rw [he]; cases sp <;> rfl)

/-- **The PUBLISH is on the wire before its PUBREL.** Run any program from the initial world and let `w`
be the world it ends in. If the connection is live and no operation-local write was dropped on the
current transport, then

 1. for every release entry `e` created on this connection (`rmark ≤ e.rser`) the log of the current
    transport contains a transmission of the retained packet `e.pser` under the identifier `e.id`, and
    it is a PUBLISH;
 2. for every PUBREL `g` in the log of the current transport whose release entry was created on this
    connection (`rmark ≤ r`), wherever `g` stands in that log (`curLog = l1 ++ g :: l2`), a transmission of
    its PUBLISH — serial `t`, the PUBREL's identifier, a PUBLISH packet — stands in front of it (in `l1`),
    and none stands behind it.

With `C02_logged_packets_are_on_the_wire` (the logged packets are on the wire in log order): on this
connection the bytes of the PUBLISH were accepted by the transport before the bytes of its PUBREL. -/
theorem C03_publish_on_the_wire_before_pubrel (cfg : Cfg) (ds : List Directive) :
    let w := ds.foldl World.execDirective { sess := Session.new cfg }
    w.nets.length ∉ w.tornNets → w.live = true →
    (∀ e ∈ w.sess.data.outbound.release, w.sess.rmark ≤ e.rser →
      ∃ f ∈ w.curLog, f.tag = .retained e.pser e.id ∧ isPubPkt f.bytes = true) ∧
    (∀ g r t id rc l1 l2, g.tag = .release r t id rc → w.sess.rmark ≤ r → w.curLog = l1 ++ g :: l2 →
      (∃ f ∈ l1, f.tag = .retained t id ∧ isPubPkt f.bytes = true) ∧ ∀ f ∈ l2, f.ser? ≠ some t) := by
  intro w hnt hl
  have hinv := (Quiesce.produced cfg ds).winv
  have hrp := hinv.relpub hnt hl
  have h : RHist w.sess w.log := (Quiesce.produced cfg ds).rhist
  have hsub : w.curLog.Sublist w.log := List.filter_sublist
  refine ⟨?_, ?_⟩
  · intro e he hm
    obtain ⟨f, hf, ht⟩ := hrp.queue e he hm
    exact ⟨f, hf, ht, (h.qid e he f (hsub.subset hf) e.id ht).2⟩
  · intro g r t id rc l1 l2 hg hm hsplit
    have hgm : g ∈ w.curLog := by rw [hsplit]; simp
    have horder : w.curLog.Pairwise (fun a c => ∀ r t id rc, a.tag = .release r t id rc → c.ser? ≠ some t) :=
      h.order.sublist hsub
    have hbehind : ∀ f ∈ l2, f.ser? ≠ some t := fun f hf => pairwise_split horder hsplit f hf r t id rc hg
    refine ⟨?_, hbehind⟩
    obtain ⟨f, hf, ht⟩ := hrp.logged g hgm r t id rc hg hm
    have hpub := (h.lid g (hsub.subset hgm) f (hsub.subset hf) r t id rc id hg ht).2
    rw [hsplit] at hf
    rcases List.mem_append.mp hf with h1 | h1
    · exact ⟨f, h1, ht, hpub⟩
    · rcases List.mem_cons.mp h1 with rfl | h2
      · rw [hg] at ht; cases ht
      · exact absurd (LogEntry.ser?_eq_some.mpr ⟨id, ht⟩) (hbehind f h2)

/-- **The release queue, all states.** After any program: the release serials along the queue strictly
increase and are below the counter; the PUBLISH each entry continues has been handed a serial and is no
longer retained; the entry asks for reason Success; no two entries continue the same PUBLISH; and every
transmission of that PUBLISH in the log, on any transport, is a PUBLISH with the entry's identifier. -/
theorem C03_release_queue_all_programs (cfg : Cfg) (ds : List Directive) :
    let w := ds.foldl World.execDirective { sess := Session.new cfg }
    let o := w.sess.data.outbound
    (o.release.map (·.rser)).Pairwise (· < ·) ∧ (∀ e ∈ o.release, e.rser < o.nextRser) ∧
    (∀ e ∈ o.release, e.pser < o.nextSer ∧ e.pser ∉ o.retained.map (·.ser) ∧ e.rc = RC_Success) ∧
    (∀ e1 ∈ o.release, ∀ e2 ∈ o.release, e1.pser = e2.pser → e1 = e2) ∧
    (∀ e ∈ o.release, ∀ f ∈ w.log, ∀ i, f.tag = .retained e.pser i → i = e.id ∧ isPubPkt f.bytes = true) := by
  intro w o
  have h : RHist w.sess w.log := (Quiesce.produced cfg ds).rhist
  exact ⟨h.rel.inc, h.rel.lt, h.qgone, fun e1 h1 e2 h2 hp => rser_inj h.rel h1 h2 (h.qinj e1 h1 e2 h2 hp), h.qid⟩

/-- The configuration of `C01Wire_cfg`: its CONNECT has 29 bytes, which the examples drop from the wire. -/
def C03Wire_cfg : Cfg :=
  { rx := 64, tx := 128, keepaliveS := 0, expiry := 300, downgrade := false, clientId := [0x63], auth := none, will := none }

/-- A QoS 2 publish, written and flushed; its PUBREC (success) arrives and `poll` handles it and sends
the PUBREL; the connection is dropped before the PUBCOMP; the session is resumed (CONNACK with session
present) and `poll` replays the PUBREL. -/
def C03Wire_prog : List Directive :=
  [.connect, .rx [0x20, 0x03, 0x00, 0x00, 0x00], .go,
   .publish { qos := 2, retain := false, topic := [0x74], payload := .bytes [0x70], props := .slice [] }, .go,
   .rx [0x50, 0x02, 0x00, 0x01], .poll, .go,
   .drop, .connect, .rx [0x20, 0x03, 0x01, 0x00, 0x00], .go, .poll, .go]

/-- `C03Wire_prog` evaluated once, with the world before the drop on the way. -/
theorem C03Wire_eval :
    (let w := C03Wire_prog.foldl World.execDirective { sess := Session.new C03Wire_cfg }
     w.nets.length ∉ w.tornNets ∧ w.live = true ∧ w.nets.length = 2 ∧
     w.log = [⟨1, .retained 0 1, [0x34, 0x07, 0x00, 0x01, 0x74, 0x00, 0x01, 0x00, 0x70]⟩,
              ⟨1, .release 0 0 1 0, [0x62, 0x03, 0x00, 0x01, 0x00]⟩,
              ⟨2, .release 0 0 1 0, [0x62, 0x03, 0x00, 0x01, 0x00]⟩] ∧
     relSers w.curLog = [0] ∧
     w.curNet.wire.drop 29 = ([0x62, 0x03, 0x00, 0x01, 0x00] : Bytes) ∧
     w.sess.data.outbound.release = [⟨1, 0, .sent, 0, 0⟩] ∧ w.sess.data.outbound.retained = []) ∧
    (let w := (C03Wire_prog.take 8).foldl World.execDirective { sess := Session.new C03Wire_cfg }
     let w' := C03Wire_prog.foldl World.execDirective { sess := Session.new C03Wire_cfg }
     w.nets.length ∉ w.tornNets ∧ w.live = true ∧ w.sess.rmark = 0 ∧
     w.sess.data.outbound.release.map (·.rser) = [0] ∧
     w.curLog.map (·.tag) = [.retained 0 1, .release 0 0 1 0] ∧
     w'.sess.rmark = 1 ∧ w'.sess.data.outbound.release.map (·.rser) = [0]) := by
  decide +kernel

/-- The hypotheses hold; the log has three entries: the PUBLISH (serial 0, identifier 1) and the PUBREL
(release serial 0, continuing PUBLISH 0, identifier 1) on transport 1, and the same PUBREL again — same
bytes — on transport 2, where it is the only packet after the CONNECT; the release entry is `Sent`, the
PUBLISH is no longer retained. -/
example :
    let w := C03Wire_prog.foldl World.execDirective { sess := Session.new C03Wire_cfg }
    w.nets.length ∉ w.tornNets ∧ w.live = true ∧ w.nets.length = 2 ∧
    w.log = [⟨1, .retained 0 1, [0x34, 0x07, 0x00, 0x01, 0x74, 0x00, 0x01, 0x00, 0x70]⟩,
             ⟨1, .release 0 0 1 0, [0x62, 0x03, 0x00, 0x01, 0x00]⟩,
             ⟨2, .release 0 0 1 0, [0x62, 0x03, 0x00, 0x01, 0x00]⟩] ∧
    relSers w.curLog = [0] ∧
    w.curNet.wire.drop 29 = ([0x62, 0x03, 0x00, 0x01, 0x00] : Bytes) ∧
    w.sess.data.outbound.release = [⟨1, 0, .sent, 0, 0⟩] ∧ w.sess.data.outbound.retained = [] := by
  obtain ⟨h, _⟩ := C03Wire_eval
  exact h

/-- Non-vacuity of `C03_publish_on_the_wire_before_pubrel`: the same history up to the PUBREL (before the
drop). The release entry was created on this connection (mark 0, serial 0) and the log of the transport
is the PUBLISH followed by its PUBREL. After the resumed reconnect (whole program) the mark is 1: the
replayed PUBREL, serial 0, belongs to the earlier connection. -/
example :
    let w := (C03Wire_prog.take 8).foldl World.execDirective { sess := Session.new C03Wire_cfg }
    let w' := C03Wire_prog.foldl World.execDirective { sess := Session.new C03Wire_cfg }
    w.nets.length ∉ w.tornNets ∧ w.live = true ∧ w.sess.rmark = 0 ∧
    w.sess.data.outbound.release.map (·.rser) = [0] ∧
    w.curLog.map (·.tag) = [.retained 0 1, .release 0 0 1 0] ∧
    w'.sess.rmark = 1 ∧ w'.sess.data.outbound.release.map (·.rser) = [0] := by
  obtain ⟨_, h⟩ := C03Wire_eval
  exact h

end Minimq
