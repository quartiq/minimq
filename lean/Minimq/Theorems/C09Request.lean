import Minimq.Theorems.C07
import Minimq.Theorems.C09
import Minimq.Theorems.C16Quiesce
/-
C09 / C07 at the level of the operations — from the API call to the bytes.

`Theorems/C09.lean` is about the encoders in isolation (`encode… = .ok (off, pkt)` is a hypothesis), and
`Theorems/C07.lean` about the allocator and the invariant. This file ties both to what `publish`,
`subscribe` and `unsubscribe` do with a request: `afterFlush (fuel + 1) w k` (Ops.lean) is the continuation
of each operation after its preliminary `flush_outbound` — `k = .publishPre r`, `.subPre r`, `.unsubPre r`
— where the identifier is allocated and the request is encoded into the transmit arena, size-checked and
retained. It is deterministic and does no I/O.

For each of the three requests: what an accepted request leaves (`…_request_is_retained`: ONE new entry at the
end of the retained list, under the identifier `next_packet_id` returned, whose arena bytes the reference
parser reads back as the packet asked for), exactly when it is accepted and what a refusal leaves
(`…_outcome`), and that on an idle live handle the directive itself reaches the first `write` of the transport
with that packet (`…_call_reaches_write`).

With `C02_log_entry_matches_arena` / `C02_logged_packets_are_on_the_wire` (Theorems/C02Wire.lean: what is
transmitted for a retained entry is its arena bytes, up to the DUP bit) this gives request → arena → wire.

Hypotheses. `w.sess.data.IdInv` and `w.sess.data.outbound.ArenaInv` hold in every reachable world
(`C07_all_programs`, `C17_all_programs_from`). The hypotheses on the request (`r.qos ≤ 2`, topic valid
UTF-8, well-formed property values, properties given as a list) are what the Rust types guarantee; the
directive parser checks the same.
-/
namespace Minimq
open Gen World Outbound

/-- **PUBLISH, any QoS: exactly when it is accepted, and what happens otherwise.** For any request (any
payload, also one whose `ToPayload` fails or misreports its length), `publish` after its first flush does
one of three things:

 1. the request is accepted (`PublishAccepted`) with effective QoS 1 or 2: the packet is retained
    (`Session.Enqueued`) and the operation goes on to its second flush;
 2. it is accepted with effective QoS 0: the packet `pkt`, encoded in the scratch space, is handed to the
    operation-local `write_all`; the session is untouched (nothing retained, no identifier taken);
 3. it is not accepted: the operation ends with the error `publishRefusal w r` (`InvalidRequest` for
    invalid properties, above QoS 0 `InflightExhausted` when no retained slot is free, `NotReady` when the
    connection is not live or `can_publish` fails, the encoder's error, or `PacketTooLarge`), and the
    session is untouched (`Session.Untouched`: send quota, queues, every retained packet's bytes; the
    world differs from `w` in the session only, so transports, log and handles are those of `w`) — except
    that the identifier counter has advanced if, and only if, the effective QoS is above 0 and the
    properties were valid (the allocation precedes the slot, readiness and encoding checks). -/
theorem C09_publish_outcome (fuel : Nat) (w : World) (r : PubReq) (ha : w.sess.data.outbound.ArenaInv) :
    let q := effectiveQos w.sess.rt.maxQos w.sess.downgrade r.qos
    (PublishAccepted w r ∧ 0 < q ∧ ∃ off pkt s', publishEncoding w r = .ok (off, pkt) ∧
      afterFlush (fuel + 1) w (.publishPre r) = flushLoop fuel { w with sess := s' } (.post "publish"
        { kind := if q = 2 then .pub2 else .pub1, id := w.sess.alloc.2, generation := w.sess.data.generation }) ∧
      w.sess.Enqueued s' w.sess.alloc.2 pkt true) ∨
    (PublishAccepted w r ∧ q = 0 ∧ ∃ off pkt s', publishEncoding w r = .ok (off, pkt) ∧
      afterFlush (fuel + 1) w (.publishPre r) = doLocalWrite fuel { w with sess := s' } 1 pkt ∧
      w.sess.Untouched s' ∧ s'.data.packetId = w.sess.data.packetId) ∨
    (¬ PublishAccepted w r ∧ ∃ s',
      afterFlush (fuel + 1) w (.publishPre r) = ({ w with sess := s' }).finishErr "publish" (publishRefusal w r) ∧
      w.sess.Untouched s' ∧
      s'.data.packetId = if r.props.validFor .Publish = true ∧ 0 < q then w.sess.alloc.1.data.packetId
        else w.sess.data.packetId) := by
  simp only []
  generalize hx : afterFlush (fuel + 1) w (.publishPre r) = x
  rw [afterFlush_publishPre] at hx
  simp only [Bool.not_eq_true', gt_iff_lt] at hx
  have hE : publishEncoding w r = encodePublishWithOffset w.sess.data.outbound.scratchLen
      (pubHeader r _ (if 0 < effectiveQos w.sess.rt.maxQos w.sess.downgrade r.qos then some w.sess.alloc.2 else none))
      r.payload w.sess.data.outbound.scratchView := rfl
  unfold PublishAccepted publishRefusal
  generalize effectiveQos w.sess.rt.maxQos w.sess.downgrade r.qos = q at hx hE ⊢
  simp only []
  -- the checks in the order of the code; `hx` follows the code, the goal the refusal
  by_cases h1 : r.props.validFor .Publish = false
  · rw [if_pos h1] at hx ⊢
    exact .inr (.inr ⟨fun h => (by rw [h.1] at h1; cases h1), w.sess, hx.symm, .refl _ ha, by simp [h1]⟩)
  rw [if_neg h1] at hx ⊢
  have h1' : r.props.validFor .Publish = true := by simpa using h1
  by_cases hq0 : 0 < q
  · rw [if_pos hq0] at hx hE
    have hpid : w.sess.alloc.1.data.packetId = if r.props.validFor .Publish = true ∧ 0 < q
        then w.sess.alloc.1.data.packetId else w.sess.data.packetId := by rw [if_pos ⟨h1', hq0⟩]
    by_cases h2 : w.sess.data.outbound.retainedFull = true
    · rw [if_pos h2] at hx; rw [if_pos (c := 0 < q ∧ w.sess.data.outbound.retainedFull = true) ⟨hq0, h2⟩]
      exact .inr (.inr ⟨fun h => (by rw [(retainedFull_of_can hq0 h.2.2.1).1] at h2; cases h2), _, hx.symm,
        .alloc _ ha, hpid⟩)
    rw [if_neg h2] at hx; rw [if_neg (c := 0 < q ∧ w.sess.data.outbound.retainedFull = true) (fun h => h2 h.2)]
    by_cases h3 : (w.live && canPublishS w.sess.data w.sess.rt q) = false
    · rw [if_pos h3] at hx ⊢
      exact .inr (.inr ⟨fun h => (by rw [h.2.1, h.2.2.1] at h3; cases h3), _, hx.symm, .alloc _ ha, hpid⟩)
    rw [if_neg h3] at hx ⊢
    have h3' : w.live = true ∧ canPublishS w.sess.data w.sess.rt q = true := by simpa using h3
    rcases World.enqueue_outcome fuel w "publish" pubErr true (if q = 2 then .pub2 else .pub1) (pubEnc w.sess.alloc.2 q r)
      (EncOk_encodePublish _ _) ha (by simpa using h2) x hx.symm
      with ⟨off, pkt, s', a1, a2, a3, a4⟩ | ⟨b1, s', b2, b3, b4⟩
    · exact .inl ⟨⟨h1', h3'.1, h3'.2, off, pkt, hE.trans a1, a2⟩, hq0, off, pkt, s', hE.trans a1, a3, a4⟩
    · exact .inr (.inr ⟨fun ⟨_, _, _, off, pkt, c1, c2⟩ => b1 ⟨off, pkt, hE.symm.trans c1, c2⟩, s',
        by rw [b2, hE]; rfl, b3, b4.trans hpid⟩)
  · have hq : q = 0 := by omega
    subst hq
    rw [if_neg hq0] at hx hE; rw [if_neg (c := 0 < 0 ∧ w.sess.data.outbound.retainedFull = true) (fun h => hq0 h.1)]
    have hpid : w.sess.data.packetId = if r.props.validFor .Publish = true ∧ 0 < 0
        then w.sess.alloc.1.data.packetId else w.sess.data.packetId := by rw [if_neg (fun h => hq0 h.2)]
    by_cases h3 : (w.live && canPublishS w.sess.data w.sess.rt 0) = false
    · rw [if_pos h3] at hx ⊢
      exact .inr (.inr ⟨fun h => (by rw [h.2.1, h.2.2.1] at h3; cases h3), _, hx.symm, .refl _ ha, hpid⟩)
    rw [if_neg h3] at hx ⊢
    have h3' : w.live = true ∧ canPublishS w.sess.data w.sess.rt 0 = true := by simpa using h3
    rcases World.encodeThen_outcome w (.refl _ ha) rfl "publish" pubErr (q0Enc r) (EncOk_encodePublish _ _) _ x hx.symm
      with ⟨off, pkt, a1, a2, a3, a4⟩ | ⟨b1, s', b2, b3, b4⟩
    · exact .inr (.inl ⟨⟨h1', h3'.1, h3'.2, off, pkt, hE.trans a1, a2⟩, rfl, off, pkt,
        (w.sess.encode (q0Enc r)).1, hE.trans a1, by rw [a3, a4],
        (Session.Untouched.refl _ ha).encode _ (EncOk_encodePublish _ _), by rw [Session.encode_fst]; rfl⟩)
    · exact .inr (.inr ⟨fun ⟨_, _, _, off, pkt, c1, c2⟩ => b1 ⟨off, pkt, hE.symm.trans c1, c2⟩, s',
        by rw [b2, hE]; rfl, b3, b4.trans hpid⟩)

/-- **PUBLISH, QoS 1 or 2: the request is retained as asked.** Let `publish` (after its first flush) accept
the request `r` with payload bytes `pl` and effective QoS `q > 0` (`PublishAccepted`: properties valid for
PUBLISH, connection live, `can_publish` — send quota left, a retained slot free, scratch space —, the
packet encodes into the scratch space of the arena, and is within the broker's Maximum Packet Size). Then
the operation goes on to its second flush with a session `s'` in which

 * the retained list is the old one (its entries moved by compaction) plus ONE entry `e` at the end,
   waiting for its first byte, with the next ghost serial;
 * `e.id` is the identifier `next_packet_id` returned: non-zero and not in use before (C07);
 * the bytes the arena holds for `e` are the encoder's packet `pkt`, and the reference parser reads them
   as exactly `PUBLISH dup=0 qos=q retain=r.retain topic=r.topic id=e.id properties=r.props payload=pl`
   with nothing left over (C09);
 * the send quota is one less;
 * everything else is as `Session.Enqueued` says (other retained packets keep identifier, bytes, state;
   control and release queues, generation, runtime unchanged), and both invariants still hold.

The handle the operation will report (`.post "publish" op`) is `pub2` for QoS 2 and `pub1` otherwise, with
identifier `e.id` and the current generation. -/
theorem C09_publish_request_is_retained (fuel : Nat) (w : World) (r : PubReq) (pl : Bytes)
    (hids : w.sess.data.IdInv) (ha : w.sess.data.outbound.ArenaInv)
    (hpl : r.payload = .bytes pl) (hqos : r.qos ≤ 2) (htopic : validUtf8 r.topic = true)
    (hlist : r.props.isEncoded = false) (hwf : ∀ p ∈ r.props.items, p.wf = true)
    (hq0 : 0 < effectiveQos w.sess.rt.maxQos w.sess.downgrade r.qos)
    (hacc : PublishAccepted w r) :
    let q := effectiveQos w.sess.rt.maxQos w.sess.downgrade r.qos
    ∃ (s' : Session) (e : RetainedPacket) (off : Nat) (pkt : Bytes),
      publishEncoding w r = .ok (off, pkt) ∧
      afterFlush (fuel + 1) w (.publishPre r) = flushLoop fuel { w with sess := s' } (.post "publish"
        { kind := if q = 2 then .pub2 else .pub1, id := e.id, generation := w.sess.data.generation }) ∧
      s'.data.outbound.retained = w.sess.data.outbound.compact.retained ++ [e] ∧
      e.id = w.sess.alloc.2 ∧ e.id ≠ 0 ∧ e.id ∉ w.sess.data.outbound.usedIds ∧
      e.state = .write 0 ∧ e.ser = w.sess.data.outbound.nextSer ∧ e.len = pkt.length ∧
      s'.data.outbound.retainedPacket e.offset e.len = pkt ∧
      Spec.parseClientPacket (s'.data.outbound.retainedPacket e.offset e.len) =
        some (.publish false q r.retain r.topic (some e.id) (r.props.items.map Property.toSpec) pl, []) ∧
      s'.rt.sendQuota + 1 = w.sess.rt.sendQuota ∧
      w.sess.Enqueued s' e.id pkt true ∧ s'.data.IdInv ∧ s'.data.outbound.ArenaInv := by
  intro q
  rcases C09_publish_outcome fuel w r ha with ⟨_, _, off, pkt, s', h1, h2, h3⟩ | ⟨_, hq, _⟩ | ⟨hn, _⟩
  · have hfree := retainedFull_of_can hq0 hacc.2.2.1
    obtain ⟨e, e1, e2, e3, e4, e5, e6, e7, e8, hI⟩ := h3.new_entry hids hfree.1
    have hE : publishEncoding w r = encodePublishWithOffset w.sess.data.outbound.scratchLen
        (pubHeader r q (some w.sess.alloc.2)) (.bytes pl) := by
      unfold publishEncoding; rw [hpl]; simp only [q, if_pos hq0]; rfl
    have hparse := C09_publish _ off (pubHeader r q (some w.sess.alloc.2)) pl pkt []
      (Nat.le_trans (effectiveQos_le _ _ _) hqos) rfl
      (by show 0 < w.sess.alloc.2 ∧ w.sess.alloc.2 < 65536 ∧ 0 < q; omega) htopic hlist hwf
      (Properties.validFor_items hlist hacc.1) (hE.symm.trans h1)
    rw [List.append_nil, ← e2] at hparse
    have : s'.rt.sendQuota = w.sess.rt.sendQuota - 1 := by rw [h3.quota]; rfl
    exact ⟨s', e, off, pkt, h1, by rw [e2]; exact h2, e1, e2, by omega, e4, e5, e6, e7, e8, by rw [e8]; exact hparse,
      by omega, by rw [e2]; exact h3, hI, h3.arena⟩
  · exact absurd hq (by omega)
  · exact absurd hacc hn

/-- **PUBLISH, QoS 0: what is handed to the transport is the request.** An accepted request with payload
bytes `pl` and effective QoS 0 is encoded in the scratch space and the operation continues with the
operation-local `write_all` of exactly the packet `pkt` (`doLocalWrite … 1 pkt`), which the reference parser
reads as `PUBLISH dup=0 qos=0 retain=r.retain topic=r.topic` without identifier, with the request's
properties and payload and nothing left over. Nothing is retained and no identifier is taken. -/
theorem C09_publish_qos0_request_is_written (fuel : Nat) (w : World) (r : PubReq) (pl : Bytes)
    (ha : w.sess.data.outbound.ArenaInv)
    (hpl : r.payload = .bytes pl) (htopic : validUtf8 r.topic = true)
    (hlist : r.props.isEncoded = false) (hwf : ∀ p ∈ r.props.items, p.wf = true)
    (hq : effectiveQos w.sess.rt.maxQos w.sess.downgrade r.qos = 0)
    (hacc : PublishAccepted w r) :
    ∃ (s' : Session) (off : Nat) (pkt : Bytes),
      publishEncoding w r = .ok (off, pkt) ∧
      afterFlush (fuel + 1) w (.publishPre r) = doLocalWrite fuel { w with sess := s' } 1 pkt ∧
      Spec.parseClientPacket pkt =
        some (.publish false 0 r.retain r.topic none (r.props.items.map Property.toSpec) pl, []) ∧
      w.sess.Untouched s' ∧ s'.data.packetId = w.sess.data.packetId := by
  rcases C09_publish_outcome fuel w r ha with ⟨_, hq0, _⟩ | ⟨_, _, off, pkt, s', h1, h2, h3, h4⟩ | ⟨hn, _⟩
  · exact absurd hq (by omega)
  · have hE : publishEncoding w r = encodePublishWithOffset w.sess.data.outbound.scratchLen
        (pubHeader r 0 none) (.bytes pl) := by
      unfold publishEncoding; rw [hpl]; simp only [hq, if_neg (show ¬ (0 < 0) from by omega)]; rfl
    have hparse := C09_publish _ off (pubHeader r 0 none) pl pkt [] (by show 0 ≤ 2; omega) rfl
      (by show (0 : Nat) = 0; rfl) htopic hlist hwf (Properties.validFor_items hlist hacc.1) (hE.symm.trans h1)
    rw [List.append_nil] at hparse
    exact ⟨s', off, pkt, h1, h2, hparse, h3, h4⟩
  · exact absurd hacc hn

/-- **SUBSCRIBE: exactly when it is accepted, and what happens otherwise.** Either the request is accepted
(`SubscribeAccepted`), retained (`Session.Enqueued`) and the operation goes on to its second flush; or the
operation ends with the error `subscribeRefusal w r` (`InflightExhausted` when no retained slot is free,
the encoder's error, or `PacketTooLarge`) and the session is untouched — except that the identifier counter
has advanced if, and only if, a retained slot was free (the allocation follows that check). -/
theorem C09_subscribe_outcome (fuel : Nat) (w : World) (r : SubReq) (ha : w.sess.data.outbound.ArenaInv) :
    (SubscribeAccepted w r ∧ ∃ off pkt s', subscribeEncoding w r = .ok (off, pkt) ∧
      afterFlush (fuel + 1) w (.subPre r) = flushLoop fuel { w with sess := s' } (.post "subscribe"
        { kind := .sub, id := w.sess.alloc.2, generation := w.sess.data.generation }) ∧
      w.sess.Enqueued s' w.sess.alloc.2 pkt false) ∨
    (¬ SubscribeAccepted w r ∧ ∃ s',
      afterFlush (fuel + 1) w (.subPre r) = ({ w with sess := s' }).finishErr "subscribe" (subscribeRefusal w r) ∧
      w.sess.Untouched s' ∧
      s'.data.packetId = if w.sess.data.outbound.retainedFull = true then w.sess.data.packetId
        else w.sess.alloc.1.data.packetId) :=
  World.slotTail_outcome fuel w "subscribe" Err.ofSer .sub _ (EncOk_encodeWithOffset _ _ _) ha _
    (afterFlush_subPre fuel w r)

/-- **SUBSCRIBE: the request is retained as asked.** Let `subscribe` (after its first flush) accept the
request `r` (`SubscribeAccepted`: a retained slot free, the packet encodes into the scratch space and is
within the broker's Maximum Packet Size); `r` has at least one topic filter and valid properties — the
checks of `subscribe` before its first flush. Then the operation goes on to its second flush with ONE new
entry `e` at the end of the retained list, whose identifier is the allocator's (non-zero, not in use) and
whose arena bytes the reference parser reads as exactly `SUBSCRIBE id=e.id` with the request's properties
and topic filters (topic, maximum QoS, no-local, retain-as-published, retain handling), nothing left over.
The runtime (send quota included) is unchanged. -/
theorem C09_subscribe_request_is_retained (fuel : Nat) (w : World) (r : SubReq)
    (hids : w.sess.data.IdInv) (ha : w.sess.data.outbound.ArenaInv)
    (hne : r.topics ≠ []) (hts : ∀ t ∈ r.topics, validUtf8 t.topic = true ∧ t.opts.wf = true)
    (hwf : ∀ p ∈ r.props, p.wf = true) (hvalid : (Properties.slice r.props).validFor .Subscribe = true)
    (hacc : SubscribeAccepted w r) :
    ∃ (s' : Session) (e : RetainedPacket) (off : Nat) (pkt : Bytes),
      subscribeEncoding w r = .ok (off, pkt) ∧
      afterFlush (fuel + 1) w (.subPre r) = flushLoop fuel { w with sess := s' } (.post "subscribe"
        { kind := .sub, id := e.id, generation := w.sess.data.generation }) ∧
      s'.data.outbound.retained = w.sess.data.outbound.compact.retained ++ [e] ∧
      e.id = w.sess.alloc.2 ∧ e.id ≠ 0 ∧ e.id ∉ w.sess.data.outbound.usedIds ∧
      e.state = .write 0 ∧ e.ser = w.sess.data.outbound.nextSer ∧ e.len = pkt.length ∧
      s'.data.outbound.retainedPacket e.offset e.len = pkt ∧
      Spec.parseClientPacket (s'.data.outbound.retainedPacket e.offset e.len) =
        some (.subscribe e.id (r.props.map Property.toSpec) (r.topics.map TopicFilter.toSpec), []) ∧
      s'.rt = w.sess.rt ∧
      w.sess.Enqueued s' e.id pkt false ∧ s'.data.IdInv ∧ s'.data.outbound.ArenaInv := by
  rcases C09_subscribe_outcome fuel w r ha with ⟨_, off, pkt, s', h1, h2, h3⟩ | ⟨hn, _⟩
  · obtain ⟨e, e1, e2, e3, e4, e5, e6, e7, e8, hI⟩ := h3.new_entry hids hacc.1
    have hparse := C09_subscribe _ off e.id r.props r.topics pkt [] e3 hne hts hwf
      (Properties.validFor_items (ps := .slice r.props) rfl hvalid) (by rw [e2]; exact h1)
    rw [List.append_nil] at hparse
    exact ⟨s', e, off, pkt, h1, by rw [e2]; exact h2, e1, e2, by omega, e4, e5, e6, e7, e8, by rw [e8]; exact hparse,
      h3.quota, by rw [e2]; exact h3, hI, h3.arena⟩
  · exact absurd hacc hn

/-- **UNSUBSCRIBE: exactly when it is accepted, and what happens otherwise** (as `C09_subscribe_outcome`). -/
theorem C09_unsubscribe_outcome (fuel : Nat) (w : World) (r : UnsubReq) (ha : w.sess.data.outbound.ArenaInv) :
    (UnsubscribeAccepted w r ∧ ∃ off pkt s', unsubscribeEncoding w r = .ok (off, pkt) ∧
      afterFlush (fuel + 1) w (.unsubPre r) = flushLoop fuel { w with sess := s' } (.post "unsubscribe"
        { kind := .unsub, id := w.sess.alloc.2, generation := w.sess.data.generation }) ∧
      w.sess.Enqueued s' w.sess.alloc.2 pkt false) ∨
    (¬ UnsubscribeAccepted w r ∧ ∃ s',
      afterFlush (fuel + 1) w (.unsubPre r) = ({ w with sess := s' }).finishErr "unsubscribe" (unsubscribeRefusal w r) ∧
      w.sess.Untouched s' ∧
      s'.data.packetId = if w.sess.data.outbound.retainedFull = true then w.sess.data.packetId
        else w.sess.alloc.1.data.packetId) :=
  World.slotTail_outcome fuel w "unsubscribe" Err.ofSer .unsub _ (EncOk_encodeWithOffset _ _ _) ha _
    (afterFlush_unsubPre fuel w r)

/-- **UNSUBSCRIBE: the request is retained as asked.** As `C09_subscribe_request_is_retained`: the arena
bytes of the ONE new retained entry are read by the reference parser as exactly `UNSUBSCRIBE id=e.id` with
the request's properties and topic filters, nothing left over; the identifier is the allocator's. -/
theorem C09_unsubscribe_request_is_retained (fuel : Nat) (w : World) (r : UnsubReq)
    (hids : w.sess.data.IdInv) (ha : w.sess.data.outbound.ArenaInv)
    (hne : r.topics ≠ []) (hts : ∀ t ∈ r.topics, validUtf8 t = true)
    (hwf : ∀ p ∈ r.props, p.wf = true) (hvalid : (Properties.slice r.props).validFor .Unsubscribe = true)
    (hacc : UnsubscribeAccepted w r) :
    ∃ (s' : Session) (e : RetainedPacket) (off : Nat) (pkt : Bytes),
      unsubscribeEncoding w r = .ok (off, pkt) ∧
      afterFlush (fuel + 1) w (.unsubPre r) = flushLoop fuel { w with sess := s' } (.post "unsubscribe"
        { kind := .unsub, id := e.id, generation := w.sess.data.generation }) ∧
      s'.data.outbound.retained = w.sess.data.outbound.compact.retained ++ [e] ∧
      e.id = w.sess.alloc.2 ∧ e.id ≠ 0 ∧ e.id ∉ w.sess.data.outbound.usedIds ∧
      e.state = .write 0 ∧ e.ser = w.sess.data.outbound.nextSer ∧ e.len = pkt.length ∧
      s'.data.outbound.retainedPacket e.offset e.len = pkt ∧
      Spec.parseClientPacket (s'.data.outbound.retainedPacket e.offset e.len) =
        some (.unsubscribe e.id (r.props.map Property.toSpec) r.topics, []) ∧
      s'.rt = w.sess.rt ∧
      w.sess.Enqueued s' e.id pkt false ∧ s'.data.IdInv ∧ s'.data.outbound.ArenaInv := by
  rcases C09_unsubscribe_outcome fuel w r ha with ⟨_, off, pkt, s', h1, h2, h3⟩ | ⟨hn, _⟩
  · obtain ⟨e, e1, e2, e3, e4, e5, e6, e7, e8, hI⟩ := h3.new_entry hids hacc.1
    have hparse := C09_unsubscribe _ off e.id r.props r.topics pkt [] e3 hne hts hwf
      (Properties.validFor_items (ps := .slice r.props) rfl hvalid) (by rw [e2]; exact h1)
    rw [List.append_nil] at hparse
    exact ⟨s', e, off, pkt, h1, by rw [e2]; exact h2, e1, e2, by omega, e4, e5, e6, e7, e8, by rw [e8]; exact hparse,
      h3.quota, by rw [e2]; exact h3, hI, h3.arena⟩
  · exact absurd hacc hn

/-- **A failed request leaves nothing behind.** Every exit of `afterFlush` for the three request
continuations is of one of three kinds:

 1. an error exit: the result is `finishErr name e` of a world that differs from `w` in the session only,
    and that session is `Untouched` — runtime (send quota, deadlines), reader, control queue, release
    queue, generation are the same; the retained list has the same entries (identifier, length, send
    state, serial) with the same packet bytes (`Keeps`; `encode` may have compacted the arena and written
    into the scratch space behind them); the identifier counter is where it was or where
    `next_packet_id` left it (exactly when: `C09_publish_outcome`, `C09_subscribe_outcome`,
    `C09_unsubscribe_outcome`). Transports (`nets`), transmission log, handles and connection state are
    those of `w` (`C09_refused_world`);
 2. the request was retained (one entry more) and the operation goes on to its second flush;
 3. (QoS 0 publish) the packet goes to the operation-local `write_all`, session untouched. -/
theorem C09_failed_request_leaves_nothing (fuel : Nat) (w : World) (k : AfterFlush)
    (ha : w.sess.data.outbound.ArenaInv) (hk : k.isRequest = true) :
    (∃ s' e, afterFlush (fuel + 1) w k = ({ w with sess := s' }).finishErr (afterFlushName k) e ∧
      w.sess.Untouched s' ∧
      (s'.data.packetId = w.sess.data.packetId ∨ s'.data.packetId = w.sess.alloc.1.data.packetId)) ∨
    (∃ s' op pkt isPub, afterFlush (fuel + 1) w k = flushLoop fuel { w with sess := s' } (.post (afterFlushName k) op) ∧
      w.sess.Enqueued s' op.id pkt isPub) ∨
    (∃ s' pkt, afterFlush (fuel + 1) w k = doLocalWrite fuel { w with sess := s' } 1 pkt ∧
      w.sess.Untouched s' ∧ s'.data.packetId = w.sess.data.packetId) := by
  cases k with
  | publishPre r =>
    rcases C09_publish_outcome fuel w r ha with ⟨_, _, off, pkt, s', _, h2, h3⟩ | ⟨_, _, off, pkt, s', _, h2, h3, h4⟩ |
      ⟨_, s', h2, h3, h4⟩
    · exact .inr (.inl ⟨s', _, pkt, true, h2, h3⟩)
    · exact .inr (.inr ⟨s', pkt, h2, h3, h4⟩)
    · refine .inl ⟨s', _, h2, h3, ?_⟩
      split at h4
      · exact .inr h4
      · exact .inl h4
  | subPre r =>
    rcases C09_subscribe_outcome fuel w r ha with ⟨_, off, pkt, s', _, h2, h3⟩ | ⟨_, s', h2, h3, h4⟩
    · exact .inr (.inl ⟨s', _, pkt, false, h2, h3⟩)
    · refine .inl ⟨s', _, h2, h3, ?_⟩
      split at h4
      · exact .inl h4
      · exact .inr h4
  | unsubPre r =>
    rcases C09_unsubscribe_outcome fuel w r ha with ⟨_, off, pkt, s', _, h2, h3⟩ | ⟨_, s', h2, h3, h4⟩
    · exact .inr (.inl ⟨s', _, pkt, false, h2, h3⟩)
    · refine .inl ⟨s', _, h2, h3, ?_⟩
      split at h4
      · exact .inl h4
      · exact .inr h4
  | discPre d => cases hk
  | post n op => cases hk

/-- What an error exit `({ w with sess := s' }).finishErr name e` is, field by field: the operation is
finished with `Err(e)`; session `s'`; transports, transmission log, handles, connection state, clock and
torn marks are those of `w` (only the trace has one more line). -/
theorem C09_refused_world (w : World) (s' : Session) (name : String) (e : Err) :
    let w' := ({ w with sess := s' } : World).finishErr name e
    w'.sess = s' ∧ w'.nets = w.nets ∧ w'.log = w.log ∧ w'.handles = w.handles ∧ w'.conn = w.conn ∧
    w'.now = w.now ∧ w'.tornNets = w.tornNets ∧ w'.fut = none ∧ w'.lastRes = some (.error e) :=
  ⟨rfl, rfl, rfl, rfl, rfl, rfl, rfl, rfl, rfl⟩

/-- From the first flush of a request on a handle with nothing to send to the `write` of its packet: the flush
finds nothing to do, `afterFlush` retains the request (`hret`) and flushes again, and this second flush picks
exactly the new entry — it is at the transport's `write` with the whole packet, none of it written. The fuel
3996 is the one the statements below name: what is left of `pollFuel` = 4000 at that call; any fuel from
`fuelBound` = 354 on gives the same world (`run_ev`). -/
theorem request_reaches_write (w : World) (k k' : AfterFlush) {s' : Session} {pkt : Bytes} {isPub : Bool}
    {e : RetainedPacket} (hret : ev (.AF w k) = ev (.FL { w with sess := s' } k'))
    (hE : w.sess.Enqueued s' e.id pkt isPub) (ha : w.sess.data.outbound.ArenaInv)
    (hlive : w.live = true) (hka : ∀ np, w.sess.rt.nextPing = some np → w.now < np)
    (hnext : w.sess.data.outbound.nextStep = none)
    (he : s'.data.outbound.retained = w.sess.data.outbound.compact.retained ++ [e]) (hst : e.state = .write 0)
    (hlen : e.len = pkt.length) (hpkt : s'.data.outbound.retainedPacket e.offset e.len = pkt)
    (hsz : w.sess.rt.packetTooLarge pkt.length = false) :
    flushLoop pollFuel w k = doStepWrite 3996 { w with sess := s' } (.flush k') (.retained e.id) pkt 0 pkt.length w.now := by
  have hsz' : s'.rt.packetTooLarge e.len = false := by rw [hE.packetTooLarge, hlen]; exact hsz
  rw [show flushLoop pollFuel w k = ev (.FL w k) from run_pollFuel (.FL w k), ev_FL_idle (queuePing_idle _ _ hka), hnext]
  dsimp only
  rw [hret, ev_FL_idle (w := { w with sess := s' }) (queuePing_idle s' w.now fun np h => hka np (hE.nextPing ▸ h)),
    show ({ w with sess := s' } : World).sess.data.outbound.nextStep = _ from nextStep_after_enqueue hE ha hnext e he hst]
  dsimp only
  rw [ev_PS]
  simp only [prepareStep_retained_write, hsz', show ({ w with sess := s' } : World).live = true from hlive]
  rw [hpkt, hlen]
  exact (run_ev (.DSW _ _ _ _ _ _ _) 3996 (by decide)).symm

/-- **From `publish(…)` to the transport's `write`.** On a live handle with no suspended operation, no
keep-alive probe due and nothing queued to send (every queue entry `Sent`), the directive `.publish r`
with an accepted QoS 1/2 request runs through the first flush (nothing to do), retains the request as in
`C09_publish_request_is_retained`, and its second flush picks exactly the new entry: the call is now at
the `write` of the transport (`doStepWrite`) with the packet `pkt` — the bytes the reference parser reads
as the PUBLISH that was asked for — none of it written yet. -/
theorem C09_publish_call_reaches_write (w : World) (r : PubReq) (pl : Bytes)
    (hids : w.sess.data.IdInv) (ha : w.sess.data.outbound.ArenaInv)
    (hlive : w.live = true) (hfut : w.fut = none)
    (hka : ∀ np, w.sess.rt.nextPing = some np → w.now < np)
    (hnext : w.sess.data.outbound.nextStep = none)
    (hpl : r.payload = .bytes pl) (hqos : r.qos ≤ 2) (htopic : validUtf8 r.topic = true)
    (hlist : r.props.isEncoded = false) (hwf : ∀ p ∈ r.props.items, p.wf = true)
    (hq0 : 0 < effectiveQos w.sess.rt.maxQos w.sess.downgrade r.qos)
    (hacc : PublishAccepted w r) :
    let q := effectiveQos w.sess.rt.maxQos w.sess.downgrade r.qos
    ∃ (s' : Session) (e : RetainedPacket) (pkt : Bytes),
      w.execDirective (.publish r) =
        doStepWrite 3996 { w with sess := s', wakes := 0, lastIoStarved := false }
          (.flush (.post "publish" { kind := if q = 2 then .pub2 else .pub1, id := e.id,
                                     generation := w.sess.data.generation }))
          (.retained e.id) pkt 0 pkt.length w.now ∧
      s'.data.outbound.retained = w.sess.data.outbound.compact.retained ++ [e] ∧
      e.id = w.sess.alloc.2 ∧ e.id ≠ 0 ∧ e.id ∉ w.sess.data.outbound.usedIds ∧
      s'.data.outbound.retainedPacket e.offset e.len = pkt ∧
      Spec.parseClientPacket pkt =
        some (.publish false q r.retain r.topic (some e.id) (r.props.items.map Property.toSpec) pl, []) := by
  intro q
  obtain ⟨s', e, off, pkt, g1, g2, g3, g4, g5, g6, g7, _, glen, g9, g10, _, g12, _, _⟩ :=
    C09_publish_request_is_retained Fuel.fuelBound { w with wakes := 0, lastIoStarved := false } r pl hids ha hpl hqos htopic
      hlist hwf hq0 hacc
  refine ⟨s', e, pkt, ?_, g3, g4, g5, g6, g9, by rw [← g9]; exact g10⟩
  have hl : ({ w with wakes := 0, lastIoStarved := false } : World).live = true := hlive
  rw [World.execDirective, startOp_ready w _ _ (World.conn_of_live hlive) hfut]
  simp only [hl, Bool.not_true, Bool.false_eq_true, if_false]
  exact request_reaches_write { w with wakes := 0, lastIoStarved := false } _ _ ((ev_succ (.AF _ _)).trans g2) g12 ha hlive hka
    hnext g3 g7 glen g9 (accepted_size hacc.2.2.2 g1)

/-- **From `subscribe(…)` to the transport's `write`** (as `C09_publish_call_reaches_write`): on an idle live
handle the directive `.subscribe r`, with the checks before its first flush passed and the request accepted,
is at the `write` of the transport with exactly the SUBSCRIBE packet that was asked for. -/
theorem C09_subscribe_call_reaches_write (w : World) (r : SubReq)
    (hids : w.sess.data.IdInv) (ha : w.sess.data.outbound.ArenaInv)
    (hlive : w.live = true) (hfut : w.fut = none)
    (hka : ∀ np, w.sess.rt.nextPing = some np → w.now < np)
    (hnext : w.sess.data.outbound.nextStep = none)
    (hne : r.topics ≠ []) (hts : ∀ t ∈ r.topics, validUtf8 t.topic = true ∧ t.opts.wf = true)
    (hwf : ∀ p ∈ r.props, p.wf = true) (hvalid : (Properties.slice r.props).validFor .Subscribe = true)
    (hacc : SubscribeAccepted w r) :
    ∃ (s' : Session) (e : RetainedPacket) (pkt : Bytes),
      w.execDirective (.subscribe r) =
        doStepWrite 3996 { w with sess := s', wakes := 0, lastIoStarved := false }
          (.flush (.post "subscribe" { kind := .sub, id := e.id, generation := w.sess.data.generation }))
          (.retained e.id) pkt 0 pkt.length w.now ∧
      s'.data.outbound.retained = w.sess.data.outbound.compact.retained ++ [e] ∧
      e.id = w.sess.alloc.2 ∧ e.id ≠ 0 ∧ e.id ∉ w.sess.data.outbound.usedIds ∧
      s'.data.outbound.retainedPacket e.offset e.len = pkt ∧
      Spec.parseClientPacket pkt =
        some (.subscribe e.id (r.props.map Property.toSpec) (r.topics.map TopicFilter.toSpec), []) := by
  obtain ⟨s', e, off, pkt, g1, g2, g3, g4, g5, g6, g7, _, glen, g9, g10, _, g12, _, _⟩ :=
    C09_subscribe_request_is_retained Fuel.fuelBound { w with wakes := 0, lastIoStarved := false } r hids ha hne hts hwf hvalid hacc
  refine ⟨s', e, pkt, ?_, g3, g4, g5, g6, g9, by rw [← g9]; exact g10⟩
  have hl : ({ w with wakes := 0, lastIoStarved := false } : World).live = true := hlive
  rw [World.execDirective, startOp_ready w _ _ (World.conn_of_live hlive) hfut]
  simp only [hl, List.isEmpty_eq_false_iff.mpr hne, hvalid, Bool.not_true, Bool.false_eq_true, if_false]
  exact request_reaches_write { w with wakes := 0, lastIoStarved := false } _ _ ((ev_succ (.AF _ _)).trans g2) g12 ha hlive hka
    hnext g3 g7 glen g9 (accepted_size hacc.2 g1)

/-- **From `unsubscribe(…)` to the transport's `write`** (as `C09_subscribe_call_reaches_write`). -/
theorem C09_unsubscribe_call_reaches_write (w : World) (r : UnsubReq)
    (hids : w.sess.data.IdInv) (ha : w.sess.data.outbound.ArenaInv)
    (hlive : w.live = true) (hfut : w.fut = none)
    (hka : ∀ np, w.sess.rt.nextPing = some np → w.now < np)
    (hnext : w.sess.data.outbound.nextStep = none)
    (hne : r.topics ≠ []) (hts : ∀ t ∈ r.topics, validUtf8 t = true)
    (hwf : ∀ p ∈ r.props, p.wf = true) (hvalid : (Properties.slice r.props).validFor .Unsubscribe = true)
    (hacc : UnsubscribeAccepted w r) :
    ∃ (s' : Session) (e : RetainedPacket) (pkt : Bytes),
      w.execDirective (.unsubscribe r) =
        doStepWrite 3996 { w with sess := s', wakes := 0, lastIoStarved := false }
          (.flush (.post "unsubscribe" { kind := .unsub, id := e.id, generation := w.sess.data.generation }))
          (.retained e.id) pkt 0 pkt.length w.now ∧
      s'.data.outbound.retained = w.sess.data.outbound.compact.retained ++ [e] ∧
      e.id = w.sess.alloc.2 ∧ e.id ≠ 0 ∧ e.id ∉ w.sess.data.outbound.usedIds ∧
      s'.data.outbound.retainedPacket e.offset e.len = pkt ∧
      Spec.parseClientPacket pkt = some (.unsubscribe e.id (r.props.map Property.toSpec) r.topics, []) := by
  obtain ⟨s', e, off, pkt, g1, g2, g3, g4, g5, g6, g7, _, glen, g9, g10, _, g12, _, _⟩ :=
    C09_unsubscribe_request_is_retained Fuel.fuelBound { w with wakes := 0, lastIoStarved := false } r hids ha hne hts hwf hvalid hacc
  refine ⟨s', e, pkt, ?_, g3, g4, g5, g6, g9, by rw [← g9]; exact g10⟩
  have hl : ({ w with wakes := 0, lastIoStarved := false } : World).live = true := hlive
  rw [World.execDirective, startOp_ready w _ _ (World.conn_of_live hlive) hfut]
  simp only [hl, List.isEmpty_eq_false_iff.mpr hne, hvalid, Bool.not_true, Bool.false_eq_true, if_false]
  exact request_reaches_write { w with wakes := 0, lastIoStarved := false } _ _ ((ev_succ (.AF _ _)).trans g2) g12 ha hlive hka
    hnext g3 g7 glen g9 (accepted_size hacc.2 g1)

/-- A QoS 2 publish with the retain flag, correlation data, a user property and two payload bytes. -/
def C09R_req : PubReq :=
  { qos := 2, retain := true, topic := [0x61, 0x2f, 0x62], payload := .bytes [0xAA, 0xBB],
    props := .withCorrelation (corrProp [1, 2]) [{ kind := .UserProperty, val := .p [0x6b] [0x76] }] }

/-- The packet of `C09R_req` with identifier `id`. -/
def C09R_pkt (id : Nat) : Bytes :=
  [0x35, 22, 0, 3, 0x61, 0x2f, 0x62, 0, UInt8.ofNat id, 12, 9, 0, 2, 1, 2, 38, 0, 1, 0x6b, 0, 1, 0x76, 0xAA, 0xBB]

/-- Both invariants assumed by the theorems above hold in every world produced by a program. -/
theorem C09R_ids (cfg : Cfg) (ds : List Directive) :
    (ds.foldl World.execDirective { sess := Session.new cfg }).sess.data.IdInv ∧
    (ds.foldl World.execDirective { sess := Session.new cfg }).sess.data.outbound.ArenaInv :=
  ⟨C07_all_programs cfg ds, (C17_all_programs_from { sess := Session.new cfg } ds (C17_init cfg)).1.1⟩

/-- A SUBSCRIBE with one filter (maximum QoS 1, no-local, retain handling 2) on `C16Q_w`: accepted
with identifier 4; the hypotheses of `C09_subscribe_request_is_retained` hold. -/
def C09R_sub : SubReq :=
  { topics := [{ topic := [0x61], opts := { maxQos := 1, noLocal := true, rap := false, rh := 2 } }], props := [] }

/-- What this file asks of `C16Q_w`, in one evaluation: for `C09R_req` (acceptance; identifier, generation and
queue), for its QoS 0 variant, for `C09R_sub`. -/
theorem C09R_w_facts :
    (C09R_req.props.validFor .Publish = true ∧ C16Q_w.live = true ∧
      canPublishS C16Q_w.sess.data C16Q_w.sess.rt
        (effectiveQos C16Q_w.sess.rt.maxQos C16Q_w.sess.downgrade C09R_req.qos) = true ∧
      (publishEncoding C16Q_w C09R_req).toOption = some (3, C09R_pkt 4) ∧
      C16Q_w.sess.rt.packetTooLarge (C09R_pkt 4).length = false ∧
      0 < effectiveQos C16Q_w.sess.rt.maxQos C16Q_w.sess.downgrade C09R_req.qos ∧
      C16Q_w.sess.data.outbound.retained.map (fun e => (e.id, e.offset, e.len)) = [(2, 0, 9), (3, 12, 9)] ∧
      C16Q_w.sess.data.outbound.compact.retained.map (fun e => (e.id, e.offset, e.len)) = [(2, 0, 9), (3, 9, 9)]) ∧
    (C16Q_w.sess.alloc.2 = 4 ∧ C16Q_w.sess.data.generation = 1 ∧
      effectiveQos C16Q_w.sess.rt.maxQos C16Q_w.sess.downgrade C09R_req.qos = 2 ∧
      C16Q_w.sess.data.outbound.compact.retained.map (fun e => (e.id, e.len, e.state)) =
        [(2, 9, .sent), (3, 9, .write 3)]) ∧
    (({ C09R_req with qos := 0 } : PubReq).props.validFor .Publish = true ∧
      C16Q_w.live = true ∧
      canPublishS C16Q_w.sess.data C16Q_w.sess.rt (effectiveQos C16Q_w.sess.rt.maxQos C16Q_w.sess.downgrade 0) = true ∧
      (publishEncoding C16Q_w { C09R_req with qos := 0 }).toOption =
        some (3, [0x31, 20, 0, 3, 0x61, 0x2f, 0x62, 12, 9, 0, 2, 1, 2, 38, 0, 1, 0x6b, 0, 1, 0x76, 0xAA, 0xBB]) ∧
      C16Q_w.sess.rt.packetTooLarge
        [0x31, 20, 0, 3, 0x61, 0x2f, 0x62, 12, 9, 0, 2, 1, 2, 38, 0, 1, 0x6b, 0, 1, 0x76, 0xAA, 0xBB].length = false ∧
      effectiveQos C16Q_w.sess.rt.maxQos C16Q_w.sess.downgrade 0 = 0) ∧
    C16Q_w.sess.data.outbound.retainedFull = false ∧
    (subscribeEncoding C16Q_w C09R_sub).toOption = some (3, [0x82, 7, 0, 4, 0, 0, 1, 0x61, 0x25]) ∧
    C16Q_w.sess.rt.packetTooLarge [0x82, 7, 0, 4, 0, 0, 1, 0x61, 0x25].length = false ∧
    C09R_sub.topics ≠ [] ∧ (∀ t ∈ C09R_sub.topics, validUtf8 t.topic = true ∧ t.opts.wf = true) ∧
    (Properties.slice C09R_sub.props).validFor .Subscribe = true := by
  decide +kernel

/-- The first world of `Theorems/C16Quiesce.lean` (retained: identifier 2 `Sent` at offset 0 and identifier 3
with 3 of 9 bytes written at offset 12 — there is a gap of three bytes, so compaction moves the second
entry; release queue: identifier 1) accepts `C09R_req`: the allocator returns 4 and the packet is encoded
at offset 3 of the scratch space. -/
theorem C09R_accepted : PublishAccepted C16Q_w C09R_req ∧
    0 < effectiveQos C16Q_w.sess.rt.maxQos C16Q_w.sess.downgrade C09R_req.qos ∧
    publishEncoding C16Q_w C09R_req = .ok (3, C09R_pkt 4) ∧
    C16Q_w.sess.data.outbound.retained.map (fun e => (e.id, e.offset, e.len)) = [(2, 0, 9), (3, 12, 9)] ∧
    C16Q_w.sess.data.outbound.compact.retained.map (fun e => (e.id, e.offset, e.len)) = [(2, 0, 9), (3, 9, 9)] := by
  obtain ⟨⟨h1, h2, h3, h4, h5, h6, h7, h8⟩, _⟩ := C09R_w_facts
  have henc := Except.eq_ok_of_toOption h4
  exact ⟨⟨h1, h2, h3, 3, C09R_pkt 4, henc, h5⟩, h6, henc, h7, h8⟩

/-- `C09_publish_request_is_retained` applies to `C16Q_w` and `C09R_req`, and its conclusion is: identifier 4, the entry
behind the two compacted ones, the arena bytes parse as the PUBLISH asked for. -/
example : ∃ (s' : Session) (e : RetainedPacket),
    afterFlush 10 C16Q_w (.publishPre C09R_req) = flushLoop 9 { C16Q_w with sess := s' }
      (.post "publish" { kind := .pub2, id := 4, generation := 1 }) ∧
    s'.data.outbound.retained.map (fun e => (e.id, e.len, e.state)) =
      [(2, 9, .sent), (3, 9, .write 3), (4, 24, .write 0)] ∧
    Spec.parseClientPacket (s'.data.outbound.retainedPacket e.offset e.len) =
      some (.publish false 2 true [0x61, 0x2f, 0x62] (some 4)
        [⟨0x09, .bin [1, 2]⟩, ⟨0x26, .pair [0x6b] [0x76]⟩] [0xAA, 0xBB], []) ∧
    s'.rt.sendQuota + 1 = C16Q_w.sess.rt.sendQuota := by
  obtain ⟨hacc, hq0, henc, _, hcomp⟩ := C09R_accepted
  obtain ⟨hids, ha⟩ : C16Q_w.sess.data.IdInv ∧ C16Q_w.sess.data.outbound.ArenaInv := by
    unfold C16Q_w; exact C09R_ids _ _
  obtain ⟨s', e, off, pkt, g1, g2, g3, g4, _, _, g7, _, glen, g9, g10, g11, _⟩ :=
    C09_publish_request_is_retained 9 C16Q_w C09R_req [0xAA, 0xBB] hids ha rfl (by decide +kernel) (by decide +kernel) rfl
      (by decide +kernel) hq0 hacc
  have hpkt : pkt = C09R_pkt 4 := by
    rw [henc] at g1; simp only [Except.ok.injEq, Prod.mk.injEq] at g1; exact g1.2.symm
  obtain ⟨_, ⟨hal, hgen, hq, hold⟩, _⟩ := C09R_w_facts
  have hid : e.id = 4 := g4.trans hal
  refine ⟨s', e, ?_, ?_, ?_, g11⟩
  · rw [g2, hid, hgen, hq]; rfl
  · rw [g3, List.map_append, hold, List.map_cons, List.map_nil, hid, glen, g7, hpkt]
    rfl
  · rw [g10, hid, hq]; rfl

/-- A refusal behind the allocation. The broker granted Receive Maximum 1 and one QoS 1 publish is
unacknowledged: the send quota is 0, so `can_publish` fails. The request is not accepted, the error is
`NotReady`, and `next_packet_id` has already run: the counter goes from 2 to 3. -/
def C09R_quota : World :=
  [.connect, .rx [0x20, 0x06, 0x00, 0x00, 0x03, 0x21, 0x00, 0x01], .go, C16Q_pub 1 0x75 0x71, .go].foldl
    World.execDirective { sess := Session.new C16Q_cfg }

theorem C09R_quota_facts :
    canPublishS C09R_quota.sess.data C09R_quota.sess.rt
      (effectiveQos C09R_quota.sess.rt.maxQos C09R_quota.sess.downgrade C09R_req.qos) ≠ true ∧
    (publishRefusal C09R_quota C09R_req = .notReady ∧ C09R_quota.sess.rt.sendQuota = 0 ∧
      C09R_quota.sess.data.packetId = 2 ∧ C09R_quota.sess.alloc.1.data.packetId = 3) ∧
    C09R_req.props.validFor .Publish = true ∧
    0 < effectiveQos C09R_quota.sess.rt.maxQos C09R_quota.sess.downgrade C09R_req.qos := by
  decide +kernel

example : ¬ PublishAccepted C09R_quota C09R_req ∧ publishRefusal C09R_quota C09R_req = .notReady ∧
    C09R_quota.sess.rt.sendQuota = 0 ∧
    C09R_quota.sess.data.packetId = 2 ∧ C09R_quota.sess.alloc.1.data.packetId = 3 := by
  obtain ⟨h1, h, _⟩ := C09R_quota_facts
  exact ⟨fun hacc => h1 hacc.2.2.1, h⟩

/-- What `C09_publish_outcome` says about `C09R_quota`: the error exit, session untouched (send quota,
queues, the retained packet), counter at 3. -/
example : ∃ s', afterFlush 10 C09R_quota (.publishPre C09R_req) =
      ({ C09R_quota with sess := s' }).finishErr "publish" .notReady ∧
    C09R_quota.sess.Untouched s' ∧ s'.data.packetId = 3 := by
  have ha : C09R_quota.sess.data.outbound.ArenaInv := by unfold C09R_quota; exact (C09R_ids _ _).2
  obtain ⟨hcan, ⟨he, _, _, hp⟩, hv, hq⟩ := C09R_quota_facts
  have hn : ¬ PublishAccepted C09R_quota C09R_req := fun h => hcan h.2.2.1
  rcases C09_publish_outcome 9 C09R_quota C09R_req ha with ⟨h, _⟩ | ⟨h, _⟩ | ⟨_, s', h1, h2, h3⟩
  · exact absurd h hn
  · exact absurd h hn
  · exact ⟨s', by rw [h1, he], h2, by rw [h3, if_pos ⟨hv, hq⟩, hp]⟩

/-- QoS 0 on `C16Q_w`: accepted, encoded without identifier. -/
example : PublishAccepted C16Q_w { C09R_req with qos := 0 } ∧
    effectiveQos C16Q_w.sess.rt.maxQos C16Q_w.sess.downgrade 0 = 0 ∧
    publishEncoding C16Q_w { C09R_req with qos := 0 } =
      .ok (3, [0x31, 20, 0, 3, 0x61, 0x2f, 0x62, 12, 9, 0, 2, 1, 2, 38, 0, 1, 0x6b, 0, 1, 0x76, 0xAA, 0xBB]) := by
  obtain ⟨_, _, ⟨h1, h2, h3, h4, h5, h6⟩, _⟩ := C09R_w_facts
  have henc := Except.eq_ok_of_toOption h4
  exact ⟨⟨h1, h2, h3, _, _, henc, h5⟩, h6, henc⟩

example : SubscribeAccepted C16Q_w C09R_sub ∧
    subscribeEncoding C16Q_w C09R_sub = .ok (3, [0x82, 7, 0, 4, 0, 0, 1, 0x61, 0x25]) ∧
    C09R_sub.topics ≠ [] ∧ (∀ t ∈ C09R_sub.topics, validUtf8 t.topic = true ∧ t.opts.wf = true) ∧
    (Properties.slice C09R_sub.props).validFor .Subscribe = true := by
  obtain ⟨_, _, _, h1, h2, h3, h4, h5, h6⟩ := C09R_w_facts
  have henc := Except.eq_ok_of_toOption h2
  exact ⟨⟨h1, _, _, henc, h3⟩, henc, h4, h5, h6⟩

/-- An idle live handle: connected, one QoS 1 publish sent and not yet acknowledged (its entry is `Sent`),
no operation suspended, no keep-alive (interval 0). -/
def C09R_idle : World :=
  [.connect, .rx [0x20, 0x03, 0x00, 0x00, 0x00], .go, C16Q_pub 1 0x75 0x71, .go].foldl World.execDirective
    { sess := Session.new C16Q_cfg }

theorem C09R_idle_facts :
    (C09R_idle.sess.rt.nextPing = none ∧
      C09R_idle.fut.isNone = true ∧ C09R_idle.live = true ∧ C09R_idle.sess.data.outbound.nextStep = none ∧
      C09R_req.props.validFor .Publish = true ∧
      canPublishS C09R_idle.sess.data C09R_idle.sess.rt
        (effectiveQos C09R_idle.sess.rt.maxQos C09R_idle.sess.downgrade C09R_req.qos) = true ∧
      (publishEncoding C09R_idle C09R_req).toOption = some (3, C09R_pkt 2) ∧
      C09R_idle.sess.rt.packetTooLarge (C09R_pkt 2).length = false ∧
      0 < effectiveQos C09R_idle.sess.rt.maxQos C09R_idle.sess.downgrade C09R_req.qos) ∧
    (match (C09R_idle.execDirective (.publish C09R_req)).fut with
      | some (.stepWrite _ (.retained id) bytes written len _) => some (id, bytes, written, len)
      | _ => none) = some (2, C09R_pkt 2, 0, 24) := by
  decide +kernel

/-- `C09R_idle` meets the hypotheses of `C09_publish_call_reaches_write` for `C09R_req`. -/
theorem C09R_idle_hyps : C09R_idle.live = true ∧ C09R_idle.fut = none ∧
    (∀ np, C09R_idle.sess.rt.nextPing = some np → C09R_idle.now < np) ∧
    C09R_idle.sess.data.outbound.nextStep = none ∧ PublishAccepted C09R_idle C09R_req ∧
    0 < effectiveQos C09R_idle.sess.rt.maxQos C09R_idle.sess.downgrade C09R_req.qos := by
  obtain ⟨⟨hnp, hfut, hlive, hnext, h1, h3, h4, h5, h6⟩, _⟩ := C09R_idle_facts
  refine ⟨hlive, ?_, (fun np h => by rw [hnp] at h; cases h), hnext,
    ⟨h1, hlive, h3, _, _, Except.eq_ok_of_toOption h4, h5⟩, h6⟩
  cases h : C09R_idle.fut with
  | none => rfl
  | some pc => rw [h] at hfut; cases hfut

/-- Run directly, the call is suspended at the transport's `write` (no I/O decision is
available) holding the whole packet with identifier 2, nothing written. -/
example : (match (C09R_idle.execDirective (.publish C09R_req)).fut with
    | some (.stepWrite _ (.retained id) bytes written len _) => some (id, bytes, written, len)
    | _ => none) = some (2, C09R_pkt 2, 0, 24) := by
  obtain ⟨_, h⟩ := C09R_idle_facts
  exact h

end Minimq