import Minimq.Proofs.Packets
import Minimq.Theorems.C11
import Minimq.Proofs.QueueWalk
import Minimq.Theorems.C17
/-
C01 — the outbound byte stream is always whole, well-formed MQTT 5 packets.

What is proved here, for all inputs:
 * the encoders of PUBLISH, of PUBACK, PUBREC, PUBREL, PUBCOMP and of PINGREQ produce a packet that the
   independent MQTT 5 reference (`Spec.parseClientPacket`) accepts and that ends exactly where the
   reference says it ends (corollaries of the C09 round trips, which cover the other packet types) —
   legal type and flags, exact remaining length, valid strings, properties legal for the packet type,
   non-zero identifiers;
 * the scheduler (`Outbound.nextStep`) never starts a new packet while another one is partially
   written: if any entry of the three queues is in progress, the step it returns is an in-progress
   entry, and what is then written is the rest of that packet (`SendState.write written`);
 * nothing follows a DISCONNECT: once `disconnect()` has completed the handle is dead, and a dead
   handle never touches the transport again (C11).
The statement about the wire of every transport, for every program — whole packets, then at most the
written part of the one entry in progress, across cancellations — is `Theorems/C01Wire.lean`; its
exception, a dropped local write of CONNECT, QoS 0 PUBLISH or DISCONNECT, is where finding F2b lives.
-/
namespace Minimq
open Gen Outbound World

/-- A byte string is one complete well-formed client packet: the reference accepts it in front of
any continuation and consumes exactly it. -/
def WellFormedPacket (pkt : Bytes) : Prop :=
  ∀ rest, ∃ p, Spec.parseClientPacket (pkt ++ rest) = some (p, rest)

theorem C01_publish_wellformed (cap off : Nat) (h : PublishHeader) (payload pkt : Bytes)
    (hq : h.qos ≤ 2) (hdup : h.dup = false)
    (hid : match h.packetId with
      | some i => 0 < i ∧ i < 65536 ∧ 0 < h.qos
      | none => h.qos = 0)
    (htopic : validUtf8 h.topic = true)
    (henc : h.props.isEncoded = false)
    (hwf : ∀ p ∈ h.props.items, p.wf = true)
    (hlegal : ∀ p ∈ h.props.items, Spec.allowedIn .publish p.kind.id = true ∧
        Spec.legalValue p.kind.id p.toSpec.val.num = true)
    (he : encodePublishWithOffset cap h (.bytes payload) = .ok (off, pkt)) : WellFormedPacket pkt :=
  fun rest => ⟨_, publish_roundtrip cap off h payload pkt rest hq hdup hid htopic henc hwf hlegal he⟩

theorem C01_control_wellformed (typ flags id rc cap off : Nat) (pkt : Bytes)
    (htyp : typ = 4 ∨ typ = 5 ∨ typ = 6 ∨ typ = 7) (hflags : flags = if typ = 6 then 2 else 0)
    (hid : 0 < id ∧ id < 65536) (hrc : rc < 256)
    (he : encodeWithOffset cap (ackChunks id rc) typ flags = .ok (off, pkt)) : WellFormedPacket pkt :=
  fun rest => ⟨_, ack_roundtrip cap off typ flags id rc pkt rest htyp hflags hid hrc he⟩

theorem C01_pingreq_wellformed (cap off : Nat) (pkt : Bytes)
    (he : encodeWithOffset cap [] MT_PingReq FLAGS_PingReq = .ok (off, pkt)) : WellFormedPacket pkt :=
  fun rest => ⟨_, pingreq_roundtrip cap off pkt rest he⟩

/-- **Everything kept for (re)transmission is a whole packet.** In every reachable state, every
packet in the transmit arena — what `perform_outbound_step` writes for a retained entry, on first
transmission and on every replay — is one complete framed packet: header byte, canonical remaining
length, exactly that many bytes (the DUP bit set by replay does not change that). -/
theorem C01_arena_holds_whole_packets (cfg : Cfg) (ds : List Directive) :
    ∀ bs ∈ (ds.foldl World.execDirective { sess := Session.new cfg }).sess.data.outbound.contents, Framed bs :=
  (run_inv closed_FramedP ds { sess := Session.new cfg }
    ⟨C17_init cfg, fun _ hbs => nomatch hbs⟩).2

/-- Whatever `encode_packet` returns, for any chunks, type and flags, is a whole framed packet inside the space it
was given. (The owed acknowledgements, PINGREQ and PUBREL are encoded by it afresh, into a 9-byte buffer, each
time they are written.) -/
theorem C01_control_packets_framed :
    (∀ cs typ flags, EncOk (fun cap _ => encodeWithOffset cap cs typ flags)) :=
  EncOk_encodeWithOffset

/-- **No packet is started in the middle of another one.** If some entry is partially written (or
written and not yet flushed), the next step continues an in-progress entry — never a fresh one. -/
theorem C01_in_progress_first (o : Outbound)
    (h : (o.control.any fun e => e.state.isInProgress) = true ∨ (o.release.any fun e => e.state.isInProgress) = true ∨
         (o.retained.any fun e => e.state.isInProgress) = true) :
    ∃ s, o.nextStep = some s ∧ s.state.isInProgress = true := by
  -- the first pass of `next_step` (priority `true`: `matchesPriority` is `isInProgress`) finds something
  cases hs : o.nextStepPrio true with
  | some s => exact ⟨s, by rw [nextStep, hs], nextStepPrio_matches o true s hs⟩
  | none =>
    obtain ⟨hc, hr, ht⟩ := nextStepPrio_none hs
    rcases h with h | h | h <;> obtain ⟨x, hx, hp⟩ := List.any_eq_true.1 h
    · exact absurd ((hc x hx).symm.trans hp) Bool.false_ne_true
    · exact absurd ((hr x hx).symm.trans hp) Bool.false_ne_true
    · exact absurd ((ht x hx).symm.trans hp) Bool.false_ne_true

/-- The step that continues a partially written retained packet offers exactly the unwritten rest of
it: `prepareStep` hands `written` back to the write loop, which writes `bytes.drop written`. (Control and
release entries are not covered by this statement.) -/
theorem C01_step_resumes_where_it_stopped (w : World) (id off len written : Nat)
    (h : w.sess.rt.packetTooLarge len = false) :
    prepareStep w (.retained id off len (.write written)) =
      .write (.retained id) (w.sess.data.outbound.retainedPacket off len) written len := by
  simp [prepareStep_retained_write, h]

/-- **Nothing follows a DISCONNECT.** When the flush of DISCONNECT completes (`hk`: a flush succeeds under every
decision from 1 to 251) the handle is dead. -/
theorem C01_after_disconnect_dead (fuel : Nat) (w : World) (k : Nat) (hs : w.slot = some k) (hk : 1 ≤ k ∧ k ≤ 251) :
    (doLocalFlush (fuel + 1) w 2).live = false :=
  C11_disconnect_done_is_dead fuel w k hs hk

/-- A dead handle never touches a transport again, whatever is called. -/
theorem C01_dead_handle_writes_nothing (w : World) (d : Directive) (h : w.dead)
    (hd : match d with
      | .publish _ | .subscribe _ | .unsubscribe _ | .disconnect _ | .poll | .recv | .drive
      | .d _ | .go | .tick _ | .cancel => True
      | _ => False) :
    (w.execDirective d).nets = w.nets :=
  (C11_dead_stays_dead w d h hd).2.1

end Minimq
