import Minimq.Proofs.Lift
import Minimq.Proofs.ArenaClosed
/-
C17 — transmit arena: retained packets stay intact and capacity is fully recovered.

The arena is modelled concretely (`Out.lean`): one buffer of `capacity` bytes, retained entries with
offset and length, `compact` sliding entries down, encoders writing behind `used`. Every packet that
is (re)transmitted from the arena is `slice buf offset len` of its entry (`World.prepareStep`), so
"the bytes of an unacknowledged packet" are `Outbound.contents`.

Entries carry a ghost serial number (assigned by `retainPacket`, never printed, not in the code) so
that a theorem can speak of the same packet at two points of an execution even when its identifier
has been reused in between.
-/
namespace Minimq
open Gen Outbound World

/-- **Compaction is correct.** Every retained packet keeps its bytes, identifier, length, send state;
afterwards `used` is exactly the sum of the lengths — nothing else occupies arena space. -/
theorem C17_compact (o : Outbound) (h : o.ArenaInv) :
    (o.compact).ArenaInv ∧ (o.compact).contents = o.contents ∧ (o.compact).meta = o.meta ∧
    (o.compact).used = (o.retained.map (·.len)).sum ∧ (o.compact).buf.length = o.buf.length ∧
    (o.compact).release = o.release ∧ (o.compact).control = o.control ∧ (o.compact).nextSer = o.nextSer :=
  compact_spec o h

/-- **Acknowledgements in any order.** `ack_packet` removes exactly the first entry with that
identifier whose packet is of the acknowledged kind; all other packets keep their bytes. -/
theorem C17_ack (o : Outbound) (id : Nat) (k : AckKind) (h : o.ArenaInv) :
    let p := fun (e : RetainedPacket) => e.id == id && k.acknowledges (o.headerAt e.offset)
    (o.ackPacket id k).1.ArenaInv ∧
    ((o.ackPacket id k).2 = true →
      (o.ackPacket id k).1.contents = contents o.buf (removeFirst p o.retained) ∧
      (o.ackPacket id k).1.meta = (removeFirst p o.retained).map (fun e => (e.id, e.len, e.state, e.ser))) ∧
    ((o.ackPacket id k).2 = false → (o.ackPacket id k).1 = o) ∧ (o.ackPacket id k).1.nextSer = o.nextSer ∧
    (o.ackPacket id k).1.buf.length = o.buf.length :=
  ackPacket_spec o id k h

/-- **Later publishes, QoS 0 and CONNECT traffic.** Everything that is encoded into the arena goes
through `encodeAt` (compact, then write behind `used`); whatever the encoder writes inside the scratch
space it was given (`EncOk`, proved for the three encoders below), the retained packets keep their
bytes, and the new packet lies behind all of them. -/
theorem C17_encode {ε : Type} (o : Outbound) (enc : Nat → (Nat → Nat → Bytes) → Except ε (Nat × Bytes))
    (h : o.ArenaInv) (he : EncOk enc) :
    (o.encodeAt enc).1.ArenaInv ∧ (o.encodeAt enc).1.contents = o.contents ∧
    (o.encodeAt enc).1.meta = o.meta ∧ (o.encodeAt enc).1.used = (o.retained.map (·.len)).sum ∧
    (o.encodeAt enc).1.buf.length = o.buf.length ∧
    (o.encodeAt enc).1.release = o.release ∧ (o.encodeAt enc).1.control = o.control ∧
    (o.encodeAt enc).1.nextSer = o.nextSer ∧
    (∀ off len, (o.encodeAt enc).2 = .ok (off, len) →
      (o.encodeAt enc).1.used ≤ off ∧ off + len ≤ o.buf.length ∧ 0 < len) :=
  encodeAt_spec o enc h he

theorem C17_encoders_stay_in_scratch :
    (∀ cs typ flags, EncOk (fun cap _ => encodeWithOffset cap cs typ flags)) ∧
    (∀ c, EncOk (fun cap _ => encodeConnect cap c)) ∧
    (∀ h payload, EncOk (fun cap fill => encodePublishWithOffset cap h payload fill)) :=
  ⟨EncOk_encodeWithOffset, EncOk_encodeConnect, EncOk_encodePublish⟩

/-- **Replay.** `arm_replay` changes, inside the retained packets, only bit 3 of the first byte. (The second
disjunct is a case of the first: with nothing retained both `contents` are empty.) -/
theorem C17_replay (o : Outbound) (h : o.ArenaInv) :
    (o.armReplay).ArenaInv ∧
    ((o.armReplay).contents = o.contents.map setDup ∨ ((o.armReplay) = o ∧ o.retained = [])) ∧
    (o.armReplay).retained.map (fun e => (e.id, e.len, e.ser)) = o.retained.map (fun e => (e.id, e.len, e.ser)) ∧
    (o.armReplay).used = o.used ∧ (o.armReplay).buf.length = o.buf.length ∧ (o.armReplay).nextSer = o.nextSer :=
  armReplay_spec o h

theorem C17_init (cfg : Cfg) :
    (Session.new cfg).data.outbound.ArenaInv ∧ (Session.new cfg).data.outbound.SerInv :=
  arena_init cfg

/-- **All programs, from any state.** Take any world whose arena is laid out sanely and run any
sequence of API calls, I/O decisions, inbound bytes, ticks, cancellations, drops and reconnects. The
arena is still laid out sanely, its size has not changed, and no retained packet was altered: every
packet that existed at the start and is still retained has the same serial, identifier and bytes (up
to the DUP bit), in the same order. -/
theorem C17_all_programs_from (w : World) (ds : List Directive)
    (h : w.sess.data.outbound.ArenaInv ∧ w.sess.data.outbound.SerInv) :
    let o := (ds.foldl World.execDirective w).sess.data.outbound
    (o.ArenaInv ∧ o.SerInv) ∧ Keeps w.sess.data.outbound o ∧ o.buf.length = w.sess.data.outbound.buf.length :=
  run_inv (closed_ArenaP w.sess.data.outbound) ds w ⟨h, Keeps.refl _, rfl⟩

/-- **Between any two points of any execution** of a new session: at both the arena is laid out sanely, and from
the earlier to the later no retained packet was altered (`Keeps`). -/
theorem C17_between_two_points (cfg : Cfg) (ds1 ds2 : List Directive) :
    let a := (ds1.foldl World.execDirective { sess := Session.new cfg }).sess.data.outbound
    let b := ((ds1 ++ ds2).foldl World.execDirective { sess := Session.new cfg }).sess.data.outbound
    (a.ArenaInv ∧ a.SerInv) ∧ (b.ArenaInv ∧ b.SerInv) ∧ Keeps a b ∧ b.buf.length = cfg.tx := by
  intro a b
  have h1 := C17_all_programs_from { sess := Session.new cfg } ds1 (C17_init cfg)
  have h2 := C17_all_programs_from (ds1.foldl World.execDirective { sess := Session.new cfg }) ds2 h1.1
  simp only [] at h1 h2
  rw [← List.foldl_append] at h2
  refine ⟨h1.1, h2.1, h2.2.1, ?_⟩
  rw [h2.2.2, h1.2.2]
  simp [Session.new, Outbound.new]

/-- What `Keeps` means for one packet: a packet of `b` that already existed at `a` is *the* packet of
`a` with that serial — same identifier, same bytes up to the DUP bit. -/
theorem C17_same_packet_same_bytes {a b : Outbound} (hk : Keeps a b) (ha : a.SerInv)
    (ser id id' : Nat) (bytes bytes' : Bytes) (hold : ser < a.nextSer)
    (hb : ((ser, id), bytes) ∈ b.tagged) (ha' : ((ser, id'), bytes') ∈ a.tagged) : id = id' ∧ bytes = bytes' := by
  have hin : ((ser, id), bytes) ∈ a.tagged := by
    apply hk.2.subset
    rw [List.mem_filter]
    exact ⟨hb, by simpa using hold⟩
  simp only [Outbound.tagged, List.mem_map, Prod.mk.injEq] at hin ha'
  obtain ⟨x, hx, ⟨hxs, hxi⟩, hxb⟩ := hin
  obtain ⟨y, hy, ⟨hys, hyi⟩, hyb⟩ := ha'
  have hxy : x = y := ser_inj ha hx hy (by rw [hxs, hys])
  subst hxy
  exact ⟨by rw [← hxi, ← hyi], by rw [← hxb, ← hyb]⟩

/-- **Capacity is fully recovered.** Whatever happened before, once nothing is retained the next
request gets the whole arena, exactly like in a new one: the same scratch space, the same free slots,
and the same result from any encoder that does not read the scratch space (all encoders except a
payload that claims bytes it did not write). -/
theorem C17_capacity_recovered {ε : Type} (o : Outbound) (h : o.ArenaInv) (hq : o.retained = [])
    (enc : Nat → (Nat → Nat → Bytes) → Except ε (Nat × Bytes)) (hv : ∀ cap v1 v2, enc cap v1 = enc cap v2) :
    o.scratchLen = o.capacity ∧ o.canRetain = (Outbound.new o.capacity).canRetain ∧
    (o.encodeAt enc).2 = ((Outbound.new o.capacity).encodeAt enc).2 ∧ (o.encodeAt enc).1.used = 0 := by
  -- An arena without retained packets is all scratch space: `compact` only resets `used`, and what the
  -- encoder returns depends on the capacity alone.
  have hs : ∀ a : Outbound, a.retained = [] → a.scratchLen = a.capacity := by
    intro a ha; simp [scratchLen, usedAfterCompact, ha]
  -- `0 + p.1`: the offset `usedAfterCompact + off` of `encodeAt_eq` once `usedAfterCompact` is rewritten to 0
  have he : ∀ a : Outbound, a.ArenaInv → a.retained = [] →
      (a.encodeAt enc).2 = (enc a.capacity fun _ _ => []).map (fun p => (0 + p.1, p.2.length)) ∧
      (a.encodeAt enc).1.used = 0 := by
    intro a hi ha
    have hu : a.usedAfterCompact = 0 := by simp [usedAfterCompact, ha]
    rw [encodeAt_eq a enc hi, hs a ha, hv _ _ fun _ _ => [], hu]
    rcases enc a.capacity (fun _ _ => []) with e | ⟨off, pkt⟩ <;> exact ⟨rfl, (compact_used a hi).1.trans hu⟩
  have hcap : (Outbound.new o.capacity).capacity = o.capacity := List.length_replicate
  refine ⟨hs o hq, ?_, ?_, (he o h hq).2⟩
  · unfold canRetain
    rw [hs o hq, hs _ rfl, hcap, hq]; rfl
  · rw [(he o h hq).1, (he _ (ArenaInv_new _) rfl).1, hcap]

/-- Non-vacuity: an arena with a hole between two retained packets satisfies the invariant, and
compaction closes the hole. -/
example :
    let o : Outbound := { (Outbound.new 16) with
      buf := [0x32, 1, 2, 3, 0, 0, 0x82, 5, 6, 0, 0, 0, 0, 0, 0, 0], used := 9, nextSer := 2,
      retained := [{ id := 1, offset := 0, len := 4, state := .sent, ser := 0 },
                   { id := 2, offset := 6, len := 3, state := .write 0, ser := 1 }] }
    o.ArenaInv ∧ o.SerInv ∧ o.compact.used = 7 ∧ o.compact.contents = [[0x32, 1, 2, 3], [0x82, 5, 6]] := by
  exact ⟨⟨by simp [Sorted], by decide, by decide, by decide⟩, ⟨by decide, by decide⟩, by decide, by decide⟩

end Minimq
