import Minimq.Proofs.Packets
import Minimq.Proofs.ArenaClosed
import Minimq.Proofs.ConnectStart
import Minimq.Proofs.Lift
/-
C12 — the session can always be reconnected, whatever happened before.

What is proved here is the part of the property that concerns the state `connect()` starts from and
the first thing it does, for *every* prior state of the session (so: whatever happened on earlier
connections): `Session.beginConnect` (the three resets at the top of `Session::connect`),
`World.startConnect` (`connect` up to its first await) and `doLocalWrite … 0 …` (the `write_all` of
the CONNECT). `World.connectStart` is the world after the resets, with the new transport opened.
That the handshake then *completes* against a broker whose CONNACK the client accepts, over a healthy
transport, is `Theorems/C12Machine.lean` (bounded liveness); what an accepted CONNACK leaves behind is C05.

Finding kept explicit (room): CONNECT is encoded into the scratch space of the transmit arena, i.e.
into `capacity − Σ len(retained packets)` bytes. When the retained packets leave less than
`5 + |CONNECT body|` bytes, `connect()` fails with `BufferTooSmall` before anything is written
(`C12_connect_fits_iff`, `C12_finding_retained_packets_block_connect`) — and it will fail again on
every retry, because only an acknowledgement (which needs a connection) or a session-absent CONNACK
can free the space.
-/
namespace Minimq
open Gen World Outbound

/-- **No partial packet is carried over, in or out.** From any state whatsoever the resets at the top
of `connect` leave: an empty packet reader (no bytes, no announced length); the connection marked as
not resumed; both keep-alive deadlines cleared; and no entry of any of the three outbound queues in
the middle of a write or waiting for a flush. The size of the receive buffer, the client identifier
and `sessionPresent` are as before. -/
theorem C12_resets_from_any_state (s : Session) :
    s.beginConnect.reader.data = [] ∧ s.beginConnect.reader.packetLength = none ∧
    s.beginConnect.reader.packetAvailable = false ∧ s.beginConnect.reader.cap = s.reader.cap ∧
    s.beginConnect.rt.sessionResumed = false ∧ s.beginConnect.rt.nextPing = none ∧ s.beginConnect.rt.pingTimeout = none ∧
    (∀ e ∈ s.beginConnect.data.outbound.control, e.state.isInProgress = false) ∧
    (∀ e ∈ s.beginConnect.data.outbound.release, e.state.isInProgress = false) ∧
    (∀ e ∈ s.beginConnect.data.outbound.retained, e.state.isInProgress = false) ∧
    s.beginConnect.clientId = s.clientId ∧ s.beginConnect.data.sessionPresent = s.data.sessionPresent := by
  have h := beginConnect_allFresh s
  exact ⟨rfl, rfl, rfl, rfl, rfl, rfl, rfl,
    fun e he => fresh_not_inProgress _ (h.control e he), fun e he => fresh_not_inProgress _ (h.release e he),
    fun e he => fresh_not_inProgress _ (h.retained e he), rfl, rfl⟩

/-- Non-vacuity: a session that was cut off in the middle of everything — half a packet in the
reader, a ping timeout running, a PUBACK half written, a PUBREL waiting for its flush. -/
example :
    let s0 := Session.new { rx := 64, tx := 64, keepaliveS := 60, expiry := 0, downgrade := false, clientId := [], auth := none, will := none }
    let o : Outbound := { s0.data.outbound with control := [{ action := { typ := MT_PubAck, id := 3, rc := 0 }, state := .write 2 }], release := [{ id := 9, rc := 0, state := .flush }] }
    let s : Session := { s0 with reader := { s0.reader with data := [b 0x30, b 9, b 0], packetLength := some 11 }, rt := { s0.rt with sessionResumed := true, pingTimeout := some 5, nextPing := some 7 }, data := { s0.data with outbound := o } }
    s.beginConnect.reader.data = [] ∧ s.beginConnect.rt.pingTimeout = none ∧
    s.beginConnect.data.outbound.control.map (·.state) = [.write 0] ∧ s.beginConnect.data.outbound.release.map (·.state) = [.write 0] := by
  decide +kernel

/-- **A new transport.** `connect` drops the old handle and any suspended operation, opens a new
transport whose wire and inbound queue are empty, and leaves every older transport as it is. -/
theorem C12_new_transport (w : World) :
    w.connectStart.sess = w.sess.beginConnect ∧ w.connectStart.nets = w.nets ++ [({ } : Net)] ∧
    w.connectStart.curNet.wire = [] ∧ w.connectStart.curNet.rx = [] ∧
    w.connectStart.fut = none ∧ w.connectStart.conn = none ∧ w.connectStart.now = w.now :=
  connectStart_spec w

/-- **The first thing offered to the new transport is the complete CONNECT.** Let `c` be the CONNECT
built from the session after the resets and `room` the scratch space of the arena. If the encoder
fails for `room` bytes, `connect` fails with that error and the new transport stays untouched;
otherwise `connect` proceeds to `write_all` on the new transport with exactly the packet the encoder
produced (it is read back from the arena unaltered). -/
theorem C12_connect_starts_with_CONNECT (w : World) (hinv : w.sess.data.outbound.ArenaInv) :
    let s1 := w.sess.beginConnect
    let c := s1.connectPacket
    let room := w.sess.data.outbound.scratchLen
    let w2 : World := { w.connectStart with sess := (s1.encode (connEnc c)).1 }
    (∀ e, encodeConnect room c = .error e →
      w.startConnect = w2.finishErr "connect" (Err.ofSer e) ∧ w.startConnect.nets = w.nets ++ [({ } : Net)]) ∧
    (∀ off pkt, encodeConnect room c = .ok (off, pkt) → w.startConnect = doLocalWrite pollFuel w2 0 pkt ∧ 0 < pkt.length) := by
  intro s1 c room w2
  obtain ⟨h1, h2⟩ := startConnect_spec w hinv
  refine ⟨?_, h2⟩
  intro e he
  refine ⟨h1 e he, ?_⟩
  rw [h1 e he]
  exact (connectStart_spec w).2.1

/-- **The packet the encoder produces is the CONNECT described by `connectPacket`.** The MQTT 5 reference parser
decodes it as a CONNECT with the session's clean-start flag, keep-alive, properties, client identifier, will
and credentials (given what the configuration layer guarantees: keep-alive below 2¹⁶ s, a receive
buffer of 1 … 2³²−1 bytes, a 32-bit expiry, UTF-8 strings, a will with QoS ≤ 2 and legal properties). -/
theorem C12_CONNECT_parses (s : Session) (cap off : Nat) (pkt rest : Bytes)
    (hka : s.rt.configuredKeepaliveMs / 1000 < 65536) (hcid : validUtf8 s.clientId = true)
    (hrx : 0 < s.reader.cap ∧ s.reader.cap < 4294967296) (hexp : s.expiry < 4294967296)
    (hwill : ∀ w, s.will = some w → w.qos ≤ 2 ∧ validUtf8 w.topic = true ∧ (∀ p ∈ w.props, p.wf = true) ∧
        (∀ p ∈ w.props, Spec.allowedIn .will p.kind.id = true ∧ Spec.legalValue p.kind.id p.toSpec.val.num = true))
    (hauth : ∀ a, s.auth = some a → validUtf8 a.user = true)
    (he : encodeConnect cap s.connectPacket = .ok (off, pkt)) :
    Spec.parseClientPacket (pkt ++ rest) =
      some (.connect (!s.data.sessionPresent) (s.rt.configuredKeepaliveMs / 1000)
              ((connectProps s.reader.cap s.expiry).map Property.toSpec) s.clientId (s.will.map Will.toSpec)
              (s.auth.map (·.user)) (s.auth.map (·.pass)), rest) := by
  obtain ⟨hwf, hlegal⟩ := connectProps_ok s.reader.cap s.expiry hrx.1 hrx.2 hexp
  exact connect_roundtrip cap off s.connectPacket (connectProps s.reader.cap s.expiry) pkt rest hka hcid rfl hwf hlegal hwill hauth he

/-- Non-vacuity of `C12_CONNECT_parses`: the CONNECT of a new session with a 64-byte receive buffer,
as the reference parser sees it. -/
example :
    let s := (Session.new { rx := 64, tx := 32, keepaliveS := 60, expiry := 0, downgrade := false, clientId := [], auth := none, will := none }).beginConnect
    (match encodeConnect 32 s.connectPacket with
     | .ok (_, pkt) => Spec.parseClientPacket pkt
     | _ => none) =
      some (.connect true 60 [⟨0x27, .four 64⟩, ⟨0x11, .four 0⟩, ⟨0x21, .two 8⟩] [] none none none, []) := by
  decide +kernel

/-- **Writing CONNECT (`write_all` of the handshake)**, from any world, so also at every resumption of the
write (`POLL` of a `connWrite` await point). Whatever the transport does, the wire of the current transport
grows by a prefix of the bytes handed in and no other transport is touched. The operation is then either
suspended in the write with exactly the remaining bytes, or it has ended, or every byte is on the wire and it
is suspended in the flush or in the read of the CONNACK. -/
theorem C12_write_all_progress (fuel : Nat) (w : World) (bytes : Bytes) (hn : w.nets ≠ []) (hf : w.fut = none) :
    ∃ k, k ≤ bytes.length ∧
      (doLocalWrite fuel w 0 bytes).nets.length = w.nets.length ∧
      (doLocalWrite fuel w 0 bytes).nets.dropLast = w.nets.dropLast ∧
      (doLocalWrite fuel w 0 bytes).curNet.wire = w.curNet.wire ++ bytes.take k ∧
      (((doLocalWrite fuel w 0 bytes).fut = some (.connWrite (bytes.drop k)) ∧ k < bytes.length) ∨
       (doLocalWrite fuel w 0 bytes).fut = none ∨
       (k = bytes.length ∧ ((doLocalWrite fuel w 0 bytes).fut = some .connFlush ∨
          (doLocalWrite fuel w 0 bytes).fut = some .connRead))) := by
  obtain ⟨k, hk, ⟨h1, h2, h3⟩, h4⟩ : ConnDone w bytes ((Fuel.Call.DLW w 0 bytes).run fuel) :=
    Fuel.run_ind (Pre := ConnCall w bytes) (fun _ _ st => conn_step hn st) (fun c h => by
      cases c <;> first | exact h.elim | skip
      · obtain ⟨_, hf, k, hk, _, hw⟩ := h; exact ⟨k, hk, hw, .inr (.inl hf)⟩
      · exact .whole h.2.2 (.inl h.2.1)
      · exact .whole h.2 (.inl h.1)) fuel _ ⟨rfl, hf, 0, Nat.zero_le _, rfl, rfl, rfl, (List.append_nil _).symm⟩
  exact ⟨k, hk, h1, h2, h3, h4⟩

/-- **On the new transport only a prefix of that CONNECT ever appears, and the rest is what remains to
be written.** When `connect` returns to its caller for the first time, the wire of the new transport
holds the first `k` bytes of the CONNECT and nothing else, every older transport is as it was, and
either the operation is suspended in the write holding exactly the remaining bytes, or it has ended,
or the whole CONNECT is on the wire and the operation waits in the flush or for the CONNACK. -/
theorem C12_wire_is_prefix_of_CONNECT (w : World) (hinv : w.sess.data.outbound.ArenaInv) (off : Nat) (pkt : Bytes)
    (he : encodeConnect w.sess.data.outbound.scratchLen w.sess.beginConnect.connectPacket = .ok (off, pkt)) :
    ∃ k, k ≤ pkt.length ∧ w.startConnect.nets.length = w.nets.length + 1 ∧ w.startConnect.nets.dropLast = w.nets ∧
      w.startConnect.curNet.wire = pkt.take k ∧
      ((w.startConnect.fut = some (.connWrite (pkt.drop k)) ∧ k < pkt.length) ∨ w.startConnect.fut = none ∨
       (k = pkt.length ∧ (w.startConnect.fut = some .connFlush ∨ w.startConnect.fut = some .connRead))) := by
  obtain ⟨hs, _⟩ := (startConnect_spec w hinv).2 off pkt he
  obtain ⟨c1, c2, c3, _, c5, _, _⟩ := connectStart_spec w
  rw [hs]
  have hn : ({ w.connectStart with sess := (w.sess.beginConnect.encode (connEnc w.sess.beginConnect.connectPacket)).1 } : World).nets ≠ [] := by
    show w.connectStart.nets ≠ []
    rw [c2]; simp
  obtain ⟨k, hk, d1, d2, d3, d4⟩ := C12_write_all_progress pollFuel _ pkt hn c5
  refine ⟨k, hk, ?_, ?_, ?_, d4⟩
  · rw [d1]; show w.connectStart.nets.length = _; rw [c2]; simp
  · rw [d2]; show w.connectStart.nets.dropLast = _; rw [c2]; simp
  · rw [d3]; show w.connectStart.curNet.wire ++ _ = _; rw [c3]; simp

/-- **When CONNECT fits.** With `body` the CONNECT's variable header and payload (every field can be
produced, and it is a legal remaining length): the encoder succeeds iff `5 + |body|` bytes of room
are available, where the room is the arena capacity minus the lengths of the retained packets;
otherwise it fails with `InsufficientMemory`, which `connect` reports as `BufferTooSmall`. -/
theorem C12_connect_fits_iff (o : Outbound) (c : Connect) (body : Bytes) (hb : catChunks c.chunks = .ok body)
    (hmax : body.length ≤ MQTT_VARINT_MAX) :
    o.scratchLen = o.buf.length - (o.retained.map (·.len)).sum ∧
    ((∃ r, encodeConnect o.scratchLen c = .ok r) ↔ MAX_FIXED_HEADER_SIZE + body.length ≤ o.scratchLen) ∧
    (¬ MAX_FIXED_HEADER_SIZE + body.length ≤ o.scratchLen → encodeConnect o.scratchLen c = .error .insufficientMemory) ∧
    Err.ofSer .insufficientMemory = .bufferTooSmall ∧
    (o.retained = [] → MAX_FIXED_HEADER_SIZE + body.length ≤ o.buf.length → ∃ r, encodeConnect o.scratchLen c = .ok r) := by
  obtain ⟨h1, h2⟩ := encodeWithOffset_ok_iff (cap := o.scratchLen) (typ := MT_Connect) (flags := FLAGS_Connect) hb hmax
  refine ⟨rfl, h1, h2, rfl, ?_⟩
  intro hr hfit
  apply h1.2
  unfold scratchLen usedAfterCompact capacity
  rw [hr]; simpa using hfit

/-- Finding (room), concretely: a 32-byte arena is enough for this session's CONNECT (31 bytes of
room needed) when nothing is retained; with one 4-byte packet retained the same `connect` fails with
`BufferTooSmall`, before anything is written. -/
theorem C12_finding_retained_packets_block_connect :
    let s0 := Session.new { rx := 64, tx := 32, keepaliveS := 60, expiry := 0, downgrade := false, clientId := [], auth := none, will := none }
    let o : Outbound := { s0.data.outbound with retained := [{ id := 1, offset := 0, len := 4, state := .sent, ser := 0 }], used := 4, nextSer := 1 }
    let s : Session := { s0 with data := { s0.data with outbound := o } }
    (match encodeConnect s0.beginConnect.data.outbound.scratchLen s0.beginConnect.connectPacket with | .ok (_, pkt) => pkt.length == 28 | _ => false) = true ∧
    s.beginConnect.data.outbound.scratchLen = 28 ∧
    (match encodeConnect s.beginConnect.data.outbound.scratchLen s.beginConnect.connectPacket with | .error .insufficientMemory => true | _ => false) = true := by
  decide +kernel

/-- **`connect` alters no retained packet.** Up to its first await, every packet retained afterwards
that was already retained before (serial below the old counter) is one of the old packets, with the
same serial, identifier and bytes up to the DUP bit, and these are in the old order (`Keeps`); the
arena keeps its size and its layout invariant. `Keeps` is a sublist statement: that no packet is
dropped is not part of it. -/
theorem C12_retained_packets_kept (w : World)
    (h : w.sess.data.outbound.ArenaInv ∧ w.sess.data.outbound.SerInv) :
    let o := w.startConnect.sess.data.outbound
    (o.ArenaInv ∧ o.SerInv) ∧ Keeps w.sess.data.outbound o ∧ o.buf.length = w.sess.data.outbound.buf.length :=
  startConnect_inv (closed_ArenaP w.sess.data.outbound) w ⟨h, Keeps.refl _, rfl⟩

end Minimq
