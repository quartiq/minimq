import Minimq.Proofs.Quota
/-
C06 — the broker's Receive Maximum is never exceeded.

The client keeps `send_quota` (how many more QoS 1/2 PUBLISH it may start) and `max_send_quota`
(= min(Receive Maximum of the CONNACK, MAX_RETAINED, MAX_PENDING_RELEASE)). The number of exchanges
still unresolved is `inflightPublishes` = retained PUBLISH packets + release (PUBREL) entries; every
publish that has been transmitted and not resolved is one of these.

Known finding F5c (see known_findings.json): a resumed connection whose CONNACK announces a Receive
Maximum below the number of publishes that must be replayed replays all of them and forgets the
deficit (saturating subtraction). The model records this event in the ghost flag `Runtime.deficit`
(set by `activate` exactly when `quota < inflight`, cleared by the next CONNACK that leaves room),
and the window theorem is stated for executions whose last CONNACK did not set it
(`C06_window_partial`). The negation for the other case is witnessed below.
-/
namespace Minimq
open Gen Outbound World

theorem C06_init (cfg : Cfg) : QuotaP (Session.new cfg) := QuotaP_init cfg

/-- **All programs.** After any sequence of API calls, I/O decisions, inbound packets (acks in any
order, duplicated, stale, with failure codes), ticks, cancellations, drops and reconnects, either the
last CONNACK announced a window below the replay set (F5c) or
`send_quota + (retained PUBLISH + PUBREL entries) ≤ max_send_quota`. -/
theorem C06_all_programs (cfg : Cfg) (ds : List Directive) :
    QuotaP (ds.foldl World.execDirective { sess := Session.new cfg }).sess :=
  run_inv closed_QuotaP ds { sess := Session.new cfg } (C06_init cfg)

/-- **The window** (partial: executions whose last CONNACK left room for the replay set — otherwise
see F5c). The number of unresolved QoS 1/2 exchanges never exceeds `max_send_quota`, and a new
publish is accepted (`send_quota ≠ 0`) only while it is strictly below. -/
theorem C06_window_partial (cfg : Cfg) (ds : List Directive) :
    let s := (ds.foldl World.execDirective { sess := Session.new cfg }).sess
    s.rt.deficit = false →
      s.data.outbound.inflightPublishes ≤ s.rt.maxSendQuota ∧
      (s.rt.sendQuota ≠ 0 → s.data.outbound.inflightPublishes < s.rt.maxSendQuota) := by
  intro s hd
  have h : quotaOk s := (C06_all_programs cfg ds).2
  unfold quotaOk at h
  rcases h with h | h
  · rw [hd] at h; simp at h
  · exact ⟨by omega, fun hq => by omega⟩

/-- Whatever properties a CONNACK carries, the `max_send_quota` its loop computes is at most the local limit and
equal to the send quota it computes (what one Receive Maximum property does: `C06_receive_maximum_step`). -/
theorem C06_connack_loop (block : Bytes) (ka : Nat) :
    accInv maxInflight ((iterEncoded block).foldl (Session.connackStep maxInflight)
      (.ok (maxInflight, maxInflight, none, none, ka, none))) := by
  obtain ⟨hok, herr⟩ := connackFold_spec maxInflight (maxInflight, maxInflight, none, none, ka, none) (iterEncoded block)
  by_cases h : ∀ it ∈ iterEncoded block, connackItemOk it
  · rw [hok h]
    cases lastNum .ReceiveMaximum (iterEncoded block)
    · exact ⟨rfl, Nat.le_refl _⟩
    · exact ⟨rfl, Nat.min_le_right _ _⟩
  · rw [herr h]; trivial

/-- One Receive Maximum property caps both quotas at `min v localQ`. -/
theorem C06_receive_maximum_step (localQ sq msq : Nat) (mq mps : Option Nat) (ka : Nat) (cid : Option Bytes) (v : Nat)
    (hv : v ≠ 0) :
    Session.connackStep localQ (.ok (sq, msq, mq, mps, ka, cid)) (some { kind := .ReceiveMaximum, val := .n v }) =
      .ok (min v localQ, min v localQ, mq, mps, ka, cid) := by
  simp [Session.connackStep, hv]

/-- **Beyond the window: refused locally.** With the quota used up a QoS 1/2 publish is refused with
`NotReady`; the only thing that changed in the session is the packet-identifier counter. -/
theorem C06_refused_leaves_nothing (fuel : Nat) (w : World) (r : PubReq)
    (hv : r.props.validFor .Publish = true)
    (hq : effectiveQos w.sess.rt.maxQos w.sess.downgrade r.qos > 0)
    (hfull : w.sess.data.outbound.retainedFull = false) (h0 : w.sess.rt.sendQuota = 0) :
    (afterFlush (fuel + 1) w (.publishPre r)).sess = w.sess.alloc.1 ∧
    (afterFlush (fuel + 1) w (.publishPre r)).lastRes = some (.error .notReady) ∧
    (afterFlush (fuel + 1) w (.publishPre r)).nets = w.nets ∧
    w.sess.alloc.1.data.outbound = w.sess.data.outbound ∧ w.sess.alloc.1.rt = w.sess.rt := by
  have hcan : canPublishS w.sess.data w.sess.rt (effectiveQos w.sess.rt.maxQos w.sess.downgrade r.qos) = false :=
    Bool.eq_false_iff.2 fun h => sendQuota_of_canPublish hq h h0
  rw [afterFlush_publishPre]
  simp only [hv, hq, hfull, hcan, Bool.not_true, Bool.false_eq_true, if_false, if_true, Bool.and_false, Bool.not_false]
  exact ⟨rfl, rfl, rfl, Session.alloc_outbound _, Session.alloc_rt _⟩

/-- **No QoS 2 exchange is dropped for lack of a PUBREL slot** (partial: needs the window invariant
without deficit and `max_send_quota ≤ local limit`; the latter holds of what the CONNACK loop computes,
`C06_connack_loop`, and of the session once a CONNACK has been accepted,
`C06_max_quota_within_local_limit` in `Theorems/C06Wire.lean`; before that `max_send_quota` is 65535).
When a successful PUBREC finds its PUBLISH, the release list has room. -/
theorem C06_pubrec_has_room_partial (o : Outbound) (r : Runtime) (id : Nat) (ha : o.ArenaInv)
    (hq : r.sendQuota + o.inflightPublishes ≤ r.maxSendQuota) (hm : r.maxSendQuota ≤ maxInflight)
    (hf : (o.ackPacket id .pubRec).2 = true) :
    ∃ o', (o.ackPacket id .pubRec).1.queueRelease id RC_Success = some o' := by
  have hlen := pubRec_release_room o r id ha hq hm hf
  unfold queueRelease
  rw [ackPacket_release, if_neg (by omega)]
  exact ⟨_, rfl⟩

/-- Witness for F5c in the model: three publishes to replay, CONNACK with Receive Maximum 2 — the
quota saturates at 0 and the deficit flag is raised; the window (2) is smaller than what is in flight (3). -/
example :
    let o : Outbound := { (Outbound.new 32) with
      buf := [0x32, 0, 0, 0x32, 0, 0, 0x32, 0, 0] ++ List.replicate 23 0, used := 9, nextSer := 3,
      retained := [{ id := 1, offset := 0, len := 3, state := .write 0, ser := 0 },
                   { id := 2, offset := 3, len := 3, state := .write 0, ser := 1 },
                   { id := 3, offset := 6, len := 3, state := .write 0, ser := 2 }] }
    let s : Session := { (Session.new { rx := 64, tx := 32, keepaliveS := 0, expiry := 0, downgrade := false,
                                          clientId := [], auth := none, will := none }) with
      data := { outbound := o, sessionPresent := true } }
    let s' := (s.activate true [0x21, 0, 2] 0).1
    s'.rt.deficit = true ∧ s'.rt.sendQuota = 0 ∧ s'.rt.maxSendQuota = 2 ∧ s'.data.outbound.inflightPublishes = 3 := by
  decide +kernel

end Minimq
