import Minimq.Proofs.Lift
import Minimq.Proofs.KeepaliveSess
/-
C10 — keep-alive: PINGREQ cadence and dead-peer detection follow the negotiated time.

Times: `World.now`, `Runtime.nextPing`, `Runtime.pingTimeout` are in µs; `Runtime.keepaliveMs` and
`ROUND_TRIP_TIMEOUT_MS` (= 5000) in ms. `Session.activate` is the processing of an accepted CONNACK,
`Session.completeFlush pkt now` is `complete_flush`, called when the flush of a queued packet has
succeeded — with the time `now` at which the outbound step that sent the packet was *started*
(`service(now)` → `perform_outbound_step(step, now)`), not the time at which the flush completed.

Findings kept explicit:
* (cadence) while a ping timeout is running no further PINGREQ is queued
  (`C10_no_pingreq_while_waiting`); with a keep-alive below 2 × ROUND_TRIP the next PINGREQ time falls
  before the timeout, and with one below ROUND_TRIP the gap between client packets can then exceed the
  keep-alive (F12; `C10_finding_gap_exceeds_keepalive`, at 2 s).
* (timeout origin) the timeout is measured from the start of the outbound step that sent the PINGREQ,
  so if writing/flushing the PINGREQ itself is slow the timeout can fire less than ROUND_TRIP after
  the PINGREQ left (`C10_timeout_origin` states exactly what is true).
* (stale PINGREQ) `arm_replay` drops a PINGREQ that was queued but not completely flushed when the
  connection ended (`C10_no_stale_pingreq`). Finding F22 is the behaviour without that drop: the entry
  stays in the control queue and is replayed on the next connection, even under keep-alive 0.
-/
namespace Minimq
open Gen World Outbound

/-- **Effective keep-alive.** After an accepted CONNACK the keep-alive of the connection is the
broker's Server Keep Alive (seconds → ms; the last such property wins) if there is one, otherwise the
configured value; the configured value itself never changes. -/
theorem C10_effective_keepalive (s : Session) (sp : Bool) (block : Bytes) (now : Nat)
    (hok : (s.activate sp block now).2 = .ok ()) :
    (s.activate sp block now).1.rt.keepaliveMs =
      (match lastNum .ServerKeepAlive (iterEncoded block) with
       | some v => v * 1000
       | none => s.rt.configuredKeepaliveMs) ∧
    (s.activate sp block now).1.rt.configuredKeepaliveMs = s.rt.configuredKeepaliveMs := by
  rw [activate_fst_of_ok hok]
  exact ⟨(activated_keepalive s sp block now).1, (activated_keepalive s sp block now).2.1⟩

/-- What "the last Server Keep Alive" means: the one after which no other follows; none at all if no
item is one. -/
theorem C10_last_server_keepalive (pre post : List (Option Property)) (x : Option Property) (v : Nat)
    (hx : numOf .ServerKeepAlive x = some v) (hpost : ∀ it ∈ post, numOf .ServerKeepAlive it = none) :
    lastNum .ServerKeepAlive (pre ++ x :: post) = some v ∧
    (∀ items : List (Option Property), (∀ it ∈ items, numOf .ServerKeepAlive it = none) →
      lastNum .ServerKeepAlive items = none) :=
  ⟨lastNum_append _ pre post x v hx hpost, fun _ h => lastNum_none h⟩

/-- Non-vacuity: a CONNACK with Server Keep Alive = 7 s on a session configured for 60 s. -/
example :
    let s0 := Session.new { rx := 64, tx := 64, keepaliveS := 60, expiry := 0, downgrade := false, clientId := [], auth := none, will := none }
    let r := s0.activate false [b 0x13, b 0, b 7] 1000
    (match r.2 with | .ok () => true | _ => false) = true ∧ r.1.rt.keepaliveMs = 7000 ∧
    r.1.rt.configuredKeepaliveMs = 60000 ∧ r.1.rt.nextPing = some (1000 + 3500 * 1000) ∧
    (s0.activate false [] 1000).1.rt.keepaliveMs = 60000 ∧ (s0.activate false [] 1000).1.rt.nextPing = some (1000 + 55000 * 1000) := by
  decide +kernel

/-- **The PINGREQ interval.** There is none iff the keep-alive is 0; otherwise it is positive, at most
the keep-alive, and leaves exactly min(ROUND_TRIP, keep-alive / 2) of the keep-alive as slack:
keep-alive − 5 s from 10 s upwards, half the keep-alive (rounded up) below. -/
theorem C10_send_interval (r : Runtime) :
    (r.keepaliveSendInterval = none ↔ r.keepaliveMs = 0) ∧
    (∀ i, r.keepaliveSendInterval = some i →
      0 < i ∧ i ≤ r.keepaliveMs ∧ i + min ROUND_TRIP_TIMEOUT_MS (r.keepaliveMs / 2) = r.keepaliveMs ∧
      (2 * ROUND_TRIP_TIMEOUT_MS ≤ r.keepaliveMs → i = r.keepaliveMs - ROUND_TRIP_TIMEOUT_MS) ∧
      (r.keepaliveMs < 2 * ROUND_TRIP_TIMEOUT_MS → i = r.keepaliveMs - r.keepaliveMs / 2)) :=
  ⟨keepaliveSendInterval_none_iff r, fun i h => (keepaliveSendInterval_some r i h).2⟩

/-- **Every completed client packet re-arms the PINGREQ timer**: `complete_flush` (queued packets),
the completion of a QoS 0 PUBLISH (`noteActivity`) and an accepted CONNACK set
`nextPing = now + interval` (µs), or `none` when the keep-alive is 0. -/
theorem C10_timer_rearmed (s : Session) (now : Nat) :
    (∀ pkt, (s.completeFlush pkt now).rt.nextPing = s.rt.keepaliveSendInterval.map (fun i => now + i * 1000) ∧
      (s.completeFlush pkt now).rt.keepaliveMs = s.rt.keepaliveMs) ∧
    ((s.noteActivity now).rt.nextPing = s.rt.keepaliveSendInterval.map (fun i => now + i * 1000) ∧
      (s.noteActivity now).rt.keepaliveMs = s.rt.keepaliveMs) ∧
    (∀ sp block, (s.activate sp block now).2 = .ok () →
      (s.activate sp block now).1.rt.nextPing =
        (s.activate sp block now).1.rt.keepaliveSendInterval.map (fun i => now + i * 1000) ∧
      (s.activate sp block now).1.rt.pingTimeout = none) := by
  refine ⟨fun pkt => ⟨(completeFlush_rt s pkt now).1, (completeFlush_rt s pkt now).2.1⟩,
    ⟨(noteActivity_rt s now).1, (noteActivity_rt s now).2.1⟩, ?_⟩
  intro sp block hok
  rw [activate_fst_of_ok hok]
  exact ⟨(activated_keepalive s sp block now).2.2.1, (activated_keepalive s sp block now).2.2.2⟩

/-- So the next PINGREQ becomes due min(ROUND_TRIP, keep-alive/2) before the keep-alive, counted
from the `now` of the last completed packet, would run out. -/
theorem C10_pingreq_due_before_keepalive (s : Session) (pkt : Flushed) (now : Nat) (hka : s.rt.keepaliveMs ≠ 0) :
    ∃ np, (s.completeFlush pkt now).rt.nextPing = some np ∧ now < np ∧
      np + min ROUND_TRIP_TIMEOUT_MS (s.rt.keepaliveMs / 2) * 1000 = now + s.rt.keepaliveMs * 1000 := by
  obtain ⟨i, hi⟩ : ∃ i, s.rt.keepaliveSendInterval = some i := ⟨_, keepaliveSendInterval_of_pos _ hka⟩
  obtain ⟨_, hpos, _, hsum, _⟩ := keepaliveSendInterval_some _ i hi
  refine ⟨now + i * 1000, ?_, by omega, ?_⟩
  · rw [(completeFlush_rt s pkt now).1, hi]; rfl
  · generalize min ROUND_TRIP_TIMEOUT_MS (s.rt.keepaliveMs / 2) = m at hsum ⊢
    omega

/-- **A keep-alive of zero sends no pings.** In every reachable state, keep-alive 0 means there is no
PINGREQ timer, and `maybe_queue_pingreq` then leaves the session alone whatever the time. (The
invariant is "keep-alive 0 → no timer"; the converse is false: `connect` clears the timer.) -/
theorem C10_zero_keepalive_no_pings (cfg : Cfg) (ds : List Directive) (now : Nat) :
    let s := (ds.foldl World.execDirective { sess := Session.new cfg }).sess
    s.rt.keepaliveMs = 0 → s.rt.nextPing = none ∧ s.queuePing now = .ok s := by
  intro s h0
  have hinv : KaInv s := run_inv closed_KaInv ds { sess := Session.new cfg } (fun _ => rfl)
  exact ⟨hinv h0, queuePing_no_keepalive s now (hinv h0)⟩

/-- **When a PINGREQ is queued.** `maybe_queue_pingreq(now)` appends a PINGREQ to the control queue
iff the PINGREQ time has come (`nextPing ≤ now`), no ping timeout is running and no PINGREQ is already
pending — provided the 2-byte packet is within the broker's Maximum Packet Size (else
`PacketTooLarge`) and the control queue has room (else `InflightExhausted`). In every other case the
session is left exactly as it is. -/
theorem C10_queue_pingreq (s : Session) (now : Nat) :
    (¬ s.pingWanted now → s.queuePing now = .ok s) ∧
    (s.pingWanted now →
      (s.rt.packetTooLarge 2 = true → s.queuePing now = .error .packetTooLarge) ∧
      (s.rt.packetTooLarge 2 = false → MAX_PENDING_CONTROL ≤ s.data.outbound.control.length →
        s.queuePing now = .error .inflightExhausted) ∧
      (s.rt.packetTooLarge 2 = false → s.data.outbound.control.length < MAX_PENDING_CONTROL →
        s.queuePing now = .ok (s.setOutbound { s.data.outbound with
          control := s.data.outbound.control ++ [{ action := ControlAction.pingReq, state := .write 0 }] }))) ∧
    (s.pingWanted now ↔ s.rt.pingTimeout = none ∧ (∃ np, s.rt.nextPing = some np ∧ np ≤ now) ∧
      s.data.outbound.hasPendingPingreq = false) :=
  ⟨(queuePing_spec s now).1, (queuePing_spec s now).2, Iff.rfl⟩

/-- Finding (cadence): while a ping timeout is running, nothing is queued, however late it is. -/
theorem C10_no_pingreq_while_waiting (s : Session) (now t : Nat) (h : s.rt.pingTimeout = some t) :
    s.queuePing now = .ok s := queuePing_while_waiting s now t h

/-- Finding, concretely: keep-alive 2 s. A PINGREQ is completed at time 0; the next PINGREQ time is
1 s, the timeout 5 s. At 3 s — a full second after the keep-alive ran out — no PINGREQ is queued and
the timeout has not fired: the client is silent for longer than the keep-alive. -/
theorem C10_finding_gap_exceeds_keepalive :
    let s0 := Session.new { rx := 64, tx := 64, keepaliveS := 2, expiry := 0, downgrade := false, clientId := [], auth := none, will := none }
    let s1 := s0.completeFlush (.control ControlAction.pingReq) 0
    s1.rt.keepaliveMs = 2000 ∧ s1.rt.nextPing = some 1000000 ∧ s1.rt.pingTimeout = some 5000000 ∧
    s1.queuePing 3000000 = .ok s1 := by
  intro s0 s1
  have h3 : s1.rt.pingTimeout = some 5000000 := by decide +kernel
  exact ⟨by decide, by decide, h3, queuePing_while_waiting s1 3000000 5000000 h3⟩

/-- **Ping-timeout bookkeeping.** Completing the flush of a PINGREQ starts the timeout at
`now + ROUND_TRIP` (µs); completing any other packet leaves it alone; PINGRESP clears it (and changes
nothing else); `next_deadline` is the timeout while one is running and the PINGREQ time otherwise. -/
theorem C10_ping_timeout_bookkeeping (s : Session) (now : Nat) :
    (∀ a : ControlAction, a.typ = MT_PingReq →
      (s.completeFlush (.control a) now).rt.pingTimeout = some (now + ROUND_TRIP_TIMEOUT_MS * 1000)) ∧
    (∀ a : ControlAction, a.typ ≠ MT_PingReq → (s.completeFlush (.control a) now).rt.pingTimeout = s.rt.pingTimeout) ∧
    (∀ id, (s.completeFlush (.release id) now).rt.pingTimeout = s.rt.pingTimeout ∧
      (s.completeFlush (.retained id) now).rt.pingTimeout = s.rt.pingTimeout) ∧
    handlePacket s.data s.rt .pingResp = (s.data, { s.rt with pingTimeout := none }, .ok false) ∧
    (∀ t, s.rt.pingTimeout = some t → s.rt.nextDeadline = some t) ∧
    (s.rt.pingTimeout = none → s.rt.nextDeadline = s.rt.nextPing) := by
  refine ⟨?_, ?_, ?_, rfl, nextDeadline_of_timeout s.rt, nextDeadline_no_timeout s.rt⟩
  · intro a ha; rw [(completeFlush_rt s (.control a) now).2.2]; simp [ha]
  · intro a ha; rw [(completeFlush_rt s (.control a) now).2.2]; simp [ha]
  · intro id; exact ⟨(completeFlush_rt s (.release id) now).2.2, (completeFlush_rt s (.retained id) now).2.2⟩

/-- **Where a timeout value comes from.** Across every session primitive a running ping timeout `t` was
either already running with the same value, or was started by completing the flush of a PINGREQ, as
`now + ROUND_TRIP` for the `now` handed to `complete_flush`. -/
theorem C10_timeout_origin {s s' : Session} (h : Prim s s') (t : Nat) (ht : s'.rt.pingTimeout = some t) :
    s.rt.pingTimeout = some t ∨
    ∃ a now, a.typ = MT_PingReq ∧ s' = s.completeFlush (.control a) now ∧ t = now + ROUND_TRIP_TIMEOUT_MS * 1000 := by
  rcases h.clock with ⟨_, _, hp | hp⟩ | ⟨now, _, _, hp | ⟨a, ha, e, hp⟩⟩ | ⟨_, _, hp⟩ | ⟨_, _, hp⟩ <;> rw [hp] at ht
  · exact .inl ht
  · cases ht
  · exact .inl ht
  · exact .inr ⟨a, now, ha, e, (Option.some.inj ht).symm⟩
  · cases ht
  · cases ht

/-- **Dead-peer detection.** `service(now)` at the head of the `drive_packet` loop ends the wait with
`Disconnected` (and kills the handle) when a ping timeout `t ≤ now` is running… -/
theorem C10_timeout_fires (fuel : Nat) (w : World) (outer : Outer) (adv : Bool) (t : Nat)
    (hav : w.sess.reader.packetAvailable = false) (ht : w.sess.rt.pingTimeout = some t) (hle : t ≤ w.now) :
    driveLoop (fuel + 1) w outer adv = (w.handleDisconnect).finishErr (outerName outer) .disconnected ∧
    (driveLoop (fuel + 1) w outer adv).live = false ∧
    (driveLoop (fuel + 1) w outer adv).lastRes = some (.error .disconnected) := by
  rw [Fuel.driveLoop_service fuel w outer adv hav, Fuel.timedOut_expired ht hle, if_pos rfl]
  exact ⟨rfl, by simp, rfl⟩

/-- …and only then: when no timeout is running, or the running one lies in the future, `service` does
not take that branch but goes on to queue a PINGREQ if due and to perform the next outbound step. In
particular not earlier than ROUND_TRIP after the `now` of the PINGREQ's outbound step
(`C10_timeout_origin`), and never once a PINGRESP has cleared the timeout. -/
theorem C10_timeout_only_when_expired (fuel : Nat) (w : World) (outer : Outer) (adv : Bool)
    (hav : w.sess.reader.packetAvailable = false) (hno : ∀ t, w.sess.rt.pingTimeout = some t → w.now < t) :
    driveLoop (fuel + 1) w outer adv =
      match w.maybeQueuePingreq w.now with
      | .error e => w.finishErr (outerName outer) e
      | .ok w' =>
        match w'.sess.data.outbound.nextStep with
        | none => driveAfterService fuel w' outer adv
        | some step => performStep fuel w' (.drive adv outer) step w.now := by
  rw [Fuel.driveLoop_service fuel w outer adv hav, Fuel.timedOut_false hno]
  rfl

/-- A PINGRESP received in time: afterwards no timeout is running, so the hypothesis of
`C10_timeout_only_when_expired` holds at every later time until another PINGREQ has been flushed. -/
theorem C10_pingresp_clears (s : Session) :
    (s.handle .pingResp).1.rt.pingTimeout = none ∧ (s.handle .pingResp).1.rt.nextPing = s.rt.nextPing ∧
    (s.handle .pingResp).1.rt.keepaliveMs = s.rt.keepaliveMs ∧ (s.handle .pingResp).2 = .ok false ∧
    (s.handle .pingResp).1.data = s.data :=
  ⟨rfl, rfl, rfl, rfl, rfl⟩

/-- **No stale PINGREQ.** A PINGREQ that was queued but not completely flushed when the connection
broke is dropped by `arm_replay` (disconnect and connect): after it the control queue holds none. (That the
next connection then starts without one, whatever keep-alive it negotiates, is `C10_handshake_has_no_pingreq`.
Finding F22 is the behaviour without the drop: the entry is re-armed and becomes the first packet of the next
connection, also under a negotiated keep-alive of zero.) -/
theorem C10_no_stale_pingreq (o : Outbound) :
    (∀ e ∈ o.rearm.control, e.action.typ ≠ MT_PingReq) ∧ o.rearm.hasPendingPingreq = false :=
  ⟨rearm_no_pingreq o, hasPendingPingreq_false (rearm_no_pingreq o)⟩

/-- The F22 witness after the repair: the stale PINGREQ is gone and nothing is sent under the
negotiated keep-alive of zero. -/
example :
    let s0 := Session.new { rx := 64, tx := 64, keepaliveS := 60, expiry := 0, downgrade := false, clientId := [], auth := none, will := none }
    let o : Outbound := { s0.data.outbound with control := [{ action := ControlAction.pingReq, state := .flush }] }
    let s : Session := { s0 with data := { s0.data with sessionPresent := true, outbound := o } }
    let s' := (s.handleDisconnect.beginConnect.activate true [b 0x13, b 0, b 0] 0).1
    s'.rt.keepaliveMs = 0 ∧ s'.rt.nextPing = none ∧ s'.data.outbound.nextStep = none := by
  decide +kernel

end Minimq
