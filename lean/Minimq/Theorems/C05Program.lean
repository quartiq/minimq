import Minimq.Proofs.Lift
import Minimq.Proofs.PrimFrame
/-
C05, program level — after the first accepted CONNACK every CONNECT asks to resume and carries the
configured or the broker-assigned client identifier, for every program; with the one exception of the
recorded finding F19.

The session carries three ghost fields (`SessionData`, never rendered, not in the code):
`everAccepted` (a CONNACK has been accepted at some point), `halfReset` (finding F19 has struck since
the last accepted CONNACK: a CONNACK with Session Present = 0 reset the local state and was then
rejected for its properties) and `assignedId` (the Assigned Client Identifier of the last accepted
CONNACK that carried one). `EstInv` (Proofs/PrimFrame.lean) relates them to `sessionPresent` and
`clientId`; it is preserved by every session primitive (`closed_EstInv`) and therefore holds after every
program (`run_inv`). `Prim s s'` is one step of a session primitive (see C05.lean).
-/
namespace Minimq
open Gen World Outbound

/-- **The invariant, for all programs.** After any sequence of API calls, I/O decisions, inbound
bytes, ticks, cancellations, drops and reconnects on a new session: before the first accepted CONNACK
the session is not established; afterwards it is established unless F19 has struck since the last
accepted CONNACK; a half-reset session is not established; the client identifier is the last one the
broker assigned in an accepted CONNACK, or the configured one if none was ever assigned; an assigned
identifier has at most `CLIENT_ID_CAPACITY` bytes. -/
theorem C05_invariant_all_programs (cfg : Cfg) (ds : List Directive) :
    EstInv cfg.clientId (ds.foldl World.execDirective { sess := Session.new cfg }).sess :=
  run_inv (closed_EstInv cfg.clientId) ds { sess := Session.new cfg } (EstInv_new cfg)

/-- **Clean start, for all programs.** Until the first accepted CONNACK every CONNECT asks for a clean
start; from then on every CONNECT asks to resume (clean start 0) — except while the session is
half-reset by finding F19, when it asks for a clean start again (and exactly then: the last clause). -/
theorem C05_clean_start_all_programs (cfg : Cfg) (ds : List Directive) :
    let s := (ds.foldl World.execDirective { sess := Session.new cfg }).sess
    (s.data.everAccepted = true → s.data.halfReset = false → s.connectPacket.cleanStart = false) ∧
    (s.data.everAccepted = false → s.connectPacket.cleanStart = true) ∧
    (s.data.halfReset = true → s.connectPacket.cleanStart = true) := by
  intro s
  have h := C05_invariant_all_programs cfg ds
  refine ⟨fun h1 h2 => ?_, fun h1 => ?_, fun h1 => ?_⟩
  · show (!s.data.sessionPresent) = false
    rw [h.est h1 h2]; rfl
  · show (!s.data.sessionPresent) = true
    rw [h.notYet h1]; rfl
  · show (!s.data.sessionPresent) = true
    rw [h.half h1]; rfl

/-- **`halfReset` is raised exactly by the F19 history.** Across a primitive step the flag is unchanged,
or the step is the processing of a CONNACK with Session Present = 0 whose property block is rejected
(the flag is then raised, the session is left reset and `connect()` fails with `Peer.InvalidPacket`),
or the step is an accepted CONNACK (the flag is then cleared). Conversely every such CONNACK step has
that effect, and a rejected CONNACK with Session Present = 1 leaves the flag alone. -/
theorem C05_halfReset_exactly_F19 {s s' : Session} (h : Prim s s') :
    (s'.data.halfReset = s.data.halfReset ∨
     (∃ block now, s' = (s.activate false block now).1 ∧ ¬ connackBlockOk block ∧
       (s.activate false block now).2 = .error .peerInvalid ∧ s'.data.halfReset = true ∧
       s'.data.sessionPresent = false) ∨
     (∃ sp block now, s' = (s.activate sp block now).1 ∧ (s.activate sp block now).2 = .ok () ∧
       s'.data.halfReset = false)) ∧
    (∀ sp block now,
      (¬ connackBlockOk block → sp = false → (s.activate sp block now).1.data.halfReset = true) ∧
      (¬ connackBlockOk block → sp = true → (s.activate sp block now).1.data.halfReset = s.data.halfReset) ∧
      (connackBlockOk block → (s.activate sp block now).1.data.halfReset = false ∧
        (s.activate sp block now).1.data.everAccepted = true)) := by
  refine ⟨?_, fun sp block now => activate_halfReset s sp block now⟩
  rcases h.history with ⟨hg, _⟩ | ⟨sp, block, now, rfl, hok, _, _, a2, _⟩ | ⟨sp, block, now, rfl, herr, hb, _, _, _, f2, f3⟩
  · exact .inl hg.halfReset
  · exact .inr (.inr ⟨sp, block, now, rfl, hok, a2⟩)
  · cases sp
    · exact .inr (.inl ⟨block, now, rfl, hb, herr, f2.trans (Bool.or_true _), f3⟩)
    · exact .inl (f2.trans (Bool.or_false _))

/-- **`everAccepted` is raised exactly by an accepted CONNACK** and never cleared. -/
theorem C05_everAccepted_exactly_success {s s' : Session} (h : Prim s s') :
    (s.data.everAccepted = true → s'.data.everAccepted = true) ∧
    (s.data.everAccepted = false → s'.data.everAccepted = true →
      ∃ sp block now, s' = (s.activate sp block now).1 ∧ (s.activate sp block now).2 = .ok ()) ∧
    (∀ sp block now, (s.activate sp block now).2 = .ok () → (s.activate sp block now).1.data.everAccepted = true) :=
  ⟨h.everAccepted_changes.1, h.everAccepted_changes.2,
   fun _ _ _ => activate_everAccepted⟩

/-- **The client identifier, for all programs.** In every reachable state the CONNECT carries the
identifier the broker assigned in the last accepted CONNACK that assigned one, or the configured
identifier if no accepted CONNACK ever assigned one (in particular before the first accepted CONNACK);
an assigned identifier has at most `CLIENT_ID_CAPACITY` bytes. -/
theorem C05_client_id_all_programs (cfg : Cfg) (ds : List Directive) :
    let s := (ds.foldl World.execDirective { sess := Session.new cfg }).sess
    s.connectPacket.clientId = s.data.assignedId.getD cfg.clientId ∧
    (∀ bs, s.data.assignedId = some bs → bs.length ≤ CLIENT_ID_CAPACITY) ∧
    (s.data.everAccepted = false → s.connectPacket.clientId = cfg.clientId) := by
  intro s
  have h := C05_invariant_all_programs cfg ds
  refine ⟨h.cid, h.cidLen, fun h1 => ?_⟩
  show s.clientId = _
  rw [h.cid, h.assignedLate h1]; rfl

/-- The recorded assigned identifier changes only in an accepted CONNACK that carries an Assigned
Client Identifier, and is then the value of the last such property of that CONNACK. -/
theorem C05_assigned_id_origin {s s' : Session} (h : Prim s s') :
    s'.data.assignedId = s.data.assignedId ∨
    ∃ sp block now cid, s' = (s.activate sp block now).1 ∧ (s.activate sp block now).2 = .ok () ∧
      lastStr .AssignedClientIdentifier (iterEncoded block) = some cid ∧ s'.data.assignedId = some cid := by
  rcases h.history with ⟨hg, _⟩ | ⟨sp, block, now, rfl, hok, _, _, _, _, a4, _⟩ | ⟨_, _, _, _, _, _, _, f4, _⟩
  · exact .inl hg.assignedId
  · cases hl : lastStr .AssignedClientIdentifier (iterEncoded block) with
    | none => rw [hl] at a4; exact .inl a4
    | some cid => rw [hl] at a4; exact .inr ⟨sp, block, now, cid, rfl, hok, hl, a4⟩
  · exact .inl f4

/-- Configuration of the examples: client identifier "c". -/
def C05_exCfg : Cfg :=
  { rx := 64, tx := 64, keepaliveS := 0, expiry := 0, downgrade := false, clientId := [b 0x63], auth := none, will := none }

/-- connect; let the transport accept CONNECT; the broker answers CONNACK(sp = 0, success); read it. -/
def C05_exFirstConnect : List Directive := [.connect, .go, .rx [b 0x20, b 3, b 0, b 0, b 0], .go]

/-- `C05_exFirstConnect`, then: connect; CONNECT goes out; CONNACK(sp = 0, success, Receive Maximum = 0); read it. -/
def C05_exF19 : List Directive :=
  C05_exFirstConnect ++ [.connect, .go, .rx [b 0x20, b 6, b 0, b 0, b 3, b 0x21, b 0, b 0], .go]

/-- `C05_exFirstConnect`, then: connect; CONNACK(sp = 1, success, Assigned Client Identifier "ab"); read it; connect
again and let the CONNECT go out. -/
def C05_exReconnect : List Directive :=
  C05_exFirstConnect ++ [.connect, .go, .rx [b 0x20, b 8, b 1, b 0, b 5, b 0x12, b 0, b 2, b 0x61, b 0x62], .go,
    .connect, .go]

/-- **The F19 history at program level.** After a first accepted connect, a second connect is answered
with CONNACK(sp = 0, success, Receive Maximum = 0): `connect()` fails, yet the session has been reset —
`halfReset` is raised and the next CONNECT would ask for a clean start although a CONNACK had been accepted. -/
theorem C05_example_F19_history :
    let w := C05_exF19.foldl World.execDirective { sess := Session.new C05_exCfg }
    (match w.lastRes with | some (.error .peerInvalid) => true | _ => false) = true ∧
    w.sess.data.everAccepted = true ∧ w.sess.data.halfReset = true ∧ w.sess.data.sessionPresent = false ∧
    w.sess.connectPacket.cleanStart = true := by
  decide +kernel

/-- The world of the reconnect history, evaluated once for the two theorems about it. -/
theorem C05_exReconnect_eval :
    (let w := C05_exReconnect.foldl World.execDirective { sess := Session.new C05_exCfg }
     w.sess.data.everAccepted = true ∧ w.sess.data.halfReset = false ∧ w.sess.connectPacket.cleanStart = false ∧
     w.sess.connectPacket.clientId = [b 0x61, b 0x62] ∧ w.sess.data.assignedId = some [b 0x61, b 0x62]) ∧
    (let w := C05_exReconnect.foldl World.execDirective { sess := Session.new C05_exCfg }
     w.nets.map (fun (n : Net) => (n.wire.drop 9).take 1) = [[b 2], [b 0], [b 0]] ∧
     w.nets.map (fun (n : Net) => n.wire.drop 26) = [[b 0, b 1, b 0x63], [b 0, b 1, b 0x63], [b 0, b 2, b 0x61, b 0x62]]) := by
  decide +kernel

/-- **A normal reconnect history.** First connect accepted (fresh session); second connect answered
with CONNACK(sp = 1, success, Assigned Client Identifier "ab"); third connect started. The session is
established, not half-reset, asks to resume and holds the assigned identifier "ab". -/
theorem C05_example_reconnect_history :
    let w := C05_exReconnect.foldl World.execDirective { sess := Session.new C05_exCfg }
    w.sess.data.everAccepted = true ∧ w.sess.data.halfReset = false ∧ w.sess.connectPacket.cleanStart = false ∧
    w.sess.connectPacket.clientId = [b 0x61, b 0x62] ∧ w.sess.data.assignedId = some [b 0x61, b 0x62] := by
  obtain ⟨h, _⟩ := C05_exReconnect_eval
  exact h

/-- The same history on the wire: byte 9 of each CONNECT (the connect flags) and its tail (the client
identifier field), transport by transport. The first CONNECT has clean start set, the later two do not; the third
carries the assigned identifier "ab", the first two the configured "c". -/
theorem C05_example_reconnect_wire :
    let w := C05_exReconnect.foldl World.execDirective { sess := Session.new C05_exCfg }
    w.nets.map (fun (n : Net) => (n.wire.drop 9).take 1) = [[b 2], [b 0], [b 0]] ∧
    w.nets.map (fun (n : Net) => n.wire.drop 26) = [[b 0, b 1, b 0x63], [b 0, b 1, b 0x63], [b 0, b 2, b 0x61, b 0x62]] := by
  obtain ⟨_, h⟩ := C05_exReconnect_eval
  exact h

end Minimq
