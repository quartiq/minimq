import Minimq.Proofs.CancelSim
import Minimq.Proofs.ConnectMachine
import Minimq.Proofs.WireTop
/-
C13, whole machine — dropping the future of a cancel-safe operation and driving on is the same as
resuming it.

Two runs start from one suspended world `w`. Run A resumes the future: each `Directive.d n` is one POLL
with I/O decision `n`. Run B drops the future and starts a fresh operation — `poll` if the dropped one
was a publish (QoS 1/2), subscribe or unsubscribe, and an operation of the same kind if it was a
`poll`, `recv` or `drive` (`dirOf`) — and is then driven with the same decisions. The fresh operation's
first POLL has no I/O decision, so it stops at its first I/O call: that is the re-entry.

What is compared. `w.rest` is the world without the trace (`out`), the suspended future (`fut`) and the
two per-POLL flags (`wakes`, `lastIoStarved`, reset by every POLL): session, connection handle,
transports (wire AND bytes still to be delivered), virtual time, I/O decision, handles, last result,
torn marks and transmission log. `w.fin` forgets `handles` and `lastRes` as well. The two runs agree on
`rest` while both are suspended and on `fin` once they have completed: the completion events differ by
design (run A reports `ret publish ok op …`, registers the handle and sets `lastRes` for the publish; run
B reports `ret poll ok none`) — `handles`, `lastRes` and the trace are exactly the fields that may differ.
`DISCONNECT` (finding F2b), CONNECT and QoS 0 publishes are not covered: their await points keep bytes
in the future (`tearsPacket`).

Hypotheses about time, stated where they are used:
 * `KaCalm rt now` — no keep-alive event is due: the next PINGREQ and the ping timeout, if armed, lie
   after `now`. It is preserved by everything the compared runs do at a fixed time (`complete_flush`
   re-arms the timers after `now`). Without it the statement is false: `C13_corner_pingreq_reorders`.
 * the `now` stored in the suspended future is the world's `now` (no `tick` since the step was prepared).
-/
namespace Minimq
open Gen World Outbound Fuel

theorem reach_pcOK (cfg : Cfg) (ds : List Directive) (pc : Pc) :
    let w := ds.foldl World.execDirective { sess := Session.new cfg }
    w.nets.length ∉ w.tornNets → w.fut = some pc → w.slot = none ∧ PcOK w.view pc := by
  intro w hnt hf
  refine ⟨run_slot_none ds _ rfl, ?_⟩
  rcases (Quiesce.produced cfg ds).winv.cur with ht | hp
  · exact (hnt ht).elim
  · rw [hf] at hp; exact hp

/-- What `rest` and `fin` keep. -/
theorem C13_rest_fields {a b : World} (h : a.rest = b.rest) :
    a.sess = b.sess ∧ a.conn = b.conn ∧ a.nets = b.nets ∧ a.now = b.now ∧ a.slot = b.slot ∧
    a.handles = b.handles ∧ a.lastRes = b.lastRes ∧ a.tornNets = b.tornNets ∧ a.log = b.log := by
  have f : ∀ {β : Type} (g : World → β), g a.rest = g b.rest := fun g => congrArg g h
  exact ⟨f World.sess, f World.conn, f World.nets, f World.now, f World.slot, f World.handles, f World.lastRes,
    f World.tornNets, f World.log⟩

theorem C13_fin_fields {a b : World} (h : a.fin = b.fin) :
    a.sess = b.sess ∧ a.conn = b.conn ∧ a.nets = b.nets ∧ a.now = b.now ∧ a.slot = b.slot ∧
    a.tornNets = b.tornNets ∧ a.log = b.log := by
  have f : ∀ {β : Type} (g : World → β), g a.fin = g b.fin := fun g => congrArg g h
  exact ⟨f World.sess, f World.conn, f World.nets, f World.now, f World.slot, f World.tornNets, f World.log⟩

/-- `KaCalm`, spelled out. -/
theorem C13_kaCalm_iff (rt : Runtime) (now : Nat) :
    KaCalm rt now ↔ (∀ np, rt.nextPing = some np → now < np) ∧ (∀ pt, rt.pingTimeout = some pt → now < pt) := Iff.rfl

/-- **Re-entry at the `write` await.** Run any program; let `w` be the world it ends in, live, its
transport not marked torn, suspended at the `write` await of `perform_outbound_step` for queue entry
`pkt` (an acknowledgement / PINGREQ, a PUBREL or a retained packet) with `wr` of the packet's `bytes`
accepted so far, in whatever context (`poll`/`recv`/`drive`, or either flush of publish / subscribe /
unsubscribe). Assume no `tick` since the step was prepared and no keep-alive event due. Drop the future
and start `poll`, `recv` or `drive` (`dirOf o`): the new operation suspends at the same `write` — same
entry, same bytes, same offset, so its first I/O call offers `bytes.drop wr` exactly as the resumed
future would (`C13_resume_is_the_same_write`) — in the same state; the trace gains `cancel` and the
pending write. -/
theorem C13_reentry_write (cfg : Cfg) (ds : List Directive) (ctx : StepCtx) (pkt : Flushed) (bytes : Bytes)
    (wr len : Nat) (o : Outer) :
    let w := ds.foldl World.execDirective { sess := Session.new cfg }
    w.nets.length ∉ w.tornNets → w.fut = some (.stepWrite ctx pkt bytes wr len w.now) →
    KaCalm w.sess.rt w.now →
    let b := w.execDirective (dirOf o)
    b.rest = w.rest ∧ b.fut = some (.stepWrite (.drive false o) pkt bytes wr len w.now) ∧
    b.out = s!"wp {w.netIdx}" :: "cancel" :: w.out := by
  intro w hnt hf hcalm
  obtain ⟨hs, hp⟩ := reach_pcOK cfg ds _ hnt hf
  obtain ⟨st, ⟨hl, _, hst, hb, _, _, ha, hok, hn⟩, rfl, rfl⟩ := hp
  exact reenter w _ hf hl.live hs rfl ⟨ha, hcalm⟩ (fun h => nomatch hn.symm.trans h) o
    (settle_write (w := w.rest.addOld ("cancel" :: w.out)) hn
      (prepareStep_write w hst hb ((packetTooLarge_false_iff _ _).2 hok)) o false)

/-- **Re-entry at the `flush` await** (the packet is completely written, its flush is pending). -/
theorem C13_reentry_flush (cfg : Cfg) (ds : List Directive) (ctx : StepCtx) (pkt : Flushed) (o : Outer) :
    let w := ds.foldl World.execDirective { sess := Session.new cfg }
    w.nets.length ∉ w.tornNets → w.fut = some (.stepFlush ctx pkt w.now) → KaCalm w.sess.rt w.now →
    let b := w.execDirective (dirOf o)
    b.rest = w.rest ∧ b.fut = some (.stepFlush (.drive false o) pkt w.now) ∧
    b.out = s!"fp {w.netIdx}" :: "cancel" :: w.out := by
  intro w hnt hf hcalm
  obtain ⟨hs, hp⟩ := reach_pcOK cfg ds _ hnt hf
  obtain ⟨st, ⟨hl, hsc, hst, ha⟩, rfl⟩ := hp
  have hn := hsc.nextStep (by rw [hst]; rfl)
  exact reenter w _ hf hl.live hs rfl ⟨ha, hcalm⟩ (fun h => nomatch hn.symm.trans h) o
    (settle_flush (w := w.rest.addOld ("cancel" :: w.out)) hn (prepareStep_flush w hst) o false)

/-- **Re-entry at the `read` await** of `poll` / `recv` (`drive` never waits): the new operation of
the same kind finds nothing to send (the machine reads only then), and suspends at the same `read`, with
the same deadline. -/
theorem C13_reentry_read (cfg : Cfg) (ds : List Directive) (o : Outer) (d : Option Nat) (y : Bool) :
    let w := ds.foldl World.execDirective { sess := Session.new cfg }
    w.nets.length ∉ w.tornNets → w.fut = some (.waitRead o d y) → o ≠ .drive → KaCalm w.sess.rt w.now →
    let b := w.execDirective (dirOf o)
    b.rest = w.rest ∧ b.fut = some (.waitRead o d y) ∧ b.out = s!"rp {w.netIdx}" :: "cancel" :: w.out := by
  intro w hnt hf ho hcalm
  obtain ⟨hs, hp⟩ := reach_pcOK cfg ds _ hnt hf
  obtain ⟨⟨⟨hl, _⟩, hn⟩, ha, rfl, rfl, n, hn0, hw⟩ := hp
  exact reenter w _ hf hl.live hs rfl ⟨ha, hcalm⟩ (fun _ => Probed_of_session_window hw hn0) o
    (settle_wait (w := w.rest.addOld ("cancel" :: w.out)) hn ho (fun _ => rfl))

/-- What relates two worlds by `RF` — run A inside `flush_outbound` (either flush of a publish QoS 1/2,
subscribe, unsubscribe; `k` says which) against run B's `poll`: the constructor of `RF`, taking the facts
that `C13_reentry_write` / `_flush` conclude. The statement itself says nothing of a re-entry. -/
theorem C13_reentry_gives_RF (w b : World) (k : AfterFlush) (pa pb : Pc) (hr : b.rest = w.rest)
    (ha : w.sess.reader.packetAvailable = false) (hc : KaCalm w.sess.rt w.now) (hfa : w.fut = some pa) (hfb : b.fut = some pb)
    (hp : PcF k w.now pa pb) : RF k w b :=
  ⟨hr.symm, ⟨ha, hc⟩, pa, pb, hfa, hfb, hp⟩

/-- The same for `RD` (a `poll` / `recv` / `drive` against a fresh one of the same kind): its constructor. -/
theorem C13_reentry_gives_RD (w b : World) (pa pb : Pc) (hr : b.rest = w.rest) (hfa : w.fut = some pa)
    (hfb : b.fut = some pb) (hp : PcD pa pb) : RD w b :=
  ⟨hr.symm, pa, pb, hfa, hfb, hp⟩

/-- `RF`, spelled out: same state, no complete inbound packet waiting and no keep-alive event due, and
the two futures are suspended at the same I/O call for the same entry with the same progress — run A
inside `flush_outbound` with continuation `k`, run B inside `poll`. -/
theorem C13_RF_iff (k : AfterFlush) (a b : World) :
    RF k a b ↔ a.rest = b.rest ∧ (a.sess.reader.packetAvailable = false ∧ KaCalm a.sess.rt a.now) ∧
      ((∃ adv pkt bytes wr len, a.fut = some (.stepWrite (.flush k) pkt bytes wr len a.now) ∧
          b.fut = some (.stepWrite (.drive adv .poll) pkt bytes wr len a.now)) ∨
       (∃ adv pkt, a.fut = some (.stepFlush (.flush k) pkt a.now) ∧
          b.fut = some (.stepFlush (.drive adv .poll) pkt a.now))) := by
  constructor
  · rintro ⟨h1, ⟨h2, h3⟩, pa, pb, hfa, hfb, hp⟩
    refine ⟨h1, ⟨h2, h3⟩, ?_⟩
    cases hp with
    | write adv pkt bytes wr len => exact Or.inl ⟨adv, pkt, bytes, wr, len, hfa, hfb⟩
    | flush adv pkt => exact Or.inr ⟨adv, pkt, hfa, hfb⟩
  · rintro ⟨h1, ⟨h2, h3⟩, h4⟩
    rcases h4 with ⟨adv, pkt, bytes, wr, len, hfa, hfb⟩ | ⟨adv, pkt, hfa, hfb⟩
    · exact ⟨h1, ⟨h2, h3⟩, _, _, hfa, hfb, .write adv pkt bytes wr len⟩
    · exact ⟨h1, ⟨h2, h3⟩, _, _, hfa, hfb, .flush adv pkt⟩

/-- **One POLL, same I/O decision: an operation inside `flush_outbound` against a `poll`.** From related
worlds, after `Directive.d n` on both sides: the worlds are related again; or both operations completed —
with the same error — in the same state (`fin`); or run B's `poll` completed with `Ok` and run A is
`afterFlush k` applied to a world `u0` that agrees with run B's (`u0.fin = b'.fin`): the queues are
drained, and only now does run A's continuation run. -/
theorem C13_step_flush_vs_poll {k : AfterFlush} {a b : World} (h : RF k a b) (n : Nat) :
    StepF k (a.execDirective (.d n)) (b.execDirective (.d n)) := h.step n

/-- **The request is already enqueued** (`k = .post name op`: the second flush of a publish QoS 1/2,
subscribe or unsubscribe). One POLL with the same decision: the worlds are related again, or both
operations have completed in the same session, transports (wire and undelivered bytes), log, connection
and time. -/
theorem C13_post_completes_with_poll {name : String} {op : Op} {a b : World} (h : RF (.post name op) a b) (n : Nat) :
    let a' := a.execDirective (.d n)
    let b' := b.execDirective (.d n)
    RF (.post name op) a' b' ∨ (a'.fut = none ∧ b'.fut = none ∧ a'.fin = b'.fin) := by
  intro a' b'
  cases h.step n with
  | susp h1 => exact Or.inl h1
  | done h1 h2 h3 => exact Or.inr ⟨h1, h2, h3.same (fun d hd => by cases hd)⟩
  | handed u0 oa h1 h2 h3 h4 h5 =>
    right
    have e : a' = wrap (u0.finishOp name op) oa := by rw [← ev_AF_post]; exact h1
    refine ⟨by rw [e]; rfl, h3, ?_⟩
    rw [e, wrap_fin, fin_finishOp, ← h5, fin_clearSlot h2]

/-- **Any number of POLLs.** With the same list of I/O decisions: the two runs are related at the end,
or there is a first POLL after which they are not, and that POLL ended as described in
`C13_step_flush_vs_poll`. -/
theorem C13_run_flush_vs_poll {k : AfterFlush} {a b : World} (h : RF k a b) (ks : List Nat) :
    RF k (runD ks a) (runD ks b) ∨
    ∃ ks1 n ks2, ks = ks1 ++ n :: ks2 ∧ RF k (runD ks1 a) (runD ks1 b) ∧
      StepF k (runD (ks1 ++ [n]) a) (runD (ks1 ++ [n]) b) ∧ ¬ RF k (runD (ks1 ++ [n]) a) (runD (ks1 ++ [n]) b) := by
  induction ks generalizing a b with
  | nil => exact Or.inl h
  | cons n ks ih =>
    have hstep := h.step n
    by_cases hr : RF k (a.execDirective (.d n)) (b.execDirective (.d n))
    · rcases ih hr with h1 | ⟨ks1, m, ks2, e1, e2, e3, e4⟩
      · exact Or.inl h1
      · refine Or.inr ⟨n :: ks1, m, ks2, by rw [e1]; rfl, e2, e3, e4⟩
    · exact Or.inr ⟨[], n, ks, rfl, h, hstep, hr⟩

/-- **One POLL, same I/O decision: `poll` / `recv` / `drive` against a fresh one of the same kind.** Both
runs add the same lines to their traces (so the same `msg` lines: the same messages are delivered), end
in the same state, and are suspended at the same await point or have both completed. -/
theorem C13_step_same_kind {a b : World} (h : RD a b) (n : Nat) :
    let a' := a.execDirective (.d n)
    let b' := b.execDirective (.d n)
    (∃ new, a'.out = new ++ a.out ∧ b'.out = new ++ b.out) ∧ a'.rest = b'.rest ∧
    (RD a' b' ∨ (a'.fut = none ∧ b'.fut = none)) := by
  intro a' b'
  have := h.step n
  exact ⟨this.out, this.state, this.rd⟩

/-- **Any number of POLLs (same kind of operation).** The decisions split as `ks1 ++ ks2`: through `ks1`
the two runs add the same trace lines and are in the same state, suspended at the same await point; and
either `ks2` is empty or both operations completed at the end of `ks1`. -/
theorem C13_run_same_kind {a b : World} (h : RD a b) (ks : List Nat) :
    ∃ ks1 ks2, ks = ks1 ++ ks2 ∧
      (∃ new, (runD ks1 a).out = new ++ a.out ∧ (runD ks1 b).out = new ++ b.out) ∧
      (runD ks1 a).rest = (runD ks1 b).rest ∧ FutD (runD ks1 a).fut (runD ks1 b).fut ∧
      (ks2 = [] ∨ ((runD ks1 a).fut = none ∧ (runD ks1 b).fut = none)) := by
  induction ks generalizing a b with
  | nil =>
    obtain ⟨pa, pb, ha, hb, hp⟩ := h.pcs
    exact ⟨[], [], rfl, ⟨[], rfl, rfl⟩, h.rest, by show FutD a.fut b.fut; rw [ha, hb]; exact .some hp, Or.inl rfl⟩
  | cons n ks ih =>
    have hstep := h.step n
    rcases hstep.rd with hr | hfin
    · obtain ⟨ks1, ks2, e1, ⟨new, o1, o2⟩, e3, e4, e5⟩ := ih hr
      obtain ⟨n1, p1, p2⟩ := hstep.out
      refine ⟨n :: ks1, ks2, by rw [e1]; rfl, ⟨new ++ n1, ?_, ?_⟩, e3, e4, e5⟩
      · show (runD ks1 (a.execDirective (.d n))).out = _; rw [o1, p1, List.append_assoc]
      · show (runD ks1 (b.execDirective (.d n))).out = _; rw [o2, p2, List.append_assoc]
    · exact ⟨[n], ks, rfl, hstep.out, hstep.state, hstep.fut, Or.inr hfin⟩

/-- **Cancelling.** Dropping a future suspended at a `write`, `flush` or `read` await changes neither
session, transports, connection, handles, time, torn marks nor log: only the future and the trace. -/
theorem C13_unenqueued_request_leaves_no_trace (w : World) (pc : Pc) (hf : w.fut = some pc)
    (ht : tearsPacket (some pc) = false) :
    w.cancelFut.rest = w.rest ∧ w.cancelFut.fut = none ∧ w.cancelFut.out = "cancel" :: w.out := by
  rw [cancelFut_safe hf ht]
  exact ⟨rfl, rfl, rfl⟩

/-- `RF k a b` includes that session, transports, log and connection of the two worlds are equal (a
projection of `RF.rest`). It is meant to be read with `k` a `…Pre` continuation — run A is inside the
preliminary flush and the request lives only in `k` — and `b` a `poll` started where the operation
started, which has never seen the request: then nothing of the request is in A's session. That `b` is
such a run is not in this statement; `C13_start_subscribe_vs_poll` and `C13_run_flush_vs_poll` give it,
the former for subscribe only. -/
theorem C13_pre_state_is_the_poll_state {k : AfterFlush} {a b : World} (h : RF k a b) :
    a.sess = b.sess ∧ a.nets = b.nets ∧ a.log = b.log ∧ a.conn = b.conn := by
  obtain ⟨h1, h2, h3, _, _, _, _, _, h9⟩ := C13_rest_fields h.rest
  exact ⟨h1, h3, h9, h2⟩

/-- **Starting `subscribe` against starting `poll`**, from the same idle world (no suspended future, live,
no I/O decision, no inbound packet waiting, no keep-alive event due; the request passes the two local
checks), four outcomes: nothing is left to send and `subscribe` goes straight on to enqueue its request
from the untouched state; or the queues drain within this POLL, the `poll` has returned and `subscribe`
goes on from the state the `poll` ended in; or both operations suspend at the same I/O call, related by
`RF (.subPre r)`, and from then on (`C13_run_flush_vs_poll`) the subscribe does what the poll does until
the queues are drained; or both have returned (a failure inside the flush) in the same state. -/
theorem C13_start_subscribe_vs_poll (w : World) (r : SubReq) (hf : w.fut = none) (hl : w.live = true)
    (hs : w.slot = none) (ha : w.sess.reader.packetAvailable = false) (hc : KaCalm w.sess.rt w.now)
    (ht : r.topics.isEmpty = false) (hv : (Properties.slice r.props).validFor .Subscribe = true) :
    let a := w.execDirective (.subscribe r)
    let b := w.execDirective .poll
    (∃ u0, a = (ev (.AF u0 (.subPre r))).addOld w.out ∧
      ((u0 = w.rest ∧ w.sess.data.outbound.nextStep = none) ∨ (b.fut = none ∧ u0.fin = b.fin))) ∨
    RF (.subPre r) a b ∨ (a.fut = none ∧ b.fut = none ∧ a.fin = b.fin) := by
  intro a b
  have hcn := World.conn_of_live hl
  have ea : a = (ev (.FL w.rest (.subPre r))).addOld w.out := by
    show w.execDirective (.subscribe r) = _
    unfold World.execDirective
    simp only []
    rw [startOp_eq, if_neg (by rw [← Option.not_isSome, hcn]; nofun), opStart_rest hf]
    rw [show (w.rest.addOld w.out).live = true from hl]
    simp only [Bool.not_true, Bool.false_eq_true, if_false, ht, hv]
    exact (run_pollFuel (.FL _ _)).trans (ev_addOld (.FL w.rest _) w.rest w.out)
  rw [ea]
  rcases start_vs_poll (.subPre r) w hf hl hs ⟨ha, hc⟩ with h | h | ⟨h1, h2, h3⟩
  · exact Or.inl h
  · exact Or.inr (Or.inl h)
  · exact Or.inr (Or.inr ⟨h1, h2, h3.same (fun d hd => by cases hd)⟩)

/-- **`disconnect` inside its preliminary flush against a `poll`.** One POLL with the same decision: the
worlds are related again; or the queues are drained and `disconnect` goes on to write DISCONNECT from the
state the `poll` ends in; or both calls failed — and then either in the same state (a transport error
ends the connection in both) or, for an error that is not a transport error (`WriteZero`), `disconnect`
has ended the connection and `poll` has not: run A's state is run B's after `handle_disconnect`, and run
A's handle is dead. -/
theorem C13_disconnect_flush_vs_poll {d : Disconnect} {a b : World} (h : RF (.discPre d) a b) (n : Nat) :
    let a' := a.execDirective (.d n)
    let b' := b.execDirective (.d n)
    RF (.discPre d) a' b' ∨
    (∃ u0 oa, a' = wrap (ev (.AF u0 (.discPre d))) oa ∧ b'.fut = none ∧ b'.lastRes = some (.ok ()) ∧ u0.fin = b'.fin) ∨
    (a'.fut = none ∧ b'.fut = none ∧ (a'.fin = b'.fin ∨ (a'.fin = (b'.handleDisconnect).fin ∧ a'.live = false))) := by
  intro a' b'
  cases h.step n with
  | susp h1 => exact Or.inl h1
  | handed u0 oa h1 h2 h3 h4 h5 => exact Or.inr (Or.inl ⟨u0, oa, h1, h3, h4, h5⟩)
  | done h1 h2 h3 =>
    refine Or.inr (Or.inr ⟨h1, h2, ?_⟩)
    rcases h3 with h3 | ⟨_, h3⟩
    · exact Or.inl h3
    · refine Or.inr ⟨h3, ?_⟩
      have hc : a'.conn = (b'.handleDisconnect).conn := (C13_fin_fields h3).2.1
      exact (live_of_conn hc).trans (handleDisconnect_live b')

/-- The configuration of `C01Wire_cfg`: its CONNECT has 29 bytes, which the examples drop from the wire. -/
def C13M_cfg : Cfg :=
  { rx := 64, tx := 128, keepaliveS := 0, expiry := 300, downgrade := false, clientId := [0x63], auth := none, will := none }

def C13M_pub : Directive :=
  .publish { qos := 1, retain := false, topic := [0x74], payload := .bytes [0x70], props := .slice [] }

def C13M_sub : Directive :=
  .subscribe { topics := [{ topic := [0x61], opts := { maxQos := 1, noLocal := false, rap := false, rh := 0 } }], props := [] }

/-- A QoS 1 publish of which the transport has accepted 3 bytes: the operation is suspended in its second
flush (`.post`). -/
def C13M_pre1 : List Directive := [.connect, .rx [0x20, 0x03, 0x00, 0x00, 0x00], .go, C13M_pub, .d 3]

/-- The publish is dropped with 3 bytes on the wire; a subscribe is started, whose preliminary flush
continues that packet (2 more bytes) — and is cancelled there. -/
def C13M_pre2 : List Directive :=
  [.connect, .rx [0x20, 0x03, 0x00, 0x00, 0x00], .go, C13M_pub, .d 3, .cancel, C13M_sub, .d 2]

/-- The runs of the three examples below, evaluated together: all begin with `C13M_pre1`. -/
theorem C13M_eval :
    (let wA := (C13M_pre1 ++ ([.d 250, .d 250] : List Directive)).foldl World.execDirective { sess := Session.new C13M_cfg }
     let wB := (C13M_pre1 ++ ([.poll, .d 250, .d 250] : List Directive)).foldl World.execDirective { sess := Session.new C13M_cfg }
     wA.fut.isNone = true ∧ wB.fut.isNone = true ∧
     wA.nets.map (fun (n : Net) => (n.wire, n.rx)) = wB.nets.map (fun (n : Net) => (n.wire, n.rx)) ∧ wA.log = wB.log ∧
     wA.sess.data.outbound.retained = wB.sess.data.outbound.retained ∧
     wA.sess.data.outbound.control = wB.sess.data.outbound.control ∧ wA.sess.data.packetId = wB.sess.data.packetId ∧
     wA.curNet.wire.drop 29 = ([0x32, 0x07, 0x00, 0x01, 0x74, 0x00, 0x01, 0x00, 0x70] : Bytes) ∧
     wA.handles.length = 1 ∧ wB.handles.length = 0) ∧
    (let w := C13M_pre1.foldl World.execDirective { sess := Session.new C13M_cfg }
     w.nets.length ∉ w.tornNets ∧ w.live = true ∧
     (match w.fut with
      | some (.stepWrite (.flush (.post "publish" op)) (.retained 1) bytes 3 9 now) =>
        decide (op.id = 1) && decide (bytes.length = 9) && decide (now = w.now)
      | _ => false) = true ∧
     w.sess.rt.nextPing = none ∧ w.sess.rt.pingTimeout = none) ∧
    (let wA := (C13M_pre2 ++ ([.d 250, .d 250] : List Directive)).foldl World.execDirective { sess := Session.new C13M_cfg }
     let wB := (C13M_pre2 ++ ([.poll, .d 250, .d 250] : List Directive)).foldl World.execDirective { sess := Session.new C13M_cfg }
     wB.fut.isNone = true ∧
     wA.nets.map (fun (n : Net) => (n.wire, n.rx)) = wB.nets.map (fun (n : Net) => (n.wire, n.rx)) ∧ wA.log = wB.log ∧
     wB.curNet.wire.drop 29 = ([0x32, 0x07, 0x00, 0x01, 0x74, 0x00, 0x01, 0x00, 0x70] : Bytes) ∧
     wB.log.map (fun (f : LogEntry) => f.tag) = [Tag.retained 0 1] ∧
     wB.sess.data.outbound.retained.map (fun (e : RetainedPacket) => (e.ser, e.id)) = [(0, 1)] ∧ wB.sess.data.packetId = 2 ∧
     wA.sess.data.outbound.retained.map (fun (e : RetainedPacket) => (e.ser, e.id)) = [(0, 1), (1, 2)]) := by
  decide +kernel

/-- Uncancelled (`.d 250`: accept everything; twice: the write, then the flush) against cancelled and
continued with `poll`: the same wire, the same log, the same retained queue. Only the completion differs:
run A registered the handle, run B did not. -/
example :
    let wA := (C13M_pre1 ++ ([.d 250, .d 250] : List Directive)).foldl World.execDirective { sess := Session.new C13M_cfg }
    let wB := (C13M_pre1 ++ ([.poll, .d 250, .d 250] : List Directive)).foldl World.execDirective { sess := Session.new C13M_cfg }
    wA.fut.isNone = true ∧ wB.fut.isNone = true ∧
    wA.nets.map (fun (n : Net) => (n.wire, n.rx)) = wB.nets.map (fun (n : Net) => (n.wire, n.rx)) ∧ wA.log = wB.log ∧
    wA.sess.data.outbound.retained = wB.sess.data.outbound.retained ∧
    wA.sess.data.outbound.control = wB.sess.data.outbound.control ∧ wA.sess.data.packetId = wB.sess.data.packetId ∧
    wA.curNet.wire.drop 29 = ([0x32, 0x07, 0x00, 0x01, 0x74, 0x00, 0x01, 0x00, 0x70] : Bytes) ∧
    wA.handles.length = 1 ∧ wB.handles.length = 0 := by
  obtain ⟨h, _⟩ := C13M_eval
  exact h

/-- The hypotheses of `C13_reentry_write` hold for that suspended world: not torn, suspended at the
`write` await of the retained entry 1 with 3 of 9 bytes written, in the context of the second flush of the
publish, at the world's time; keep-alive is off, so no keep-alive event is due. -/
example :
    let w := C13M_pre1.foldl World.execDirective { sess := Session.new C13M_cfg }
    w.nets.length ∉ w.tornNets ∧ w.live = true ∧
    (match w.fut with
     | some (.stepWrite (.flush (.post "publish" op)) (.retained 1) bytes 3 9 now) =>
       decide (op.id = 1) && decide (bytes.length = 9) && decide (now = w.now)
     | _ => false) = true ∧
    KaCalm w.sess.rt w.now := by
  obtain ⟨_, ⟨h1, h2, h3, hnp, hpt⟩, _⟩ := C13M_eval
  exact ⟨h1, h2, h3, .of_none hnp hpt⟩

/-- Cancelled and continued with `poll`: the PUBLISH completes, the SUBSCRIBE never appears — not on the
wire, not in the log, not in the retained queue, and no identifier was consumed. Uncancelled, with the same
decisions: the same wire and log (the PUBLISH completes identically); the SUBSCRIBE has just been enqueued
(identifier 2) and is about to be written. -/
example :
    let wA := (C13M_pre2 ++ ([.d 250, .d 250] : List Directive)).foldl World.execDirective { sess := Session.new C13M_cfg }
    let wB := (C13M_pre2 ++ ([.poll, .d 250, .d 250] : List Directive)).foldl World.execDirective { sess := Session.new C13M_cfg }
    wB.fut.isNone = true ∧
    wA.nets.map (fun (n : Net) => (n.wire, n.rx)) = wB.nets.map (fun (n : Net) => (n.wire, n.rx)) ∧ wA.log = wB.log ∧
    wB.curNet.wire.drop 29 = ([0x32, 0x07, 0x00, 0x01, 0x74, 0x00, 0x01, 0x00, 0x70] : Bytes) ∧
    wB.log.map (fun (f : LogEntry) => f.tag) = [Tag.retained 0 1] ∧
    wB.sess.data.outbound.retained.map (fun (e : RetainedPacket) => (e.ser, e.id)) = [(0, 1)] ∧ wB.sess.data.packetId = 2 ∧
    wA.sess.data.outbound.retained.map (fun (e : RetainedPacket) => (e.ser, e.id)) = [(0, 1), (1, 2)] := by
  obtain ⟨_, _, h⟩ := C13M_eval
  exact h

def C13M_cfgKa : Cfg :=
  { rx := 64, tx := 128, keepaliveS := 10, expiry := 300, downgrade := false, clientId := [0x63], auth := none, will := none }

/-- Keep-alive 10 s. A QoS 1 publish is enqueued but the transport accepts nothing (the entry still
waits for its first byte); 5 s pass: the PINGREQ becomes due. -/
def C13M_preKa : List Directive := [.connect, .rx [0x20, 0x03, 0x00, 0x00, 0x00], .go, C13M_pub, .tick 5000000]

/-- **The corner.** Resumed, the publish writes its packet and the PINGREQ follows; cancelled and
re-entered through `poll`, `service` queues the PINGREQ before it asks the scheduler, and a control entry
goes before a retained entry that has not started: the PINGREQ is written first. The two runs put the same
packets on the wire in a different order (`c0 00` is the PINGREQ). `KaCalm` fails for the suspended world:
the next PINGREQ is due at exactly `now`. (For an entry of which at least one byte is written the order is
the same in both runs: an entry in progress goes first.) -/
theorem C13_corner_pingreq_reorders :
    let w := C13M_preKa.foldl World.execDirective { sess := Session.new C13M_cfgKa }
    let wA := (C13M_preKa ++ ([.d 250, .d 250, .d 250, .d 250] : List Directive)).foldl World.execDirective { sess := Session.new C13M_cfgKa }
    let wB := (C13M_preKa ++ ([.poll, .d 250, .d 250, .d 250, .d 250] : List Directive)).foldl World.execDirective { sess := Session.new C13M_cfgKa }
    w.sess.rt.nextPing = some w.now ∧
    wA.curNet.wire.drop 29 = ([0x32, 0x07, 0x00, 0x01, 0x74, 0x00, 0x01, 0x00, 0x70, 0xc0, 0x00] : Bytes) ∧
    wB.curNet.wire.drop 29 = ([0xc0, 0x00, 0x32, 0x07, 0x00, 0x01, 0x74, 0x00, 0x01, 0x00, 0x70] : Bytes) := by
  decide +kernel

end Minimq
