import Minimq.Proofs.IoCalls
import Minimq.Proofs.ReaderStream
import Minimq.Proofs.Primitives
/-
C13 — cancelling a cancel-safe operation loses, duplicates and corrupts nothing.

The full property is an equivalence between two executions of the whole machine; it is decided on
every run by the twin programs of the correspondence check (the same program with and without a
cancellation at every await index, compared on wire bytes and delivered messages), and proved as a
simulation of the machine in `Theorems/C13Machine.lean`. What is proved here are the local facts that
make the cancel-safe await points safe, for every state:

 * cancelling drops the suspended future and nothing else — session, transports, connection, handles
   are untouched (`C13_cancel_only_drops_the_future`);
 * at the `write` and `flush` awaits of `perform_outbound_step`, and at the `read` await of
   `wait_for_progress`, the future holds no progress that is not also recorded in the session: the
   session at the await point is the session the step started from, every byte accepted earlier was
   recorded by `set_written` before the next `write` was attempted, and every byte read was committed
   to the session's reader before the next `read` (`C13_write_await`, `C13_flush_await`,
   `C13_read_await`);
 * a later operation that finds the same entry in progress re-enters the very same write: same
   packet bytes, same offset (`C13_reenters_same_write`), so the wire continues where it stopped.

The await points of CONNECT, a QoS 0 PUBLISH and DISCONNECT keep their bytes in the future
(`Pc.connWrite`, `q0Write`, `discWrite`); connect and QoS 0 publish are not in the property's list,
disconnect is, and that is finding F2b.
-/
namespace Minimq
open Gen World

/-- Cancelling changes nothing but the future (and the trace). -/
theorem C13_cancel_only_drops_the_future (w : World) :
    (w.cancelFut).sess = w.sess ∧ (w.cancelFut).nets = w.nets ∧ (w.cancelFut).conn = w.conn ∧
    (w.cancelFut).handles = w.handles ∧ (w.cancelFut).now = w.now ∧ (w.cancelFut).fut = none := by
  unfold World.cancelFut
  split
  · exact ⟨rfl, rfl, rfl, rfl, rfl, rfl⟩
  · exact ⟨rfl, rfl, rfl, rfl, rfl, by simpa using ‹¬ w.fut.isSome = true›⟩

theorem ioWrite_pending (w : World) (bs : Bytes) (h : w.slot = none) :
    (w.ioWrite bs).2 = .pending ∧ (w.ioWrite bs).1.sess = w.sess ∧ (w.ioWrite bs).1.nets = w.nets ∧
    (w.ioWrite bs).1.conn = w.conn := by
  rw [ioWrite_none h]; exact ⟨rfl, rfl, rfl, rfl⟩

theorem ioFlush_pending (w : World) (h : w.slot = none) :
    (w.ioFlush).2 = .pending ∧ (w.ioFlush).1.sess = w.sess ∧ (w.ioFlush).1.nets = w.nets ∧
    (w.ioFlush).1.conn = w.conn := by
  rw [ioFlush_none h]; exact ⟨rfl, rfl, rfl, rfl⟩

/-- **The `write` await.** When the transport is not ready the operation suspends with the session
and the transports exactly as they were: the future carries only what `prepareStep` computed from
the session. -/
theorem C13_write_await (fuel : Nat) (w : World) (ctx : StepCtx) (pkt : Flushed) (bytes : Bytes)
    (written len now : Nat) (h : w.slot = none) :
    let w' := doStepWrite (fuel + 1) w ctx pkt bytes written len now
    w'.fut = some (.stepWrite ctx pkt bytes written len now) ∧ w'.sess = w.sess ∧ w'.nets = w.nets := by
  rw [doStepWrite, ioWrite_none h]
  exact ⟨rfl, rfl, rfl⟩

/-- **The `flush` await.** The operation suspends with the session and the transports exactly as they were. -/
theorem C13_flush_await (fuel : Nat) (w : World) (ctx : StepCtx) (pkt : Flushed) (now : Nat) (h : w.slot = none) :
    let w' := doStepFlush (fuel + 1) w ctx pkt now
    w'.fut = some (.stepFlush ctx pkt now) ∧ w'.sess = w.sess ∧ w'.nets = w.nets := by
  rw [doStepFlush, ioFlush_none h]
  exact ⟨rfl, rfl, rfl⟩

/-- A partial write is recorded in the session (`Session.setWritten` on the entry) and leaves the transports
alone; `doStepWrite` does this before anything else. -/
theorem C13_progress_recorded (w : World) (pkt : Flushed) (written len : Nat) :
    (w.setWritten pkt written len).sess = w.sess.setWritten pkt written len ∧
    (w.setWritten pkt written len).nets = w.nets := ⟨rfl, rfl⟩

/-- **Re-entering**, stated for a retained packet. Whoever next finds the entry in state `.write written`
(a fresh `poll`, `publish`, … after a cancellation, or the resumed future) performs the same write: the
same packet bytes from the same offset. For control and release entries and for every program:
`C13_reentry_write` in `Theorems/C13Machine.lean`. -/
theorem C13_reenters_same_write (fuel : Nat) (w : World) (ctx : StepCtx) (id off len written now : Nat)
    (hl : w.live = true) (hs : w.sess.rt.packetTooLarge len = false) :
    performStep (fuel + 1) w ctx (.retained id off len (.write written)) now =
      doStepWrite fuel w ctx (.retained id) (w.sess.data.outbound.retainedPacket off len) written len now := by
  unfold performStep
  simp [prepareStep_retained_write, hs, hl]

/-- Resuming the suspended future is the call `doStepWrite` with the stored bytes and offset. -/
theorem C13_resume_is_the_same_write (w : World) (ctx : StepCtx) (pkt : Flushed) (bytes : Bytes)
    (written len now : Nat) (h : w.fut = some (.stepWrite ctx pkt bytes written len now)) :
    World.poll w = doStepWrite pollFuel { w with wakes := 0, lastIoStarved := false, fut := none } ctx pkt bytes written len now := by
  unfold World.poll
  simp only [h]

theorem probe_data {r r' : Reader} (h : r.probe = some r') : r'.data = r.data ∧ r'.cap = r.cap :=
  (probe_fields r r' h).symm

theorem receiveWindow_data {r r' : Reader} {n : Nat} (h : r.receiveWindow = some (r', n)) :
    r'.data = r.data ∧ r'.cap = r.cap :=
  ⟨(receiveWindow_spec r r' n h).2.1, (receiveWindow_spec r r' n h).1⟩

/-- **The `read` await**, stated for a wait without deadline (`next_deadline() = None`). When no byte is
available the wait suspends; the session differs from the
session before the call only by the reader's probe of the fixed header (`receive_buffer`), so every
byte read so far — committed by `commit` as soon as it was read — stays in the session. -/
theorem C13_read_await (fuel : Nat) (w : World) (outer : Outer) (s1 : Session) (window : Nat)
    (hslot : w.slot = none) (hav : w.sess.reader.packetAvailable = false)
    (hw : w.sess.window = some (s1, window)) (hpos : window ≠ 0) :
    let w' := doWaitRead (fuel + 1) w outer none false
    w'.fut = some (.waitRead outer none true) ∧ w'.sess = s1 ∧ w'.nets = w.nets ∧
    s1.reader.data = w.sess.reader.data ∧ s1.data = w.sess.data ∧ s1.rt = w.sess.rt := by
  have hs1 : s1.reader.data = w.sess.reader.data ∧ s1.data = w.sess.data ∧ s1.rt = w.sess.rt := by
    obtain ⟨rd, hrw, rfl⟩ := Session.window_some hw
    exact ⟨(receiveWindow_data hrw).1, rfl, rfl⟩
  unfold doWaitRead
  simp only [hav, Bool.false_eq_true, if_false, hw, hpos]
  rw [ioRead_none (w := { w with sess := s1 }) hslot]
  exact ⟨rfl, rfl, rfl, hs1⟩

end Minimq
