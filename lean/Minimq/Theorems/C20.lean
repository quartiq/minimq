import Minimq.Proofs.Packets
import Minimq.Reply
import Minimq.Theorems.InboundProps
/-
C20 — reply helpers address exactly the requester.

`Minimq/Reply.lean` models `InboundPublish::reply` / `reply_owned`, `ResponseTarget::publication`,
`ResponseTarget::to_owned` and `Publication::properties`; the trace lines `reply`, `replyp`, `owned`
and `ownedpub` of every delivered message are rendered from these functions (`Render.msgLines`) and
compared with the implementation on every run.
-/
namespace Minimq
open Gen

/-- **Without a response topic no reply is offered**, and with one the target is what the accessors
`response_topic` and `correlation_data` return for the inbound publish's property block (that these are
the first such properties: `C20_target_is_what_the_broker_sent`). -/
theorem C20_target (block : Bytes) :
    responseTarget block =
      ((Properties.encoded block).responseTopic.map fun t =>
        ({ topic := t, correlationData := (Properties.encoded block).correlationData } : ResponseTarget)) := by
  unfold responseTarget
  cases (Properties.encoded block).responseTopic <;> rfl

/-- **Exactly the requester.** If the broker's property block is the encoding of the property list `l`
(any well-typed properties, any order, any number of user properties around them), the reply target
is the first Response Topic and the first Correlation Data of `l`, byte for byte. -/
theorem C20_target_is_what_the_broker_sent (l : List Property) (block : Bytes)
    (hwf : ∀ p ∈ l, p.wf = true) (h : encodeProps l = .ok block) :
    responseTarget block =
      ((firstVal .ResponseTopic l).map fun t =>
        ({ topic := t, correlationData := firstVal .CorrelationData l } : ResponseTarget)) := by
  rw [C20_target, InboundProps_responseTopic l block hwf h, InboundProps_correlationData l block hwf h]

theorem C20_no_response_topic_no_reply (block : Bytes) :
    responseTarget block = none ↔ (Properties.encoded block).responseTopic = none := by
  rw [C20_target]
  cases (Properties.encoded block).responseTopic <;> simp

/-- The reply publication: topic = the response topic, QoS 0, not retained, and its properties are
the correlation data (if any) followed by whatever user properties are added afterwards — adding
properties never drops or replaces the correlation data. -/
theorem C20_publication (t : ResponseTarget) (ups : List Property) :
    t.publication.topic = t.topic ∧ t.publication.qos = 0 ∧ t.publication.retain = false ∧
    t.publication.packetId = none ∧ t.publication.dup = false ∧
    t.publication.props.items = (match t.correlationData with | some c => [corrProp c] | none => []) ∧
    (t.publication.withProperties ups).topic = t.topic ∧
    (t.publication.withProperties ups).props.items =
      (match t.correlationData with | some c => corrProp c :: ups | none => ups) ∧
    (t.publication.withProperties ups).props.isEncoded = false ∧ t.publication.props.isEncoded = false := by
  unfold ResponseTarget.publication PublishHeader.withProperties
  cases t.correlationData <;>
    simp [Properties.withCorrelationData, Properties.withProperties, Properties.items, Properties.isEncoded]

/-- **On the wire.** Whatever payload and additional (legal) user properties the application gives,
an independent MQTT 5 decoder reads the encoded reply as a PUBLISH to exactly the response topic
carrying exactly the correlation data (first), then the added properties. -/
theorem C20_reply_on_the_wire (t : ResponseTarget) (ups : List Property) (cap off : Nat) (payload pkt rest : Bytes)
    (htopic : validUtf8 t.topic = true)
    (hwf : ∀ p ∈ ups, p.wf = true)
    (hlegal : ∀ p ∈ ups, Spec.allowedIn .publish p.kind.id = true ∧ Spec.legalValue p.kind.id p.toSpec.val.num = true)
    (he : encodePublishWithOffset cap (t.publication.withProperties ups) (.bytes payload) = .ok (off, pkt)) :
    Spec.parseClientPacket (pkt ++ rest) =
      some (.publish false 0 false t.topic none
        ((match t.correlationData with | some c => corrProp c :: ups | none => ups).map Property.toSpec) payload, rest) := by
  obtain ⟨_, _, _, _, _, _, h7, h8, h9, _⟩ := C20_publication t ups
  have hall : ∀ p ∈ (t.publication.withProperties ups).props.items, p.wf = true ∧
      Spec.allowedIn .publish p.kind.id = true ∧ Spec.legalValue p.kind.id p.toSpec.val.num = true := by
    rw [h8]
    cases t.correlationData with
    | none => exact fun p hp => ⟨hwf p hp, hlegal p hp⟩
    | some c =>
      intro p hp
      rcases List.mem_cons.mp hp with rfl | hp
      · exact ⟨rfl, rfl, rfl⟩
      · exact ⟨hwf p hp, hlegal p hp⟩
  rw [publish_roundtrip cap off (t.publication.withProperties ups) payload pkt rest (Nat.zero_le 2) rfl rfl
    (h7 ▸ htopic) h9 (fun p hp => (hall p hp).1) (fun p hp => (hall p hp).2) he, h7, h8]
  rfl

/-- **Owned target: exact or an error, never truncated.** -/
theorem C20_owned (t : ResponseTarget) (topicCap corrCap : Nat) :
    (∀ o, t.toOwned topicCap corrCap = some o → o = t) ∧
    (t.toOwned topicCap corrCap = none ↔
      (t.topic.length > topicCap ∨ ∃ c, t.correlationData = some c ∧ c.length > corrCap)) := by
  unfold ResponseTarget.toOwned
  by_cases ht : t.topic.length > topicCap
  · rw [if_pos ht]
    exact ⟨nofun, fun _ => .inl ht, fun _ => rfl⟩
  · rw [if_neg ht]
    cases t.correlationData with
    | none => exact ⟨fun o h => (Option.some.inj h).symm, nofun, fun h => h.elim (absurd · ht) nofun⟩
    | some c =>
      dsimp only
      by_cases hc : c.length > corrCap
      · rw [if_pos hc]
        exact ⟨nofun, fun _ => .inr ⟨c, rfl, hc⟩, fun _ => rfl⟩
      · rw [if_neg hc]
        refine ⟨fun o h => (Option.some.inj h).symm, nofun, fun h => h.elim (absurd · ht) ?_⟩
        rintro ⟨c', hc', hl⟩
        cases hc'
        exact absurd hl hc

/-- Non-vacuity: an inbound block with a user property, Response Topic `a/b` and Correlation Data
`01 02`: the reply goes to `a/b` with `01 02`. -/
example :
    responseTarget [0x26, 0, 1, 0x6b, 0, 1, 0x76, 0x08, 0, 3, 0x61, 0x2f, 0x62, 0x09, 0, 2, 1, 2] =
      some { topic := [0x61, 0x2f, 0x62], correlationData := some [1, 2] } := by decide +kernel

example :
    (({ topic := [0x61, 0x2f, 0x62], correlationData := some [1, 2] } : ResponseTarget).toOwned 3 2).isSome = true ∧
    ({ topic := [0x61, 0x2f, 0x62], correlationData := some [1, 2] } : ResponseTarget).toOwned 2 2 = none ∧
    ({ topic := [0x61, 0x2f, 0x62], correlationData := some [1, 2] } : ResponseTarget).toOwned 3 1 = none := by
  decide +kernel

end Minimq
