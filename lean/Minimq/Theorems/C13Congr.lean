import Minimq.Proofs.FinCongr
import Minimq.Theorems.C13Machine
/-
C13, the last step — "after both runs have completed, further operations behave identically".

`Theorems/C13Machine.lean` shows that the run that resumes a suspended operation (run A) and the run that
drops the future and polls (run B) agree, once both operations have completed, on `World.fin`: everything
except the trace, the suspended future (none in both), the per-POLL flags `wakes` / `lastIoStarved`, and
`handles` / `lastRes` (run A registered the handle of its publish, run B did not). These are exactly fields the
machine never reads: `handles` is only appended to and its length printed (`finishOp`: `ret <name> ok op <k> …`),
`lastRes` is only overwritten, the trace is only prepended to (`Proofs/OutFrame.lean`, with the relation `HSim`
of `Proofs/FinCongr.lean`), and the two flags are reset by every POLL and every operation start before they are
read. So from two worlds that agree on `fin` and on the suspended future every program leads to two such worlds
again, with the same new handles and the same new trace lines up to the handle index in `ret <name> ok op <k> …`.
-/
namespace Minimq
open Gen World Outbound

/-- `fin` and the suspended future, spelled out: the hypothesis of the theorems below says that the two
worlds have the same session, connection handle, transports, time, pending I/O decision, torn marks,
transmission log and suspended future. Nothing is assumed about handles, last result, trace, flags. -/
theorem C13_fin_fut_iff (a b : World) :
    (a.fin = b.fin ∧ a.fut = b.fut) ↔
      (a.sess = b.sess ∧ a.conn = b.conn ∧ a.nets = b.nets ∧ a.fut = b.fut ∧ a.now = b.now ∧ a.slot = b.slot ∧
        a.tornNets = b.tornNets ∧ a.log = b.log) := by
  constructor
  · rintro ⟨h, hf⟩
    obtain ⟨h1, h2, h3, h4, h5, h6, h7⟩ := C13_fin_fields h
    exact ⟨h1, h2, h3, hf, h4, h5, h6, h7⟩
  · rintro ⟨h1, h2, h3, hf, h4, h5, h6, h7⟩
    refine ⟨?_, hf⟩
    unfold World.fin World.rest
    simp only [h1, h2, h3, h4, h5, h6, h7]

/-- The line `finishOp` prints (`opLine`), and where the handle goes: the `k` in the line is the number
of handles registered before. -/
theorem C13_finishOp_line (w : World) (name : String) (op : Op) :
    (w.finishOp name op).out = opLine name op w.handles.length w.now :: w.out ∧
    (w.finishOp name op).handles = w.handles ++ [op] ∧
    opLine name op w.handles.length w.now =
      s!"{s!"ret {name} ok op {w.handles.length} {opKindName op.kind} {op.id} {op.generation}"} @{w.now}" :=
  ⟨rfl, rfl, rfl⟩

/-- **The machine never reads `handles`, `lastRes`, the trace or the stale per-POLL flags.** Take two
worlds with the same session, connection, transports, time, I/O decision, torn marks, log and suspended
future — whatever their handle lists, last results, traces and flags. Every directive (starting any
operation, one POLL with any decision, `go`, `tick`, `rx`, `cancel`, `drop`, …) takes them to two worlds
that again agree on all of those. For the Rust code: what the client does next does not depend on which
`Operation` handles the application holds or on what earlier calls returned. -/
theorem C13_machine_ignores_handles_and_results (a b : World) (h : a.fin = b.fin) (hf : a.fut = b.fut)
    (d : Directive) :
    (a.execDirective d).fin = (b.execDirective d).fin ∧ (a.execDirective d).fut = (b.execDirective d).fut := by
  have := fin_congr h hf [d]
  exact ⟨this.1, this.2.1⟩

/-- **The thirteen machine functions never read handles, last result or trace**, at any fuel (`CongrM` in
`Proofs/FinCongr.lean` lists them: flush loop, outbound step and its two awaits, the continuations of the
operations, the local `write_all` / flush, the CONNACK read, `drive_packet` and its read): each takes worlds
related by `HSim ha hb` — equal up to handles, last result and trace; handles `ha.handles ++ ops` and
`hb.handles ++ ops`; traces equal up to the handle indices — to worlds related by `HSim ha hb`. -/
theorem C13_machine_functions_ignore_handles (ha hb : World) (fuel : Nat) : CongrM ha hb fuel :=
  have H := (HSim.unread (ha := ha) (hb := hb)).keeps fuel
  ⟨fun _ b k => H (.FL b k), fun _ b ctx step now => H (.PS b ctx step now),
   fun _ b ctx pkt bytes wr len now => H (.DSW b ctx pkt bytes wr len now), fun _ b ctx pkt now => H (.DSF b ctx pkt now),
   fun _ b ctx adv => H (.SR b ctx adv), fun _ b k => H (.AF b k), fun _ b which bytes => H (.DLW b which bytes),
   fun _ b which => H (.DLF b which), fun _ b => H (.DCR b), fun _ b outer adv => H (.DL b outer adv),
   fun _ b outer adv => H (.DAS b outer adv), fun _ b outer => H (.DE b outer), fun _ b outer d y => H (.DWR b outer d y)⟩

/-- `HSim` holds to begin with for two worlds that differ only in handles and last result (`HSim.init` lets
the traces differ as well, as far as `TrRel` allows). -/
example (w : World) (hs : List Op) (lr : Option (Except Err Unit)) :
    HSim ({ w with handles := hs, lastRes := lr } : World) w ({ w with handles := hs, lastRes := lr } : World) w :=
  HSim.init rfl (TrRel.refl _ _ _)

/-- **Programs.** From two worlds that agree on `fin` and the suspended future, every program leads to two such
worlds: the continuations of the two runs agree, directive by directive, on session, connection, transports,
time, log and on whether / where an operation is suspended. -/
theorem C13_continuations_agree (a b : World) (h : a.fin = b.fin) (hf : a.fut = b.fut) (ds : List Directive) :
    (ds.foldl World.execDirective a).fin = (ds.foldl World.execDirective b).fin ∧
    (ds.foldl World.execDirective a).fut = (ds.foldl World.execDirective b).fut := by
  have := fin_congr h hf ds
  exact ⟨this.1, this.2.1⟩

/-- **Delivered messages and results agree.** The two continuations register the same new handles
(`ops`), and print new trace lines `newA`, `newB` of the same number that are equal position by position
— so the same `msg` lines (delivered messages), the same `ret … err …` / `ret … ok …` lines (results), the
same I/O events — except that where run A prints the `finishOp` line with handle index
`a.handles.length + i`, run B prints the same line (same operation name, same `Op`, same time) with index
`b.handles.length + i`, and `op` is the `i`-th new handle in both. If the two runs start with the same
number of handles the new lines are equal. The last results agree as soon as anything completed. -/
theorem C13_continuations_print_the_same (a b : World) (h : a.fin = b.fin) (hf : a.fut = b.fut)
    (ds : List Directive) :
    let a' := ds.foldl World.execDirective a
    let b' := ds.foldl World.execDirective b
    (∃ ops newA newB, a'.handles = a.handles ++ ops ∧ b'.handles = b.handles ++ ops ∧
      a'.out = newA ++ a.out ∧ b'.out = newB ++ b.out ∧ newA.length = newB.length ∧
      (∀ (n : Nat) (la lb : String), newA[n]? = some la → newB[n]? = some lb →
        la = lb ∨ ∃ name op i now, ops[i]? = some op ∧
          la = opLine name op (a.handles.length + i) now ∧ lb = opLine name op (b.handles.length + i) now) ∧
      (a.handles.length = b.handles.length → newA = newB)) ∧
    (a'.lastRes = b'.lastRes ∨ (a'.lastRes = a.lastRes ∧ b'.lastRes = b.lastRes)) := by
  intro a' b'
  obtain ⟨_, _, ⟨ops, newA, newB, e1, e2, e3, e4, ht⟩, h5⟩ := fin_congr h hf ds
  refine ⟨⟨ops, newA, newB, e1, e2, e3, e4, ht.length, ht.get, ?_⟩, h5⟩
  intro hl
  rw [hl] at ht
  exact ht.eq_of_eq

/-- **Plugged into the simulation.** Run A is suspended in the second flush of a publish (QoS 1/2),
subscribe or unsubscribe — the request is enqueued — and run B has dropped that future and polls
(`RF (.post name op) a b`, established by `C13_reentry_write` / `C13_reentry_flush` +
`C13_reentry_gives_RF`). Drive both with the same list `ks` of I/O decisions, one POLL each. Then either
both are still suspended at corresponding await points in the same state; or both operations have
completed, and from there on EVERY program `ds` — further publishes, polls, ticks, inbound bytes,
reconnects — takes the two runs through the same sessions, connections, transports, times and logs, makes
them register the same further handles, and print the same trace lines up to the handle index (`TrRel`,
spelled out in `C13_continuations_print_the_same`; run A holds one handle more: that of the completed
operation). Dropping the future and polling on is
indistinguishable, for everything that follows, from having awaited the operation — except that the
application did not get the handle. -/
theorem C13_post_then_any_program {name : String} {op : Op} {a b : World} (h : RF (.post name op) a b)
    (ks : List Nat) :
    let a1 := runD ks a
    let b1 := runD ks b
    RF (.post name op) a1 b1 ∨
    (a1.fut = none ∧ b1.fut = none ∧ a1.fin = b1.fin ∧
      ∀ ds : List Directive,
        let a' := ds.foldl World.execDirective a1
        let b' := ds.foldl World.execDirective b1
        a'.fin = b'.fin ∧ a'.fut = b'.fut ∧
        (∃ ops newA newB, a'.handles = a1.handles ++ ops ∧ b'.handles = b1.handles ++ ops ∧
          a'.out = newA ++ a1.out ∧ b'.out = newB ++ b1.out ∧
          TrRel a1.handles.length b1.handles.length ops newA newB) ∧
        (a'.lastRes = b'.lastRes ∨ (a'.lastRes = a1.lastRes ∧ b'.lastRes = b1.lastRes))) := by
  induction ks generalizing a b with
  | nil => exact Or.inl h
  | cons n ks ih =>
    rcases C13_post_completes_with_poll h n with h' | ⟨fa, fb, hfin⟩
    · exact ih h'
    · right
      have e : (a.execDirective (.d n)).fut = (b.execDirective (.d n)).fut := by rw [fa, fb]
      have hk := fin_congr hfin e (ks.map Directive.d)
      simp only [← runD_eq_foldl] at hk
      have ha1 : (runD (n :: ks) a).fut = none := runD_idle ks _ fa
      have hb1 : (runD (n :: ks) b).fut = none := runD_idle ks _ fb
      exact ⟨ha1, hb1, hk.1, fun ds => fin_congr hk.1 (ha1.trans hb1.symm) ds⟩

/-- The hypotheses are satisfiable with different handles, results, traces and flags: any world against
the same world with another handle list, another last result, another trace and other flags. -/
example (w : World) (o : Op) :
    let b : World := { w with handles := w.handles ++ [o], lastRes := some (.error .notReady), out := "x" :: w.out,
                              wakes := w.wakes + 1, lastIoStarved := !w.lastIoStarved }
    w.fin = b.fin ∧ w.fut = b.fut ∧ w.handles ≠ b.handles := by
  refine ⟨rfl, rfl, ?_⟩
  intro h
  have := congrArg List.length h
  simp at this

/-- A checkable description of "suspended at the `write` await of the outbound step inside the second
flush of the operation called `name`, at the world's time, transport not torn, no inbound packet waiting,
keep-alive timers not armed". -/
def suspendedInPost (name : String) (w : World) : Bool :=
  decide (w.nets.length ∉ w.tornNets) && !w.sess.reader.packetAvailable &&
  (match w.fut with
   | some (.stepWrite (.flush (.post nm _)) _ _ _ _ now) => decide (nm = name) && decide (now = w.now)
   | _ => false) && w.sess.rt.nextPing.isNone && w.sess.rt.pingTimeout.isNone

/-- A world the machine produced that passes the check, and the same world after the future was dropped
and `poll` started, satisfy `RF (.post name op)`. -/
theorem RF_of_suspendedInPost (cfg : Cfg) (ds : List Directive) (name : String) :
    let w := ds.foldl World.execDirective { sess := Session.new cfg }
    suspendedInPost name w = true → ∃ op, RF (.post name op) w (w.execDirective .poll) := by
  intro w hc
  simp only [suspendedInPost, Bool.and_eq_true, decide_eq_true_eq, Bool.not_eq_true', Option.isNone_iff_eq_none] at hc
  obtain ⟨⟨⟨⟨hnt, hav⟩, hm⟩, hnp⟩, hpt⟩ := hc
  have hcalm : KaCalm w.sess.rt w.now := .of_none hnp hpt
  split at hm
  · rename_i nm op pkt bytes wr len now hf
    simp only [Bool.and_eq_true, decide_eq_true_eq] at hm
    obtain ⟨rfl, rfl⟩ := hm
    obtain ⟨hr, hfb, _⟩ := C13_reentry_write cfg ds _ pkt bytes wr len .poll hnt hf hcalm
    exact ⟨op, C13_reentry_gives_RF w _ _ _ _ hr hav hcalm hf hfb (.write false pkt bytes wr len)⟩
  · cases hm

/-- The suspended world of `C13Machine` and its two continuations, evaluated once: the check
`suspendedInPost`, the two completed runs, and a second publish in both. -/
theorem C13M_pre1_eval :
    let w := C13M_pre1.foldl World.execDirective { sess := Session.new C13M_cfg }
    suspendedInPost "publish" w = true ∧
    (let wA := runD [250, 250] w
     let wB := runD [250, 250] (w.execDirective .poll)
     wA.fut.isNone = true ∧ wA.handles.length = 1 ∧ wB.handles.length = 0) ∧
    (let wA := ([C13M_pub, .d 250, .d 250] : List Directive).foldl World.execDirective (runD [250, 250] w)
     let wB := ([C13M_pub, .d 250, .d 250] : List Directive).foldl World.execDirective (runD [250, 250] (w.execDirective .poll))
     wA.handles.length = 2 ∧ wB.handles.length = 1 ∧ wA.handles.drop 1 = wB.handles ∧
     wB.handles.map (fun (o : Op) => o.id) = [2] ∧ wA.fut.isNone = true ∧ wB.fut.isNone = true ∧
     wA.nets.map (fun (n : Net) => n.wire) = wB.nets.map (fun (n : Net) => n.wire)) := by
  decide +kernel

/-- The suspended world of `C13Machine` (a QoS 1 publish of which 3 of 9 bytes are written, suspended in its
second flush) passes the check `suspendedInPost "publish"`, so it and the same world after the future was
dropped and `poll` started satisfy `RF (.post "publish" op)`: the hypothesis of `C13_post_then_any_program`. -/
theorem C13M_pre1_RF :
    ∃ op, RF (.post "publish" op) (C13M_pre1.foldl World.execDirective { sess := Session.new C13M_cfg })
      ((C13M_pre1.foldl World.execDirective { sess := Session.new C13M_cfg }).execDirective .poll) := by
  obtain ⟨h, _⟩ := C13M_pre1_eval
  exact RF_of_suspendedInPost C13M_cfg C13M_pre1 "publish" h

/-- **The concrete pair.** Run A: the publish is resumed and completes (`.d 250` twice: the write, the
flush). Run B: the future is dropped, `poll` is started and driven with the same decisions. Both have
completed; they agree on `fin` and on the future — the hypotheses of the theorems above — while run A
holds one handle and run B none; and every further program keeps them in agreement. -/
example :
    let w := C13M_pre1.foldl World.execDirective { sess := Session.new C13M_cfg }
    let wA := runD [250, 250] w
    let wB := runD [250, 250] (w.execDirective .poll)
    wA.fin = wB.fin ∧ wA.fut = wB.fut ∧ wA.handles.length = 1 ∧ wB.handles.length = 0 ∧
    ∀ ds : List Directive, (ds.foldl World.execDirective wA).fin = (ds.foldl World.execDirective wB).fin := by
  intro w wA wB
  obtain ⟨op, hrf⟩ := C13M_pre1_RF
  obtain ⟨_, ⟨hA, h1, h0⟩, _⟩ := C13M_pre1_eval
  rcases C13_post_then_any_program hrf [250, 250] with hr | ⟨fa, fb, hfin, hall⟩
  · obtain ⟨pa, _, hpa, _, _⟩ := hr.pcs
    rw [hpa] at hA
    cases hA
  · exact ⟨hfin, by rw [show wA.fut = none from fa, show wB.fut = none from fb], h1, h0, fun ds => (hall ds).1⟩

/-- A second publish after the concrete pair, completed in both: both runs register the same new handle (packet
identifier 2), run A as its second and run B as its first — `ret publish ok op 1 …` against
`ret publish ok op 0 …` in the traces — and the PUBLISH goes out on the same wire. -/
example :
    let w := C13M_pre1.foldl World.execDirective { sess := Session.new C13M_cfg }
    let wA := ([C13M_pub, .d 250, .d 250] : List Directive).foldl World.execDirective (runD [250, 250] w)
    let wB := ([C13M_pub, .d 250, .d 250] : List Directive).foldl World.execDirective (runD [250, 250] (w.execDirective .poll))
    wA.handles.length = 2 ∧ wB.handles.length = 1 ∧ wA.handles.drop 1 = wB.handles ∧
    wB.handles.map (fun (o : Op) => o.id) = [2] ∧ wA.fut.isNone = true ∧ wB.fut.isNone = true ∧
    wA.nets.map (fun (n : Net) => n.wire) = wB.nets.map (fun (n : Net) => n.wire) := by
  obtain ⟨_, _, h⟩ := C13M_pre1_eval
  exact h

end Minimq
