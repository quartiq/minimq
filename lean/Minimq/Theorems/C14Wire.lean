import Minimq.Proofs.WireTop
/-
C14, whole machine — the client never transmits a packet longer than the Maximum Packet Size of the
current CONNACK.

`Theorems/C14.lean` proves the local facts: `perform_outbound_step`, the QoS 0 publish path and
`disconnect` check the size before the first byte is offered, and a packet that is too large fails
with `PacketTooLarge`. This file proves the end-to-end statement for every program, as a strengthening
of the wire invariant of `Theorems/C01Wire.lean`: on a live connection the bytes accepted by the
current transport are the CONNECT, then whole framed packets each of which is within the limit, then
the written part of at most one more packet, which is within the limit as well.

Why the limit of the *current* connection is the right one: the Maximum Packet Size lives in
`Runtime.maximumPacketSize`; of the eighteen primitives through which the operations change the
session only `activate` writes it (`C14_maximum_set_only_by_connack`), `activate` runs only at the end
of `connect_handshake`, and at that moment the transport carries exactly one whole packet, the CONNECT
(this is the invariant at the `connRead` await point). Every later packet was checked against that
value when its first byte was offered — and the check is remembered for the packet in progress, so it
still holds when the write is resumed by a later operation.

The first packet, the CONNECT, is exempt: it is written before the broker has announced anything.
(`beginConnect` does not clear the limit of the previous connection, but CONNECT is not checked
against it either: `startConnect` has no size check.)

`tornNets` is the ghost mark of `C01Wire` (an operation-local write was dropped mid-packet on that
transport). The proof is the one of C01Wire with two more facts carried along: `WireIs` records the
limit for every whole packet after the first, and `WritePre`/`OState.writing`/`LocalPre` record it for
the packet in progress.
-/
namespace Minimq
open Gen World Outbound

/-- **Everything on the wire of a live connection, after the CONNECT, is within the broker's Maximum
Packet Size.** Run any program from the initial world and let `w` be the world it ends in. If the
connection is live and no operation-local write was dropped on the current transport, the bytes
accepted by the transport are `frames.flatten ++ part` where

 * `frames` is not empty, every element is a whole framed packet, the first one is a CONNECT (type
   nibble 1), and every other one is at most `m` bytes long whenever the CONNACK of this connection
   announced Maximum Packet Size `m` (`Fits (some m) n` is `n ≤ m`; `Fits none n` is true);
 * `part` is described as in `C01_wire_is_whole_packets`, and the packet it belongs to is within the
   limit too: either `part = []`; or exactly one queue entry is in progress, `part` is the first
   `n + 1` bytes of its packet `bytes`, and `bytes` is within the limit; or a QoS 0 PUBLISH or a
   DISCONNECT is being written from the suspended operation holding `rest`, and `part ++ rest` is a
   whole packet within the limit. -/
theorem C14_wire_frames_within_maximum (cfg : Cfg) (ds : List Directive) :
    let w := ds.foldl World.execDirective { sess := Session.new cfg }
    w.nets.length ∉ w.tornNets → w.live = true →
    ∃ (frames : List Bytes) (part : Bytes), w.curNet.wire = frames.flatten ++ part ∧ frames ≠ [] ∧
      (∀ f ∈ frames, Framed f) ∧ (∀ f ∈ frames.head?, IsConnect f) ∧
      (∀ f ∈ frames.drop 1, Fits w.sess.rt.maximumPacketSize f.length) ∧
      ((part = [] ∧ tearsPacket w.fut = false ∧ w.sess.data.outbound.NoPartial) ∨
       (∃ n bytes, part = bytes.take (n + 1) ∧ n + 1 < bytes.length ∧ Framed bytes ∧
          Fits w.sess.rt.maximumPacketSize bytes.length ∧ tearsPacket w.fut = false ∧
          w.sess.data.outbound.OnePartial n bytes) ∨
       (∃ rest, (w.fut = some (.q0Write rest) ∨ w.fut = some (.discWrite rest)) ∧
          Framed (part ++ rest) ∧ Fits w.sess.rt.maximumPacketSize (part ++ rest).length ∧
          w.sess.data.outbound.NoneInProgress)) := by
  intro w hnt hl
  have hinv := (Quiesce.produced cfg ds).winv
  obtain ⟨frames, part, hw, hfr, hhead, hfits, hne, hcase⟩ := hinv.wireFacts hnt (Or.inl hl)
  refine ⟨frames, part, hw, hne hl, hfr, hhead, hfits, ?_⟩
  rcases hcase with h1 | h2 | ⟨rest, hfut, hfr2, hq, hfit, hconn⟩
  · exact Or.inl h1
  · exact Or.inr (Or.inl h2)
  · refine Or.inr (Or.inr ⟨rest, ?_, hfr2, hfit hl, hq⟩)
    rcases hfut with hc | hq0 | hd
    · exact absurd (hconn hc).2 (hne hl)
    · exact Or.inl hq0
    · exact Or.inr hd

/-- `C14_wire_frames_within_maximum` with the limit spelled out: with Maximum Packet Size `m` announced by the CONNACK of the
current connection, every whole packet on the wire after the CONNECT is at most `m` bytes long. -/
theorem C14_wire_packet_lengths (cfg : Cfg) (ds : List Directive) (m : Nat) :
    let w := ds.foldl World.execDirective { sess := Session.new cfg }
    w.nets.length ∉ w.tornNets → w.live = true → w.sess.rt.maximumPacketSize = some m →
    ∃ (c : Bytes) (frames : List Bytes) (part : Bytes), w.curNet.wire = c ++ frames.flatten ++ part ∧
      Framed c ∧ IsConnect c ∧ (∀ f ∈ frames, Framed f ∧ f.length ≤ m) ∧
      (part = [] ∨ ∃ rest, Framed (part ++ rest) ∧ (part ++ rest).length ≤ m) := by
  intro w hnt hl hm
  obtain ⟨frames, part, hw, hne, hfr, hhead, hfits, hcase⟩ := C14_wire_frames_within_maximum cfg ds hnt hl
  cases frames with
  | nil => exact absurd rfl hne
  | cons c fs =>
    refine ⟨c, fs, part, by simpa using hw, hfr c (by simp), hhead c (by simp), ?_, ?_⟩
    · intro f hf
      exact ⟨hfr f (by simp [hf]), hfits f (by simpa using hf) m hm⟩
    · rcases hcase with ⟨h1, _⟩ | ⟨n, bytes, h1, _, h3, h4, _⟩ | ⟨rest, _, h2, h3, _⟩
      · exact Or.inl h1
      · right
        refine ⟨bytes.drop (n + 1), ?_, ?_⟩
        · rw [h1, List.take_append_drop]; exact h3
        · rw [h1, List.take_append_drop]; exact h4 m hm
      · exact Or.inr ⟨rest, h2, h3 m hm⟩

/-- **The limit is fixed by the CONNACK.** Every change the operations make to the session goes
through one of the primitives of `SessOps.lean` (`Prim`); each of them leaves the Maximum Packet Size
as it is, except `activate` — the part of `connect_handshake` that processes a CONNACK with a success reason
code. The statement does not ask that `activate` accept the CONNACK (no `.ok ()`, unlike the C03 and C06
analogues); a CONNACK it rejects leaves the value alone all the same, which is not stated here. -/
theorem C14_maximum_set_only_by_connack {s s' : Session} (h : Prim s s') :
    s'.rt.maximumPacketSize = s.rt.maximumPacketSize ∨ ∃ sp block now, s' = (s.activate sp block now).1 := by
  rcases h.frame with ha | ⟨_, _, _, _, _, _, _, _, _, rfl⟩
  · exact .inr ha
  · exact .inl rfl

/-- The configuration of `C01Wire_cfg`: its CONNECT has 29 bytes, which the examples drop from the wire. -/
def C14Wire_cfg : Cfg :=
  { rx := 64, tx := 128, keepaliveS := 0, expiry := 300, downgrade := false, clientId := [0x63], auth := none, will := none }

/-- connect; a CONNACK announcing Maximum Packet Size 12; a QoS 1 publish of 9 bytes, written and
flushed; a QoS 0 publish of 14 bytes (refused: `PacketTooLarge`, nothing written); a QoS 0 publish of 7
bytes of which the transport accepts 2. -/
def C14Wire_prog : List Directive :=
  [.connect, .rx [0x20, 0x08, 0x00, 0x00, 0x05, 0x27, 0x00, 0x00, 0x00, 0x0c], .go,
   .publish { qos := 1, retain := false, topic := [0x74], payload := .bytes [0x70], props := .slice [] }, .go,
   .publish { qos := 0, retain := false, topic := [0x74],
              payload := .bytes [0x70, 0x70, 0x70, 0x70, 0x70, 0x70, 0x70, 0x70, 0x70], props := .slice [] },
   .publish { qos := 0, retain := false, topic := [0x74], payload := .bytes [0x71], props := .slice [] }, .d 2]

/-- The hypotheses hold, the limit is 12, the CONNECT (29 bytes, longer than the limit: it is exempt)
is followed by the 9-byte PUBLISH and 2 bytes of the 7-byte one; the 14-byte one is not there. -/
example :
    let w := C14Wire_prog.foldl World.execDirective { sess := Session.new C14Wire_cfg }
    w.nets.length ∉ w.tornNets ∧ w.live = true ∧ w.sess.rt.maximumPacketSize = some 12 ∧
    w.curNet.wire.drop 29 = ([0x32, 0x07, 0x00, 0x01, 0x74, 0x00, 0x01, 0x00, 0x70, 0x30, 0x05] : Bytes) ∧
    (match w.lastRes with | some (.error .packetTooLarge) => true | _ => false) = true := by
  decide +kernel

end Minimq
