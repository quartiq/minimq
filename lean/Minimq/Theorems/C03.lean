import Minimq.Proofs.Packets
import Minimq.Theorems.C02
/-
C03 — the outbound QoS 2 exchange: PUBLISH, PUBREC, PUBREL, PUBCOMP, each leg once.

A QoS 2 PUBLISH awaiting its PUBREC is an entry of `Outbound.retained` whose first byte is a PUBLISH
header with QoS 2 (`AckKind.pubRec`). A PUBREL owed to the broker is an entry of `Outbound.release`
(`PendingRelease`: identifier, reason code, send state); what is transmitted for it is
`encodePubrel id rc` (`World.prepareStep`). `d.awaits id .pubRec` says that the retained list holds a
QoS 2 PUBLISH with identifier `id`; `d.acked id .pubRec` is the state with the first such entry
removed and the arena compacted.

The capacity of the release queue is a hypothesis wherever it matters (`C03_pubrec_success`,
`C03_capacity_needed`): that it is never exceeded on a live handle without the F5c deficit is
`C06_release_queue_has_room` (`Theorems/C06Room.lean`).
-/
namespace Minimq
open Gen Outbound

/-- **Everything a PUBREC can do.** If a QoS 2 PUBLISH with that identifier is retained, it is removed
(first such entry) in every case, and then: failure code → `Rejected`, quota restored, no PUBREL;
broker's Maximum Packet Size below 5 → `PacketTooLarge`, no PUBREL; release queue has room → a fresh
PUBREL entry for that identifier with reason Success is appended at the END of the queue; release queue
full → `InflightExhausted`, no PUBREL. If no such PUBLISH is retained nothing at all changes (duplicate
or stale PUBREC); the result is `Rejected` if the identifier has a release entry and the code is a
failure, `Ok` otherwise. -/
theorem C03_pubrec (d : SessionData) (r : Runtime) (id : Nat) (rs : ReasonIn) :
    handlePacket d r (.pubRec id rs) =
      if d.awaits id .pubRec then
        if !reasonSuccess rs.rc then (d.acked id .pubRec, quotaInc r, .error (.peerRejected rs.rc))
        else if r.packetTooLarge 5 then (d.acked id .pubRec, r, .error .packetTooLarge)
        else if d.outbound.release.length < MAX_PENDING_RELEASE then
          ((d.acked id .pubRec).withRelease id (d.outbound.ackedSer id .pubRec), r, .ok false)
        else (d.acked id .pubRec, r, .error .inflightExhausted)
      else if d.outbound.hasPendingRelease id && !reasonSuccess rs.rc then (d, r, .error (.peerRejected rs.rc))
      else (d, r, .ok false) :=
  handlePacket_pubRec d r id rs

/-- `queue_release` fails exactly when the release queue is full, and otherwise appends at the end.
(`ps`, the entry's `rser`/`pser` and the counter `nextRser` are ghost: the serial of the new release
entry, and the serial of the retained PUBLISH it continues.) -/
theorem C03_queueRelease (o : Outbound) (id rc ps : Nat) :
    o.queueRelease id rc ps = if o.release.length < MAX_PENDING_RELEASE then
      some { o with release := o.release ++ [{ id := id, rc := rc, state := .write 0, rser := o.nextRser, pser := ps }],
                    nextRser := o.nextRser + 1 } else none :=
  queueRelease_eq o id rc ps

/-- **Successful PUBREC that finds its PUBLISH** (release queue not full, PUBREL within the broker's
packet size limit): in this one step the retained PUBLISH is removed — exactly the first retained entry
`e` with that identifier whose first byte is a QoS 2 PUBLISH header; all other retained entries keep
serial, identifier, length, send state and order — and one fresh PUBREL entry with the same identifier
is appended at the end of the release queue. The control queue is untouched. -/
theorem C03_pubrec_success (d : SessionData) (r : Runtime) (id : Nat) (rs : ReasonIn)
    (hfound : d.awaits id .pubRec = true) (hok : reasonSuccess rs.rc = true)
    (hsz : r.packetTooLarge 5 = false) (hcap : d.outbound.release.length < MAX_PENDING_RELEASE) :
    let d' := (handlePacket d r (.pubRec id rs)).1
    (handlePacket d r (.pubRec id rs)).2 = (r, .ok false) ∧
    d'.outbound.release = d.outbound.release ++
      [{ id := id, rc := RC_Success, state := .write 0, rser := d.outbound.nextRser, pser := d.outbound.ackedSer id .pubRec }] ∧
    d'.outbound.control = d.outbound.control ∧
    ∃ l₁ e l₂, d.outbound.retained = l₁ ++ e :: l₂ ∧ (∀ x ∈ l₁, ackPred d.outbound id .pubRec x = false) ∧
      e.id = id ∧ AckKind.pubRec.acknowledges (d.outbound.headerAt e.offset) = true ∧
      d'.outbound.keys = (l₁ ++ l₂).map RetainedPacket.key := by
  have he : handlePacket d r (.pubRec id rs) =
      ((d.acked id .pubRec).withRelease id (d.outbound.ackedSer id .pubRec), r, .ok false) := by
    rw [C03_pubrec]; simp [hfound, hok, hsz, hcap]
  obtain ⟨f1, _, f3, _⟩ := ackPacket_frame d.outbound id .pubRec
  obtain ⟨l₁, e, l₂, e1, e2, e3, e4, e5⟩ := (C02_removeFirst d.outbound id .pubRec).2 hfound
  rw [he]
  exact ⟨rfl, (acked_withRelease d id .pubRec _).1, f3, l₁, e, l₂, e1, e2, e3, e4, e5 ▸ f1⟩

/-- **PUBREC with a failure code** ends the exchange: the PUBLISH is removed, no PUBREL entry is created,
the send quota is given back and the poll reports the rejection. -/
theorem C03_pubrec_failure (d : SessionData) (r : Runtime) (id : Nat) (rs : ReasonIn)
    (hfound : d.awaits id .pubRec = true) (hfail : reasonSuccess rs.rc = false) :
    handlePacket d r (.pubRec id rs) = (d.acked id .pubRec, quotaInc r, .error (.peerRejected rs.rc)) ∧
    (d.acked id .pubRec).outbound.release = d.outbound.release ∧
    (d.acked id .pubRec).outbound.keys =
      (removeFirst (ackPred d.outbound id .pubRec) d.outbound.retained).map RetainedPacket.key := by
  refine ⟨by rw [C03_pubrec]; simp [hfound, hfail], (ackPacket_frame d.outbound id .pubRec).2.1, (ackPacket_frame d.outbound id .pubRec).1⟩

/-- **Duplicate or stale PUBREC** (no QoS 2 PUBLISH with that identifier is retained — in particular
when the PUBREL for it is already queued): no queue, no counter, nothing changes. -/
theorem C03_pubrec_duplicate (d : SessionData) (r : Runtime) (id : Nat) (rs : ReasonIn)
    (hnot : d.awaits id .pubRec = false) :
    (handlePacket d r (.pubRec id rs)).1 = d ∧ (handlePacket d r (.pubRec id rs)).2.1 = r :=
  (handlePacket_ack d r rfl).1 hnot

/-- **A release entry is created only by a successful PUBREC that found its PUBLISH, and removed only by
a PUBCOMP**: the release queue after any inbound packet. -/
theorem C03_release_after_packet (d : SessionData) (r : Runtime) (p : Recv) :
    (handlePacket d r p).1.outbound.release =
      match p with
      | .pubRec id rs =>
        if d.awaits id .pubRec && reasonSuccess rs.rc && !r.packetTooLarge 5 &&
            decide (d.outbound.release.length < MAX_PENDING_RELEASE)
        then d.outbound.release ++ [{ id := id, rc := RC_Success, state := .write 0, rser := d.outbound.nextRser,
                                      pser := d.outbound.ackedSer id .pubRec }] else d.outbound.release
      | .pubComp id _ => removeFirst (fun e => e.id == id) d.outbound.release
      | _ => d.outbound.release :=
  (handlePacket_frame d r p).release

/-- **PUBCOMP**: removes the first release entry with that identifier (the others keep their order),
gives the send quota back, and reports a failure code as a rejection; without such an entry nothing
changes. -/
theorem C03_pubcomp (d : SessionData) (r : Runtime) (id : Nat) (rs : ReasonIn) :
    handlePacket d r (.pubComp id rs) =
      if d.outbound.hasPendingRelease id then
        ({ d with outbound := { d.outbound with release := removeFirst (fun e => e.id == id) d.outbound.release } },
          quotaInc r, if reasonSuccess rs.rc then .ok false else .error (.peerRejected rs.rc))
      else (d, r, .ok false) :=
  handlePacket_pubComp d r id rs

/-- The entries left by a PUBCOMP are the others, in their order. -/
theorem C03_pubcomp_keeps_order (l : List PendingRelease) (id : Nat) :
    (removeFirst (fun e => e.id == id) l).Sublist l ∧
    (l.any (fun e => e.id == id) = true →
      ∃ l₁ e l₂, l = l₁ ++ e :: l₂ ∧ (∀ x ∈ l₁, x.id ≠ id) ∧ e.id = id ∧
        removeFirst (fun e => e.id == id) l = l₁ ++ l₂) := by
  refine ⟨removeFirst_sublist _ _, fun h => ?_⟩
  obtain ⟨l₁, e, l₂, h1, h2, h3, h4⟩ := removeFirst_split h
  exact ⟨l₁, e, l₂, h1, fun x hx => by simpa using h2 x hx, by simpa using h3, h4⟩

/-- **Every other primitive step keeps the release entries**: identifiers, reason codes and order are
unchanged by every step that is not the handling of an inbound packet (see
`C03_release_after_packet`) or the CONNACK of a fresh broker session (which empties the queue). This
covers `arm_replay` on every disconnect and connect, and the CONNACK of a resumed session. -/
theorem C03_release_kept {s s' : Session} (st : SessStep s s') :
    s'.data.outbound.relKeys = s.data.outbound.relKeys ∨ (∃ p, s' = (s.handle p).1) ∨
    (∃ block now, s' = (s.activate false block now).1 ∧ s'.data.outbound.release = []) := by
  rcases st.classify with hq | h | ⟨block, now, rfl⟩
  · exact Or.inl hq.out.release
  · exact Or.inr (Or.inl h)
  · exact Or.inr (Or.inr ⟨block, now, rfl, (activate_false_data s block now).2.2.2.1⟩)

/-- **In every execution** a PUBREL owed for `id` at the start that is no longer owed at the end was
dropped by one identifiable step: the handling of a PUBCOMP with that identifier, or the CONNACK of a
fresh broker session. Until then it stays in the release queue and is replayed on every resume. -/
theorem C03_pubrel_dropped_only_by_pubcomp_or_fresh_session {I : Session → Prop} (hI : Closed I) (w : World)
    (ds : List Directive) (h : I w.sess) {id : Nat} (h1 : w.sess.data.outbound.hasPendingRelease id = true)
    (h2 : (ds.foldl World.execDirective w).sess.data.outbound.hasPendingRelease id = false) :
    ∃ a b, Reach I w.sess a ∧ SessStep a b ∧ Reach I b (ds.foldl World.execDirective w).sess ∧
      a.data.outbound.hasPendingRelease id = true ∧
      ((∃ rs, b = (a.handle (.pubComp id rs)).1) ∨ (∃ block now, b = (a.activate false block now).1)) := by
  refine (run_reach hI ds w h).first_change (P := fun s => s.data.outbound.hasPendingRelease id = true) h1
    (by rw [h2]; nofun) fun {a b} st ha hb => ?_
  replace hb : b.data.outbound.hasPendingRelease id = false := by simpa using hb
  -- the step that drops the entry: not a quiet one, and of the inbound packets only the PUBCOMP with this identifier
  rcases st.classify with hq | ⟨p, rfl⟩ | ⟨block, now, rfl⟩
  · rw [hq.out.hasPendingRelease_eq, ha] at hb; cases hb
  · by_cases hc : ∃ rs, p = .pubComp id rs
    · obtain ⟨rs, rfl⟩ := hc; exact .inl ⟨rs, rfl⟩
    · rw [Session.handle_fst_data, handlePacket_hasPendingRelease _ _ _ _ ha fun rs h => hc ⟨rs, h⟩] at hb
      cases hb
  · exact .inr ⟨block, now, rfl⟩

/-- **Replay**: `arm_replay` keeps every release entry (identifier, reason, order) and marks it fresh;
afterwards the PUBRELs are transmitted before any retained packet, oldest first (after owed
acknowledgements) — and a retained PUBLISH is offered only when no release entry is fresh. -/
theorem C03_replay (o : Outbound) :
    o.armReplay.release = o.release.map (fun e => { e with state := .write 0 }) ∧
    o.armReplay.nextStep =
      (match o.control, o.release, o.retained with
      | c :: _, _, _ => some (.control c.action (.write 0))
      | [], x :: _, _ => some (.release x.id x.rc (.write 0))
      | [], [], e :: _ => some (.retained e.id e.offset e.len (.write 0))
      | [], [], [] => none) :=
  ⟨(armReplay_queues o).2.1, armReplay_nextStep o⟩

/-- The PUBREL offered for transmission is the first entry of the release queue in the wanted send
state: PUBRELs go out in the order in which the PUBRECs were received. -/
theorem C03_pubrel_order {o : Outbound} {ip : Bool} {id rc : Nat} {st : SendState}
    (h : o.nextStepPrio ip = some (.release id rc st)) :
    ∃ l₁ e l₂, o.release = l₁ ++ e :: l₂ ∧ (∀ x ∈ l₁, x.state.matchesPriority ip = false) ∧
      e.id = id ∧ e.rc = rc ∧ e.state = st ∧ st.matchesPriority ip = true :=
  (nextStepPrio_release h).2

/-- The scheduler offers no entry whose state is `sent`, of whichever queue; for a release entry that is the
local half of "PUBREL once per connection". The statement names neither PUBREL nor a connection: on the
wire it is `C03_pubrel_at_most_once_on_every_connection` (`Theorems/C03Wire.lean`). -/
theorem C03_pubrel_once_per_connection {o : Outbound} {st : Outbound.Step} (h : o.nextStep = some st) :
    st.state ≠ .sent :=
  nextStep_not_sent o st h

/-- **The PUBREL carries exactly that identifier**: the five bytes written for a release entry are read
back by the reference parser as a PUBREL (type 6, flags 2) with the entry's identifier and reason. -/
theorem C03_pubrel_bytes (id rc : Nat) :
    encodePubrel id rc = .ok (pubrelBytes id rc) ∧
    (0 < id ∧ id < 65536 → rc < 256 → ∀ rest,
      Spec.parseClientPacket (pubrelBytes id rc ++ rest) = some (.ack 6 id rc [], rest)) :=
  ⟨encodePubrel_eq id rc, fun hid hrc rest =>
    ack_roundtrip _ _ 6 2 id rc _ rest (by simp) (by simp) hid hrc (ackChunks_encode MT_PubRel FLAGS_PubRel id rc)⟩

/-- **After its PUBREC the PUBLISH is never sent again**, first half: the PUBREC step removes the packet with serial
`e.ser` from the retained list (serials are distinct, `SerInv`). -/
theorem C03_publish_removed (d : SessionData) (r : Runtime) (id : Nat) (rs : ReasonIn)
    (hser : d.outbound.SerInv) (hfound : d.awaits id .pubRec = true) :
    ∃ e ∈ d.outbound.retained, e.id = id ∧ e.ser < d.outbound.nextSer ∧
      e.ser ∉ (handlePacket d r (.pubRec id rs)).1.outbound.sers ∧
      (handlePacket d r (.pubRec id rs)).1.outbound.nextSer = d.outbound.nextSer := by
  obtain ⟨l₁, e, l₂, e1, _, e3, _, e4⟩ := (C02_removeFirst d.outbound id .pubRec).2 hfound
  have hmem : e ∈ d.outbound.retained := by rw [e1]; simp
  have hk := (handlePacket_frame d r (.pubRec id rs)).keys
  simp only [Recv.ackOf] at hk
  refine ⟨e, hmem, e3, hser.lt e hmem, ?_, ?_⟩
  · rw [sers_eq_keys, hk, e4, List.map_map]
    exact SerInv.removed_gone hser e1
  · exact (handlePacket_frame d r _).nextSer

/-- Second half: whatever a program does — more publishes, acknowledgements, reconnects, replays —
a packet whose serial has been handed out and is no longer retained is never retained again, so it can
never again be offered for transmission (`nextStep` only offers retained entries). -/
theorem C03_publish_never_returns (w : World) (ds : List Directive)
    (h : w.sess.data.outbound.ArenaInv ∧ w.sess.data.outbound.SerInv) {ser : Nat}
    (hlt : ser < w.sess.data.outbound.nextSer) (hg : ser ∉ w.sess.data.outbound.sers) :
    ser ∉ (ds.foldl World.execDirective w).sess.data.outbound.sers :=
  (C17_all_programs_from w ds h).2.1.gone_stays_gone hlt hg

def C03_rt : Runtime := { keepaliveMs := 0, configuredKeepaliveMs := 0 }

/-- One retained QoS 2 PUBLISH (first byte 0x34) with identifier 5, already sent. -/
def C03_ex : SessionData :=
  { outbound := { (Outbound.new 8) with
      buf := [0x34, 5, 0, 1, 0x61, 0, 5, 0], used := 7, nextSer := 1,
      retained := [{ id := 5, offset := 0, len := 7, state := .sent, ser := 0 }] } }

/-- Non-vacuity: PUBREC(5) moves the exchange from the retained list to the release queue; a second
PUBREC(5) changes nothing; PUBCOMP(5) empties the release queue; a failing PUBREC creates no PUBREL. -/
example :
    C03_ex.awaits 5 .pubRec = true ∧ C03_ex.outbound.SerInv ∧
    (handlePacket C03_ex C03_rt (.pubRec 5 { code := none, props := none })).1.outbound.retained = [] ∧
    (handlePacket C03_ex C03_rt (.pubRec 5 { code := none, props := none })).1.outbound.release =
      [{ id := 5, rc := 0, state := .write 0 }] ∧
    (let d1 := (handlePacket C03_ex C03_rt (.pubRec 5 { code := none, props := none })).1
     (handlePacket d1 C03_rt (.pubRec 5 { code := none, props := none })).1.outbound.release = d1.outbound.release ∧
     (handlePacket d1 C03_rt (.pubComp 5 { code := none, props := none })).1.outbound.release = []) ∧
    (handlePacket C03_ex C03_rt (.pubRec 5 { code := some 0x97, props := none })).1.outbound.release = [] ∧
    (handlePacket C03_ex C03_rt (.pubRec 5 { code := some 0x97, props := none })).1.outbound.retained = [] := by
  refine ⟨by decide, ⟨by simp [C03_ex, Outbound.new], by simp [C03_ex, Outbound.new]⟩, by decide, by decide,
    ⟨by decide, by decide⟩, by decide, by decide⟩

def C03_full : SessionData :=
  { C03_ex with outbound := { C03_ex.outbound with
      release := List.replicate 8 { id := 9, rc := 0, state := .sent } } }

/-- **Why the capacity hypothesis is needed**: with the release queue full, a successful PUBREC removes
the PUBLISH and fails with `InflightExhausted`; no PUBREL for identifier 5 exists or will ever be sent,
and the operation handle reports `complete`. Ruled out in reachable states only by the send-quota
invariant (`C06_quota_books_balance`), unless the F5c deficit flag is set. -/
theorem C03_capacity_needed :
    let res := handlePacket C03_full C03_rt (.pubRec 5 { code := none, props := none })
    res.1.outbound.retained = [] ∧ res.1.outbound.hasPendingRelease 5 = false ∧
    res.1.status { kind := .pub2, id := 5, generation := 0 } = .complete := by
  refine ⟨by decide, by decide, by decide⟩

end Minimq
