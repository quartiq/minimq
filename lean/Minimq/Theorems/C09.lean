import Minimq.Proofs.Packets
import Minimq.World
/-
C09 — what the broker decodes is exactly what the application asked to send.

Every theorem quantifies over all field values and all lengths (so over all four widths of the
remaining length) and over all buffer capacities. The decoder on the right-hand side is the
independent reference `Spec.parseClientPacket` (Spec/Mqtt5.lean). Validity hypotheses are the
crate's own checks (`validFor`, regenerated from src/properties.rs); their agreement with the
specification's table is C19's theorem, used here through `legal_of_validFor`.
-/
namespace Minimq
open Gen

/-- `Property::size` is the number of bytes `impl Serialize for Property` emits (27 kinds). -/
theorem C09_property_size (p : Property) (out : Bytes) (hwf : p.wf = true) (h : p.encode = .ok out) :
    out.length = p.size :=
  Property.size_eq_encode_length p out h

/-- An encoder either fails or returns header + remaining length + body: it succeeds exactly when
every field can be produced (no string or binary field above 65535 bytes), the body fits behind the
five reserved header bytes of the buffer it was given, and the body length is a legal remaining
length. Nothing truncated is ever returned. -/
theorem C09_encode_exact (cap : Nat) (cs : List (Except SerErr Bytes)) (typ flags : Nat) :
    (∃ off pkt, encodeWithOffset cap cs typ flags = .ok (off, pkt)) ↔
      (∃ body, catChunks cs = .ok body ∧ MAX_FIXED_HEADER_SIZE + body.length ≤ cap ∧
        body.length ≤ MQTT_VARINT_MAX) := by
  constructor
  · rintro ⟨off, pkt, h⟩
    obtain ⟨body, hb, e, hfit⟩ := encodeWithOffset_ok h
    exact ⟨body, hb, hfit, e.max⟩
  · rintro ⟨body, hb, hfit, hmax⟩
    exact ⟨_, _, encodeWithOffset_complete hb hfit hmax⟩

/-- …and when it succeeds the packet is exactly fixed header, canonical remaining length, body,
starting at the returned offset of the buffer. -/
theorem C09_encode_layout (cap off : Nat) (cs : List (Except SerErr Bytes)) (typ flags : Nat) (pkt : Bytes)
    (h : encodeWithOffset cap cs typ flags = .ok (off, pkt)) :
    ∃ body, catChunks cs = .ok body ∧
      pkt = b (typ * 16 + flags % 16) :: (encodeVarint body.length ++ body) ∧
      off + pkt.length = MAX_FIXED_HEADER_SIZE + body.length :=
  (encodeWithOffset_ok h).imp fun _ e => ⟨e.1, e.2.1.pkt_eq, e.2.1.layout⟩

/-- PUBLISH as `encode_publish_with_offset` writes it, for every QoS with the identifier that goes with it, every
topic, payload and list of properties valid for PUBLISH: the reference reads back exactly this publication
(DUP clear) and stops where the packet ends. -/
theorem C09_publish (cap off : Nat) (h : PublishHeader) (payload pkt rest : Bytes)
    (hq : h.qos ≤ 2) (hdup : h.dup = false)
    (hid : match h.packetId with
      | some i => 0 < i ∧ i < 65536 ∧ 0 < h.qos
      | none => h.qos = 0)
    (htopic : validUtf8 h.topic = true)
    (henc : h.props.isEncoded = false)
    (hwf : ∀ p ∈ h.props.items, p.wf = true)
    (hvalid : ∀ p ∈ h.props.items, p.validFor .Publish = true)
    (he : encodePublishWithOffset cap h (.bytes payload) = .ok (off, pkt)) :
    Spec.parseClientPacket (pkt ++ rest) =
      some (.publish false h.qos h.retain h.topic h.packetId (h.props.items.map Property.toSpec) payload, rest) :=
  publish_roundtrip cap off h payload pkt rest hq hdup hid htopic henc hwf
    (legal_of_validFor .Publish h.props.items hwf hvalid) he

/-- `Publication::correlate` puts the correlation data in front of the user properties, and
`properties()` after `correlate()` keeps it (the two orders of the builder calls). -/
theorem C09_correlation_kept (ps qs : List Property) (c : Bytes) :
    (((Properties.slice qs).withCorrelationData c).withProperties ps).items = corrProp c :: ps ∧
    (((Properties.slice []).withProperties ps).withCorrelationData c).items = corrProp c :: ps := by
  simp [Properties.withCorrelationData, Properties.withProperties, Properties.items]

/-- SUBSCRIBE (all 3×2×2×3 option combinations). -/
theorem C09_subscribe (cap off id : Nat) (props : List Property) (ts : List TopicFilter) (pkt rest : Bytes)
    (hid : 0 < id ∧ id < 65536) (hne : ts ≠ [])
    (hts : ∀ t ∈ ts, validUtf8 t.topic = true ∧ t.opts.wf = true)
    (hwf : ∀ p ∈ props, p.wf = true) (hvalid : ∀ p ∈ props, p.validFor .Subscribe = true)
    (he : encodeWithOffset cap (subscribeChunks id (.slice props) ts) MT_Subscribe FLAGS_Subscribe = .ok (off, pkt)) :
    Spec.parseClientPacket (pkt ++ rest) =
      some (.subscribe id (props.map Property.toSpec) (ts.map TopicFilter.toSpec), rest) := by
  have hlegal := legal_of_validFor .Subscribe props hwf hvalid
  obtain ⟨body, hb, hp⟩ := encoded_frame rest he (by decide) (by decide)
  rw [hp]
  simp only [subscribeChunks, List.cons_append, List.nil_append] at hb
  obtain ⟨r1, h1, p1⟩ := chunk_u16 hb hid.2
  obtain ⟨r2, h2, p2⟩ := chunk_slice .subscribe props h1 hwf hlegal
  have hi0 : ¬ id = 0 := by omega
  obtain ⟨t, ts, rfl⟩ := List.exists_cons_of_ne_nil hne
  simp only [Spec.parseBody, MT_Subscribe, FLAGS_Subscribe, ↓reduceIte, Nat.reduceEqDiff, decide_false,
    Bool.or_false, Bool.false_eq_true, ne_eq, not_true_eq_false, p1, hi0, p2,
    spec_filters_encode _ r2 r2.length hts h2 (Nat.le_refl _), List.map_cons, Option.map]

/-- UNSUBSCRIBE: the identifier, the properties and the non-empty list of topic filters come back. -/
theorem C09_unsubscribe (cap off id : Nat) (props : List Property) (ts : List Bytes) (pkt rest : Bytes)
    (hid : 0 < id ∧ id < 65536) (hne : ts ≠ []) (hts : ∀ t ∈ ts, validUtf8 t = true)
    (hwf : ∀ p ∈ props, p.wf = true) (hvalid : ∀ p ∈ props, p.validFor .Unsubscribe = true)
    (he : encodeWithOffset cap (unsubscribeChunks id (.slice props) ts) MT_Unsubscribe FLAGS_Unsubscribe = .ok (off, pkt)) :
    Spec.parseClientPacket (pkt ++ rest) = some (.unsubscribe id (props.map Property.toSpec) ts, rest) := by
  have hlegal := legal_of_validFor .Unsubscribe props hwf hvalid
  obtain ⟨body, hb, hp⟩ := encoded_frame rest he (by decide) (by decide)
  rw [hp]
  simp only [unsubscribeChunks, List.cons_append, List.nil_append] at hb
  obtain ⟨r1, h1, p1⟩ := chunk_u16 hb hid.2
  obtain ⟨r2, h2, p2⟩ := chunk_slice .unsubscribe props h1 hwf hlegal
  have hi0 : ¬ id = 0 := by omega
  obtain ⟨t, ts, rfl⟩ := List.exists_cons_of_ne_nil hne
  simp only [Spec.parseBody, MT_Unsubscribe, FLAGS_Unsubscribe, ↓reduceIte, Nat.reduceEqDiff, decide_false,
    Bool.or_false, Bool.false_eq_true, ne_eq, not_true_eq_false, p1, hi0, p2,
    spec_topics_encode _ r2 r2.length hts h2 (Nat.le_refl _), Option.map]

theorem Except.map_eq_ok {ε α β : Type} {x : Except ε α} {f : α → β} {y : β} (h : x.map f = .ok y) :
    ∃ r, x = .ok r ∧ f r = y := by
  cases x with
  | error e => cases h
  | ok r => cases h; exact ⟨r, rfl, rfl⟩

/-- PUBACK, PUBREC, PUBCOMP and PINGREQ as queued by the session (9-byte stack buffer). -/
theorem C09_control (a : ControlAction) (pkt rest : Bytes)
    (htyp : a.typ = MT_PubAck ∨ a.typ = MT_PubRec ∨ a.typ = MT_PubComp ∨ a.typ = MT_PingReq)
    (hid : a.typ ≠ MT_PingReq → 0 < a.id ∧ a.id < 65536) (hrc : a.rc < 256)
    (he : encodeControl a = .ok pkt) :
    Spec.parseClientPacket (pkt ++ rest) =
      some (if a.typ = MT_PingReq then .pingreq else .ack a.typ a.id a.rc [], rest) := by
  obtain ⟨⟨off, pkt⟩, h, rfl⟩ := Except.map_eq_ok he
  by_cases hp : a.typ = MT_PingReq
  · rw [hp] at h
    rw [if_pos hp]
    exact pingreq_roundtrip CONTROL_PACKET_LEN off pkt rest h
  · rw [if_neg hp] at h ⊢
    refine ack_roundtrip CONTROL_PACKET_LEN off a.typ _ a.id a.rc pkt rest ?_ ?_ (hid hp) hrc h
    · rcases htyp with h1 | h1 | h1 | h1
      · exact .inl h1
      · exact .inr (.inl h1)
      · exact .inr (.inr (.inr h1))
      · exact absurd h1 hp
    · rcases htyp with h1 | h1 | h1 | h1 <;> first | (rw [h1]; rfl) | exact absurd h1 hp

/-- PUBREL as `serialize_pubrel` writes it into its stack buffer: identifier and reason code come back, with
no properties. -/
theorem C09_pubrel (id rc : Nat) (pkt rest : Bytes) (hid : 0 < id ∧ id < 65536) (hrc : rc < 256)
    (he : encodePubrel id rc = .ok pkt) :
    Spec.parseClientPacket (pkt ++ rest) = some (.ack MT_PubRel id rc [], rest) := by
  obtain ⟨⟨off, pkt⟩, h, rfl⟩ := Except.map_eq_ok he
  exact ack_roundtrip CONTROL_PACKET_LEN off MT_PubRel FLAGS_PubRel id rc pkt rest (by decide) (by decide) hid hrc h

/-- DISCONNECT (reason code and properties). -/
theorem C09_disconnect (cap off : Nat) (d : Disconnect) (pkt rest : Bytes)
    (hrc : ∀ rc, d.reason = some rc → rc < 256)
    (hshape : d.props.isSome = true → d.reason.isSome = true)
    (hwf : ∀ ps, d.props = some ps → ∀ p ∈ ps, p.wf = true)
    (hvalid : ∀ ps, d.props = some ps → ∀ p ∈ ps, p.validFor .Disconnect = true)
    (he : encodeWithOffset cap d.chunks MT_Disconnect FLAGS_Disconnect = .ok (off, pkt)) :
    Spec.parseClientPacket (pkt ++ rest) =
      some (.disconnect (d.reason.getD 0) ((d.props.getD []).map Property.toSpec), rest) := by
  have hlegal := fun ps hps => legal_of_validFor .Disconnect ps (hwf ps hps) (hvalid ps hps)
  obtain ⟨body, hb, hp⟩ := encoded_frame rest he (by decide) (by decide)
  rw [hp]
  simp only [Spec.parseBody, MT_Disconnect, FLAGS_Disconnect, ↓reduceIte, Nat.reduceEqDiff, decide_false,
    Bool.or_false, Bool.false_eq_true, ne_eq, not_true_eq_false]
  unfold Disconnect.chunks at hb
  cases hr : d.reason with
  | none =>
    cases hp : d.props with
    | some ps => rw [hp, hr] at hshape; cases hshape rfl
    | none => rw [hr, hp] at hb; cases catChunks_nil hb; rfl
  | some rc =>
    simp only [hr, List.cons_append, List.nil_append] at hb
    obtain ⟨r1, h1, rfl⟩ := chunk_raw hb
    have hbyte : (b rc).toNat = rc := by rw [b_toNat, Nat.mod_eq_of_lt (hrc rc hr)]
    cases hp : d.props with
    | none =>
      rw [hp] at h1
      cases catChunks_nil h1
      simp only [List.singleton_append, hbyte, Option.map, Option.getD, List.map_nil]
    | some ps =>
      simp only [hp] at h1
      rw [← List.append_nil (Properties.chunks _)] at h1
      obtain ⟨r2, h2, p2⟩ := chunk_slice .disconnect ps h1 (hwf ps hp) (hlegal ps hp)
      cases catChunks_nil h2
      obtain ⟨x, xs, rfl⟩ := spec_props_ne_nil p2
      simp only [List.singleton_append, p2, hbyte, Option.map, Option.getD]

/-- `Disconnect::with_properties` always supplies a reason code, so the builder's output meets the
shape hypothesis of `C09_disconnect`. -/
theorem C09_disconnect_builder (rc : Option Nat) (ps : Option (List Property)) :
    (Disconnect.build rc ps).props.isSome = true → (Disconnect.build rc ps).reason.isSome = true := by
  cases ps <;> simp [Disconnect.build]

/-- CONNECT: client identifier, clean start, keep-alive, session expiry, receive maximum, maximum
packet size, will (QoS, retain, properties, topic, payload), user name and password. -/
theorem C09_connect (cap off rx expiry : Nat) (c : Connect) (pkt rest : Bytes)
    (hrx : 0 < rx ∧ rx < 4294967296) (hexp : expiry < 4294967296)
    (hka : c.keepalive < 65536) (hcid : validUtf8 c.clientId = true)
    (hprops : c.props = .slice (connectProps rx expiry))
    (hwill : ∀ w, c.will = some w → w.qos ≤ 2 ∧ validUtf8 w.topic = true ∧ (∀ p ∈ w.props, p.wf = true) ∧
        (∀ p ∈ w.props, p.validFor .Will = true))
    (hauth : ∀ a, c.auth = some a → validUtf8 a.user = true)
    (he : encodeConnect cap c = .ok (off, pkt)) :
    Spec.parseClientPacket (pkt ++ rest) =
      some (.connect c.cleanStart c.keepalive
              [{ id := 0x27, val := .four rx }, { id := 0x11, val := .four expiry }, { id := 0x21, val := .two MAX_INBOUND_QOS2 }]
              c.clientId (c.will.map Will.toSpec) (c.auth.map (·.user)) (c.auth.map (·.pass)), rest) := by
  obtain ⟨hwf, hlegal⟩ := connectProps_ok rx expiry hrx.1 hrx.2 hexp
  have := connect_roundtrip cap off c (connectProps rx expiry) pkt rest hka hcid hprops hwf hlegal
    (fun w hw => by
      obtain ⟨a1, a2, a3, a4⟩ := hwill w hw
      exact ⟨a1, a2, a3, legal_of_validFor .Will w.props a3 a4⟩) hauth he
  rw [this]
  simp [connectProps, Property.toSpec, PropKind.serShape, PropKind.id]

/-- The CONNECT that `Session::connect` builds: the keep-alive is the *configured* value (not a
previous broker's Server Keep Alive), clean start is the negation of "a session is present", the
client identifier is the current one, and the three properties are `connectProps` with the size of
the receive buffer. -/
theorem C09_connect_fields (s : Session) :
    s.connectPacket.keepalive = s.rt.configuredKeepaliveMs / 1000 ∧
    s.connectPacket.cleanStart = !s.data.sessionPresent ∧ s.connectPacket.clientId = s.clientId ∧
    s.connectPacket.props = .slice (connectProps s.reader.cap s.expiry) ∧
    s.connectPacket.will = s.will ∧ s.connectPacket.auth = s.auth :=
  ⟨rfl, rfl, rfl, rfl, rfl, rfl⟩

/-- The encoder succeeds on a PUBLISH with correlation data, a user property and a payload. (That it meets
the hypotheses of `C09_publish` is not checked here.) -/
example : ∃ off pkt, encodePublishWithOffset 64
    { topic := [0x61], packetId := some 7, props := .withCorrelation (corrProp [1, 2]) [{ kind := .UserProperty, val := .p [0x6b] [0x76] }],
      retain := true, qos := 1, dup := false } (.bytes [0xAA]) = .ok (off, pkt) := by
  exact ⟨_, _, rfl⟩

end Minimq
