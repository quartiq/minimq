import Minimq.Proofs.LatchMachine
/-
C11 — a dead connection handle stays dead: the whole-program part.

`Theorems/C11.lean` shows that `dead` is absorbing and that each fatal exit of each machine function calls
`handle_disconnect`. Here: over ALL programs,

(1) no fatal result (transport error, `Disconnected` = end of stream / broker DISCONNECT / keep-alive
    timeout, invalid inbound packet) is ever reported while the handle stays live
    (`C11_fatal_result_means_dead`; `latch_step` for the machine, `Interp.inv` for programs);
(2) a `disconnect()` that completes — at once or after any number of resumptions — leaves a dead handle,
    unless it refused locally before offering a byte of the DISCONNECT to the transport
    (`C11_disconnect_completed_means_dead`, `C11_disconnect_resumed_means_dead`, `C11_disconnect_run`).
    The machine runs with the fuel of a POLL, which is never used up (`Fuel.run_pollFuel_ind`): there is
    no hypothesis about a `fuel` line.
-/
namespace Minimq
open Gen World

/-- **No fatal result with a live handle, ever.** Run any program (any list of API calls, I/O decisions,
clock ticks, inbound bytes, cancellations, drops, reconnects) from the initial state. At every point —
also while an operation is suspended — if the call that completed last returned a transport error,
`Disconnected` (end of stream, broker DISCONNECT, keep-alive timeout) or `Peer(InvalidPacket)`, then
`is_connected()` is false: every path of the modelled operations that returns one of these errors has called
`handle_disconnect()` first, or ran without a live handle (the `!live` guards; `connect`, which reports
its transport errors before a handle exists). -/
theorem C11_fatal_result_means_dead (cfg : Cfg) (ds : List Directive) :
    Latched (ds.foldl World.execDirective { sess := Session.new cfg }) :=
  ((latch_init cfg).interp (run_interp ds _)).latched

/-- The invariant behind it (what had to be added to make `Latched` inductive): while a `connect` is
suspended at one of its await points there is no live handle — `Session::connect` takes `&mut self`, so
the old handle is gone before the first byte of CONNECT is written, and the new one appears only with the
accepted CONNACK. This is why `connect` may return `Transport(..)`/`Disconnected` without calling
`handle_disconnect`. -/
theorem C11_connect_in_progress_has_no_live_handle (cfg : Cfg) (ds : List Directive) (pc : Pc)
    (hf : (ds.foldl World.execDirective { sess := Session.new cfg }).fut = some pc) (hc : pc.isConn = true) :
    (ds.foldl World.execDirective { sess := Session.new cfg }).live = false :=
  ((latch_init cfg).interp (run_interp ds _)).2 pc hf hc

/-- Together with `C11_dead_stays_dead`: if the last result is fatal, a handle exists and nothing is
suspended, the handle is `dead` in the sense of `Theorems/C11.lean` — so every further network operation
returns `Disconnected` (`disconnect` returns `Ok`) without touching the transport, for good. -/
theorem C11_fatal_result_handle_is_dead (cfg : Cfg) (ds : List Directive) (e : Err)
    (hr : (ds.foldl World.execDirective { sess := Session.new cfg }).lastRes = some (.error e))
    (he : e.fatal = true)
    (hc : (ds.foldl World.execDirective { sess := Session.new cfg }).conn.isSome = true)
    (hf : (ds.foldl World.execDirective { sess := Session.new cfg }).fut = none) :
    (ds.foldl World.execDirective { sess := Session.new cfg }).dead := by
  have hl := C11_fatal_result_means_dead cfg ds e hr he
  generalize ds.foldl World.execDirective { sess := Session.new cfg } = w at *
  cases hw : w.conn with
  | none => rw [hw] at hc; cases hc
  | some c =>
    refine ⟨⟨c, hw, ?_⟩, hf⟩
    simpa [World.live, hw] using hl

/-- The same from any state that satisfies the invariant (e.g. any reachable one): one more API call or
event keeps it. -/
theorem C11_fatal_result_step (w : World) (d : Directive) (h : LatchInv w) : LatchInv (w.execDirective d) :=
  h.interp (exec_interp w d)

/-- **`disconnect()` that returns leaves a dead handle** — in any state whatsoever. If the call completes
at once (`fut = none`: no await returned `Pending`), then either the handle is dead (`is_connected()` is
false: the DISCONNECT went out, or any write/flush/encoding step of the preliminary `flush_outbound`
failed, or the handle was dead already, or there is no handle), or the call refused locally with
`InvalidRequest` / `BufferTooSmall` / `PacketTooLarge` — the property check at the top of
`disconnect_with`, or `MqttSerializer::encode(&mut buffer, &disconnect)?` /
`require_packet_size(packet.len())?` after a successful flush — before any byte of the DISCONNECT was
offered to the transport. No assumption on the state. -/
theorem C11_disconnect_completed_means_dead (w : World) (d : Disconnect)
    (hf : (w.execDirective (.disconnect d)).fut = none) :
    (w.execDirective (.disconnect d)).live = false ∨
    ∃ e, (w.execDirective (.disconnect d)).lastRes = some (.error e) ∧ e.localRefusal = true := by
  cases hc : w.conn with
  | none =>
    left
    simp only [World.execDirective, World.startOp, hc, Option.isNone_none, if_true]
    simp [World.live, World.emit, hc]
  | some c =>
    rcases disc_start w d (by simp [hc]) with ⟨pc, hp, _⟩ | ⟨_, h⟩
    · rw [hf] at hp; cases hp
    · exact h

/-- In particular `disconnect()` never returns `Ok(())` with a live handle. -/
theorem C11_disconnect_ok_means_dead (w : World) (d : Disconnect)
    (hf : (w.execDirective (.disconnect d)).fut = none)
    (hr : (w.execDirective (.disconnect d)).lastRes = some (.ok ())) :
    (w.execDirective (.disconnect d)).live = false := by
  rcases C11_disconnect_completed_means_dead w d hf with h | ⟨e, he, _⟩
  · exact h
  · rw [hr] at he; cases he

/-- **Continuation form.** A `disconnect()` future suspended at any of its await points (the write or
flush of a queued packet in its preliminary `flush_outbound`, the `write_all` or the `flush` of the
DISCONNECT) is polled again — with an I/O decision (`d n`), by `go`, or by a clock tick. Then it is
suspended again at one of the await points of `disconnect`, or it has completed and the handle is dead or
the call refused locally (see `C11_disconnect_completed_means_dead`). -/
theorem C11_disconnect_resumed_means_dead (w : World) (pc : Pc) (r : Directive)
    (hp : w.fut = some pc) (hd : pc.isDisc = true) (hr : r.isResume = true) :
    DiscDone (w.execDirective r) :=
  disc_resume w r hr (.inl ⟨pc, hp, hd⟩)

/-- The suspended `disconnect` completes under `d n`. -/
theorem C11_disconnect_resumed_completed (w : World) (pc : Pc) (n : Nat)
    (hp : w.fut = some pc) (hd : pc.isDisc = true) (hf : (w.execDirective (.d n)).fut = none) :
    (w.execDirective (.d n)).live = false ∨
    ∃ e, (w.execDirective (.d n)).lastRes = some (.error e) ∧ e.localRefusal = true := by
  rcases C11_disconnect_resumed_means_dead w pc (.d n) hp hd rfl with ⟨pc', hp', _⟩ | ⟨_, h⟩
  · rw [hf] at hp'; cases hp'
  · exact h

/-- **Over all programs.** After any program that leaves a handle (live or not), call `disconnect()` and
then drive it with any sequence of I/O decisions, `go`s and clock ticks. At every point of that sequence the
call is still suspended inside `disconnect`, or it has returned and the handle is dead — for good, by
`C11_dead_stays_dead` — or it had refused locally. -/
theorem C11_disconnect_run (cfg : Cfg) (ds : List Directive) (d : Disconnect) (rs : List Directive)
    (hc : (ds.foldl World.execDirective { sess := Session.new cfg }).conn.isSome = true)
    (hrs : ∀ r ∈ rs, r.isResume = true) :
    DiscDone (rs.foldl World.execDirective
      ((ds.foldl World.execDirective { sess := Session.new cfg }).execDirective (.disconnect d))) :=
  disc_resume_run rs _ hrs (disc_start _ d hc)

/-- Only so that the examples below can be checked by evaluation. -/
local instance : DecidableEq (Except Err Unit) := fun a b =>
  match a, b with
  | .ok (), .ok () => isTrue rfl
  | .error x, .error y => if h : x = y then isTrue (by rw [h]) else isFalse (fun e => h (by cases e; rfl))
  | .ok (), .error _ => isFalse (fun e => by cases e)
  | .error _, .ok () => isFalse (fun e => by cases e)

def C11M_cfg : Cfg :=
  { rx := 64, tx := 128, keepaliveS := 0, expiry := 300, downgrade := false, clientId := [0x63], auth := none, will := none }

/-- connect, CONNACK (`go` runs the handshake), a QoS 0 publish suspended in its `write_all`. -/
def C11M_pre : List Directive :=
  [.connect, .rx [0x20, 0x03, 0x00, 0x00, 0x00], .go,
   .publish { qos := 0, retain := false, topic := [0x74], payload := .bytes [0x70], props := .slice [] }]

/-- Before the fault the handle is live and the publish is suspended at its write; the write then fails with
`ConnectionReset` (decision 252): the publish returns `Transport(ConnectionReset)`, nothing is suspended and
the handle is dead — a fatal result, as in `C11_fatal_result_means_dead`, and the hypotheses of
`C11_fatal_result_handle_is_dead`. -/
example :
    let w0 := C11M_pre.foldl World.execDirective { sess := Session.new C11M_cfg }
    let w := (C11M_pre ++ [Directive.d 252]).foldl World.execDirective { sess := Session.new C11M_cfg }
    w0.live = true ∧ (match w0.fut with | some (.q0Write _) => true | _ => false) = true ∧
    w.lastRes = some (.error (.transport 252)) ∧ (Err.transport 252).fatal = true ∧ w.live = false ∧
    w.conn.isSome = true ∧ w.fut.isNone = true := by
  decide +kernel

/-- End of stream while `poll()` waits for input (decision 251 on a read): `Disconnected`, dead handle. -/
example :
    let w := ([.connect, .rx [0x20, 0x03, 0x00, 0x00, 0x00], .go, .poll, .d 251] : List Directive).foldl
      World.execDirective { sess := Session.new C11M_cfg }
    w.lastRes = some (.error .disconnected) ∧ w.live = false ∧ w.fut.isNone = true := by
  decide +kernel

/-- A suspended `connect` (hypothesis of `C11_connect_in_progress_has_no_live_handle`): reconnecting from
a live handle, the CONNECT write pending. -/
example :
    let w := ([.connect, .rx [0x20, 0x03, 0x00, 0x00, 0x00], .go, .connect] : List Directive).foldl
      World.execDirective { sess := Session.new C11M_cfg }
    (match w.fut with | some pc => pc.isConn | none => false) = true ∧ w.live = false := by
  decide +kernel

/-- `disconnect()` on a live handle: suspended at the write of the DISCONNECT (an await point of
`disconnect`: the hypotheses of `C11_disconnect_resumed_means_dead`), then write and flush accepted
(`d 250` twice): it returns `Ok`, the handle is dead. -/
example :
    let pre : List Directive := [.connect, .rx [0x20, 0x03, 0x00, 0x00, 0x00], .go, .disconnect (Disconnect.build none none)]
    let w0 := pre.foldl World.execDirective { sess := Session.new C11M_cfg }
    let w := (pre ++ [Directive.d 250, Directive.d 250]).foldl World.execDirective { sess := Session.new C11M_cfg }
    (match w0.fut with | some pc => pc.isDisc | none => false) = true ∧ w0.live = true ∧
    w.fut.isNone = true ∧ w.lastRes = some (.ok ()) ∧ w.live = false := by
  decide +kernel

/-- The other disjunct is inhabited: a property that DISCONNECT does not allow (Maximum QoS) is refused
with `InvalidRequest` at once, and the handle stays live. -/
example :
    let w := ([.connect, .rx [0x20, 0x03, 0x00, 0x00, 0x00], .go,
      .disconnect { reason := some 0, props := some [{ kind := .MaximumQoS, val := .n 1 }] }] : List Directive).foldl
      World.execDirective { sess := Session.new C11M_cfg }
    w.fut.isNone = true ∧ w.lastRes = some (.error .invalidRequest) ∧ Err.invalidRequest.localRefusal = true ∧
    w.live = true := by
  decide +kernel

/-- So is the refusal after the preliminary flush: a DISCONNECT whose reason string does not fit the
control packet buffer (`CONTROL_PACKET_LEN` = 9 bytes) is refused with `BufferTooSmall` by the encoder; the handle stays live. -/
example :
    let w := ([.connect, .rx [0x20, 0x03, 0x00, 0x00, 0x00], .go,
      .disconnect { reason := some 0, props := some [{ kind := .ReasonString, val := .s (List.replicate 10 0x61) }] }] :
        List Directive).foldl World.execDirective { sess := Session.new C11M_cfg }
    w.fut.isNone = true ∧ w.lastRes = some (.error .bufferTooSmall) ∧ w.live = true := by
  decide +kernel

end Minimq
