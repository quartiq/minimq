import Minimq.Proofs.NoSpinRun
import Minimq.Theorems.C16Fuel
/-
C16 (part) — no busy loop inside `poll()`.

`wait_for_progress` reads from the transport under `with_deadline(next_deadline())`. If that deadline
has already passed when the timer is first polled, the operation wakes itself and is polled again at
once; the model counts these *self-wakes* (`wakes`) and prints `spin` at the 64th in one POLL. Finding
F13 is such a loop without end (`next_ping` has passed while a PINGREQ is outstanding, and
`next_deadline` returns it); the `next_deadline` modelled here ignores `next_ping` while the ping
timeout runs.

What is proved:

 * **the service pass leaves a fresh deadline** (`C16_service_leaves_fresh_deadline`): when
   `service(now)` neither closed the connection (ping timeout expired) nor failed, and nothing is left
   to send, `next_deadline()` is `None` or strictly later than `now`. So `wait_for_progress` is never
   entered with an expired deadline, and when its timer fires, one more round (close, or queue and
   write the PINGREQ, or wait with a fresh deadline) ends the POLL;
 * **a POLL never wakes itself** (`C16_poll_never_self_wakes`): for an operation that the machine
   itself suspended, `wakes` is 0 after every POLL; for *any* world, even with a hand-made await
   point, it is at most 1 and `spin` is not printed (`C16_poll_at_most_one_self_wake`);
 * **in every execution** `wakes = 0` after every directive (`C16_no_self_wake_in_any_run`);
 * **`spin` in a trace** can only be the other `spin`, the one `go` prints when all its 10000 rounds
   were used up, each of them a POLL that left the operation suspended, with fewer than 64 self-wakes
   and not on a starved read (`GoBusy`; `C16_spin_only_from_go_bound`, `C16_no_spin_directive`); a
   program without `go` never prints it (`C16_no_spin_in_trace`). That bound *can* be reached, with real
   progress in every round (5000 two-byte packets waiting for one `recv`) — it is a limit of the
   harness's executor, not a busy loop.

No invariant of reachable worlds is needed beyond "`wait_for_progress` is suspended with
`yielded = true`", which every suspension of the machine satisfies (`FutOk`).
-/
namespace Minimq
open Gen World Fuel NoSpin

/-- **The service pass leaves a fresh deadline.** Let the ping timeout, if one is running, lie in the
future (otherwise `service` closes the connection), let `maybe_queue_pingreq(now)` succeed (otherwise
the operation ends with that error), and let nothing be left to send afterwards. Then
`next_deadline()` is `None` or strictly later than `now`: a running ping timeout is what it returns;
without one, a PINGREQ that was due has just been queued, or is still pending, and then there would be
something to send. -/
theorem C16_service_leaves_fresh_deadline (w w1 : World)
    (ht : ∀ t, w.sess.rt.pingTimeout = some t → w.now < t)
    (hq : w.maybeQueuePingreq w.now = .ok w1) (hn : w1.sess.data.outbound.nextStep = none) :
    ∀ d, w1.sess.rt.nextDeadline = some d → w.now < d := by
  obtain ⟨s, hs, rfl⟩ := maybeQueuePingreq_ok hq
  intro d hd
  have := service_served w s (timedOut_false ht) hs hn
  rw [hd] at this
  exact this

/-- One step of any of the thirteen functions keeps the invariant `K 0` without counting a self-wake. Its part
`Good` says of a `doWaitRead` whose timer has not yielded that the deadline is fresh
(`Good (.DWR w _ d false) = Fresh w.now d`): a pending read suspends such a call instead of waking it. -/
theorem C16_step_keeps_invariant (c : Call) (h : K 0 c) :
    (∃ c', K 0 c' ∧ ∀ m, c.run (m + 1) = c'.run m) ∨ (∃ r, r.wakes = 0 ∧ ∀ m, c.run (m + 1) = r) := by
  cases step2 0 c h with
  | call c' k _ hm => exact .inl ⟨c', k, hm⟩
  | done r _ hw _ hm => exact .inr ⟨r, Nat.le_zero.mp hw, hm⟩

/-- **A POLL of an operation the machine suspended never wakes itself**: whatever the world, if the
suspended operation (if any) is at an await point as the machine creates them, then after the POLL the
self-wake counter is 0 — the timer branch "deadline already expired on entry" is never taken. -/
theorem C16_poll_never_self_wakes (w : World) (h : FutOk w) : (World.poll w).wakes = 0 :=
  poll_ok w h

/-- **Any POLL, any world**: at most one self-wake (and that only from a hand-made await point
`waitRead _ d false` with an expired `d`), no `spin` line, and what is left suspended is again an await
point of the machine's making. -/
theorem C16_poll_at_most_one_self_wake (w : World) :
    (World.poll w).wakes ≤ 1 ∧ (∃ new, (World.poll w).out = new ++ w.out ∧ "spin" ∉ new) ∧ FutOk (World.poll w) := by
  obtain ⟨hl, hw, hf⟩ := poll_tidy w
  exact ⟨hw, Grew.new_not_mem hl.calm, hf⟩

/-- **In every execution the self-wake counter is 0 after every directive**, and the suspended
operation is at an await point of the machine's making. -/
theorem C16_no_self_wake_in_any_run (cfg : Cfg) (ds : List Directive) :
    (ds.foldl World.execDirective { sess := Session.new cfg }).wakes = 0 ∧
    FutOk (ds.foldl World.execDirective { sess := Session.new cfg }) := by
  have := (run_WI ds _ (WI_initial cfg)).1
  exact ⟨this.2, this.1⟩

/-- **A directive prints `spin` only if it is a `go` that used up all its 10000 rounds** (each round a
POLL with the decision "everything" that left the operation suspended and whose last I/O event, if it
had one, was not a starved read: `GoBusy`). The invariant `WI` (machine-made await point, no self-wake
on record) is kept. -/
theorem C16_no_spin_directive (w : World) (d : Directive) (h : WI w) :
    WI (w.execDirective d) ∧
    ((∃ new, (w.execDirective d).out = new ++ w.out ∧ "spin" ∉ new) ∨ d = .go ∧ GoBusy 10000 w) := by
  obtain ⟨h1, h2⟩ := execDirective_WI w d h
  exact ⟨h1, h2.imp Grew.new_not_mem id⟩

/-- **`spin` in the trace of a program is the round bound of some `go`**: running the lines of a
program from the initial world either never adds `spin`, or some line is a `go` started in a world
from which 10000 POLLs in a row each stayed suspended without ending on a starved read (`GoBusy`; that
each did I/O is not part of it: the flag `lastIoStarved` is cleared when a POLL begins). -/
theorem C16_spin_only_from_go_bound (cfg : Cfg) (ls : List String) :
    (∃ new, (ls.foldl World.exec { sess := Session.new cfg }).out = new ∧ "spin" ∉ new) ∨
    ∃ ls1 l ls2, ls = ls1 ++ l :: ls2 ∧ parseDirective l = .go ∧
      GoBusy 10000 (ls1.foldl World.exec { sess := Session.new cfg }) := by
  rcases (program_WI ls _ (WI_initial cfg)).2 with ⟨new, e, hn⟩ | h
  · exact .inl ⟨_, rfl, by rw [e]; simpa using fun hm => hn _ hm rfl⟩
  · exact .inr h

/-- **A program without `go` never prints `spin`.** -/
theorem C16_no_spin_in_trace (text : String) (hgo : ∀ l ∈ text.splitOn "\n", parseDirective l ≠ .go) :
    "spin" ∉ runProgram text := fun h =>
  runProgram_lines (Q := (· ≠ "spin")) text (by decide) (by decide)
    (fun cfg ls hls l hl e => no_spin_fold ls _ (WI_initial cfg) rfl (fun l hl => hgo l (hls l hl))
      (e ▸ List.mem_reverse.mpr hl)) _ h rfl

/-- Where the other `spin` comes from: `go` out of rounds. -/
example (w : World) : World.goLoop 0 w = w.emit "spin" := rfl

/-- The initial world of every program satisfies the invariant. -/
example (cfg : Cfg) : WI ({ sess := Session.new cfg } : World) := WI_initial cfg

/-- The idle session suspended in `wait_for_progress` (from `C16Fuel.lean`) satisfies `FutOk`. -/
example : FutOk fuelExampleWorld := .inr ⟨_, rfl, rfl⟩

/-- A hand-made await point with `yielded = false` does not. -/
example : ¬ FutOk { fuelExampleWorld with fut := some (.waitRead .poll (some 0) false) } := by
  intro h
  rcases h with h | ⟨pc, h1, h2⟩
  · simp at h
  · simp only [Option.some.injEq] at h1; subst h1; exact Bool.noConfusion h2

/-- The hypotheses of `C16_service_leaves_fresh_deadline` are satisfiable: a session whose PINGREQ time
lies in the future, nothing queued. -/
example : let w : World := { fuelExampleWorld with
      sess := { fuelExampleWorld.sess with rt := { fuelExampleWorld.sess.rt with nextPing := some 5 } } }
    (∀ t, w.sess.rt.pingTimeout = some t → w.now < t) ∧ w.maybeQueuePingreq w.now = .ok w ∧
    w.sess.data.outbound.nextStep = none ∧ w.sess.rt.nextDeadline = some 5 := by
  refine ⟨fun t h => by simp [fuelExampleWorld, Session.new] at h, rfl, by decide, rfl⟩

end Minimq
