import Minimq.Proofs.Lift
/-
C07 — packet identifiers in flight are non-zero and pairwise distinct, for histories of any length.

The allocator (`SessionData.nextPacketId`, the repaired `next_packet_id`) is total in the model
because it runs on fuel `MAX_RETAINED + MAX_PENDING_RELEASE + 1`; `C07_allocator_fresh` shows the
fuel is never exhausted (pigeonhole over the 17 candidates) and that the result is free.
`SessionData.IdInv` is the invariant.
-/
namespace Minimq
open Gen Outbound

/-- The identifier handed out is in 1..65535 and is not held by any retained packet or release
entry; only the counter moves. No hypothesis on how far the counter has travelled. -/
theorem C07_allocator_fresh (d : SessionData)
    (hpid : 1 ≤ d.packetId ∧ d.packetId ≤ 65535)
    (hret : d.outbound.retained.length ≤ MAX_RETAINED) (hrel : d.outbound.release.length ≤ MAX_PENDING_RELEASE) :
    let r := d.nextPacketId
    1 ≤ r.2 ∧ r.2 ≤ 65535 ∧ d.outbound.hasRetained r.2 = false ∧ d.outbound.hasPendingRelease r.2 = false ∧
    1 ≤ r.1.packetId ∧ r.1.packetId ≤ 65535 ∧ r.1.outbound = d.outbound ∧ r.1.generation = d.generation ∧
    r.1.pendingServerIds = d.pendingServerIds ∧ r.1.sessionPresent = d.sessionPresent :=
  nextPacketId_fresh d hpid hret hrel

/-- A new session satisfies `IdInv`. -/
theorem C07_init (cap : Nat) : ({ outbound := Outbound.new cap } : SessionData).IdInv :=
  IdInv_init cap

/-- The state after a fresh-session reset satisfies `IdInv`. -/
theorem C07_reset (d : SessionData) : (d.reset).IdInv :=
  ⟨IdInv_clear d.outbound, by simp [SessionData.reset]⟩

/-- Accepting a request (allocate, encode into the arena, retain) keeps `IdInv`, and the identifier used
is non-zero and not in use. -/
theorem C07_enqueue {ε} (d : SessionData) (h : d.IdInv)
    (enc : Nat → (Nat → Nat → Bytes) → Except ε (Nat × Bytes)) (off len : Nat) (o3 : Outbound)
    (hr : ((d.nextPacketId).1.outbound.encodeAt enc).1.retainPacket (d.nextPacketId).2 off len = some o3) :
    (d.nextPacketId).2 ≠ 0 ∧ (d.nextPacketId).2 ∉ d.outbound.usedIds ∧
    ({ (d.nextPacketId).1 with outbound := o3 } : SessionData).IdInv :=
  enqueue_IdInv d h enc off len o3 hr

/-- A refused request that had already taken an identifier (publish refused with `NotReady` or
`InflightExhausted`) keeps `IdInv`: only the counter moved. -/
theorem C07_refused_allocation (d : SessionData) (h : d.IdInv) : (d.nextPacketId).1.IdInv :=
  h.alloc.2.2

/-- Every inbound packet (acknowledgements of every kind, in any order, stale or duplicated,
publishes, PUBREL) keeps `IdInv`. -/
theorem C07_inbound (d : SessionData) (r : Runtime) (p : Recv) (h : d.IdInv) :
    (handlePacket d r p).1.IdInv :=
  handlePacket_IdInv d r p h

/-- Replay arming (connect, disconnect) keeps `IdInv`. -/
theorem C07_armReplay (d : SessionData) (h : d.IdInv) :
    ({ d with outbound := d.outbound.armReplay } : SessionData).IdInv :=
  ⟨IdInv_armReplay h.out, h.pid⟩

/-- **All programs.** After any sequence of API calls, I/O decisions (partial writes, faults, end
of stream), inbound bytes, clock ticks, cancellations, drops and reconnects — of any length — the
identifiers in flight are pairwise distinct and non-zero, both lists are within their capacities and
the counter is in 1..65535. -/
theorem C07_all_programs (cfg : Cfg) (ds : List Directive) :
    (ds.foldl World.execDirective { sess := Session.new cfg }).sess.data.IdInv :=
  run_inv closed_IdInv ds { sess := Session.new cfg } (C07_init cfg.tx)

/-- In every reachable state the next identifier handed out is non-zero and not in use. -/
theorem C07_every_allocation_is_fresh (cfg : Cfg) (ds : List Directive) :
    let d := (ds.foldl World.execDirective { sess := Session.new cfg }).sess.data
    d.nextPacketId.2 ≠ 0 ∧ d.nextPacketId.2 ∉ d.outbound.usedIds := by
  exact ⟨(C07_all_programs cfg ds).alloc.1, (C07_all_programs cfg ds).alloc.2.1⟩

/-- Non-vacuity: the counter at its last value, identifier 1 still in flight in the release list and
identifiers 65535 and 2 retained — the allocator must skip three candidates. -/
example : (({ packetId := 65535,
              outbound := { (Outbound.new 64) with
                retained := [{ id := 65535, offset := 0, len := 4, state := .sent }, { id := 2, offset := 4, len := 4, state := .sent }],
                release := [{ id := 1, rc := 0, state := .sent }] } } : SessionData).nextPacketId).2 = 3 := by
  decide +kernel

end Minimq
