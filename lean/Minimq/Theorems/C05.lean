import Minimq.Proofs.PrimFrame
import Minimq.Proofs.ConnectStart
import Minimq.Theorems.C17
/-
C05 — fresh vs. resumed broker session is mirrored in local state and replay.

`Session.connectPacket` is the CONNECT that `connect_handshake` builds; `Session.activate` is the
processing of a CONNACK with a success reason code (`sp` = its Session Present flag, `block` = its raw
property block). `Prim s s'` is one step of a session primitive: exactly the steps over which the
lifting `Closed` of `Proofs/Primitives.lean` quantifies (`C05_prim_is_closed`), i.e. the only ways in which
the operations of `Ops.lean` change the session.

Finding kept explicit (F19: reset before validation): `activate` with `sp = false` resets the local
session *before* it validates the CONNACK properties, so a CONNACK that reports no session and is then
rejected leaves `sessionPresent = false` and an emptied session although `connect()` failed
(`C05_finding_reset_before_validation`). The theorems below therefore speak of "a CONNACK reporting
no session" (accepted or not) where the property text says "until the first successful CONNACK".
-/
namespace Minimq
open Gen World Outbound

/-- `Prim` is exactly the step relation of the lifting: a predicate on sessions is `Closed` iff every
`Prim` step preserves it. -/
theorem C05_prim_is_closed (P : Session → Prop) : Closed P ↔ ∀ s s', Prim s s' → P s → P s' := closed_iff_prim P

/-- **The CONNECT packet.** Clean start is asked for exactly while the session has not been
established (`sessionPresent = false`); the client identifier is the session's current one, keep-alive
is the configured one, will and credentials are the configured ones. -/
theorem C05_connect_packet (s : Session) :
    s.connectPacket.cleanStart = !s.data.sessionPresent ∧ s.connectPacket.clientId = s.clientId ∧
    s.connectPacket.keepalive = s.rt.configuredKeepaliveMs / 1000 ∧
    s.connectPacket.props = .slice (connectProps s.reader.cap s.expiry) ∧
    s.connectPacket.will = s.will ∧ s.connectPacket.auth = s.auth := ⟨rfl, rfl, rfl, rfl, rfl, rfl⟩

/-- A new session asks for a clean start with the configured client identifier and keep-alive. -/
theorem C05_first_connect (cfg : Cfg) :
    (Session.new cfg).connectPacket.cleanStart = true ∧ (Session.new cfg).connectPacket.clientId = cfg.clientId ∧
    (Session.new cfg).connectPacket.keepalive = cfg.keepaliveS := by
  refine ⟨rfl, rfl, ?_⟩
  show cfg.keepaliveS * 1000 / 1000 = cfg.keepaliveS
  omega

/-- **CONNACK processing succeeds exactly on an acceptable property block** (`connackBlockOk`: every
property decodes, an Assigned Client Identifier has at most `CLIENT_ID_CAPACITY` bytes, Receive
Maximum is not 0, Maximum QoS is at most 2); the resulting session is `Session.activated`, spelled
out in `Proofs/Connack.lean`; otherwise the error is `Peer.InvalidPacket` and the (possibly
already reset) session is disconnected (`Session.rejected`, which also raises the ghost flag `halfReset`
when `sp = false`). -/
theorem C05_connack_outcome (s : Session) (sp : Bool) (block : Bytes) (now : Nat) :
    ((s.activate sp block now).2 = .ok () ↔ connackBlockOk block) ∧
    (connackBlockOk block → s.activate sp block now = (s.activated sp block now, .ok ())) ∧
    (¬ connackBlockOk block → s.activate sp block now = (s.rejected sp, .error .peerInvalid)) :=
  ⟨activate_ok_iff s sp block now, (activate_eq s sp block now).1, (activate_eq s sp block now).2⟩

/-- `connect()` reports what the CONNACK said: `Connected` for `sp = false`, `Reconnected` for `sp = true`. -/
theorem C05_connect_event (w : World) (sp : Bool) (block : Bytes) (h : connackBlockOk block) :
    (World.activate w sp block).conn = some { live := true, resumed := sp } ∧
    (World.activate w sp block).sess = w.sess.activated sp block w.now ∧
    (World.activate w sp block).lastRes = some (.ok ()) := by
  unfold World.activate
  rw [(activate_eq w.sess sp block w.now).1 h]
  exact ⟨rfl, rfl, rfl⟩

/-- **Once established, the session stays established** across every primitive except the processing
of a CONNACK that reports no session. -/
theorem C05_session_present_stays {s s' : Session} (h : Prim s s') (hp : s.data.sessionPresent = true) :
    s'.data.sessionPresent = true ∨ ∃ block now, s' = (s.activate false block now).1 :=
  h.sessionPresent_stays hp

/-- `sessionPresent` becomes true only in a successful CONNACK. -/
theorem C05_session_present_rises {s s' : Session} (h : Prim s s') (hp : s.data.sessionPresent = false)
    (hp' : s'.data.sessionPresent = true) :
    ∃ sp block now, s' = (s.activate sp block now).1 ∧ (s.activate sp block now).2 = .ok () := by
  rcases h.history with ⟨_, hid⟩ | ⟨sp, block, now, rfl, hok, _⟩ | ⟨sp, _, _, _, _, _, _, _, _, _, h5⟩
  · rw [hid.sessionPresent, hp] at hp'; cases hp'
  · exact ⟨sp, block, now, rfl, hok⟩
  · rw [h5, hp, Bool.and_false] at hp'; cases hp'

/-- Until the first successful CONNACK every CONNECT asks for a clean start (`C05_session_present_rises`). -/
theorem C05_clean_start_until_first_success {s s' : Session} (h : Prim s s') (hp : s.connectPacket.cleanStart = true)
    (hno : ¬ ∃ sp block now, s' = (s.activate sp block now).1 ∧ (s.activate sp block now).2 = .ok ()) :
    s'.connectPacket.cleanStart = true := by
  have hp0 : s.data.sessionPresent = false := by simpa [Session.connectPacket] using hp
  cases hs : s'.data.sessionPresent with
  | false => simp [Session.connectPacket, hs]
  | true => exact absurd (C05_session_present_rises h hp0 hs) hno

/-- `sessionPresent` becomes false again only in a CONNACK that reports no session and is then rejected for
its properties. -/
theorem C05_session_present_falls {s s' : Session} (h : Prim s s') (hp : s.data.sessionPresent = true)
    (hp' : s'.data.sessionPresent = false) :
    ∃ block now, s' = (s.activate false block now).1 ∧ (s.activate false block now).2 = .error .peerInvalid ∧
      ¬ connackBlockOk block := by
  rcases h.history with ⟨_, hid⟩ | ⟨_, _, _, _, _, _, _, _, h3, _⟩ | ⟨sp, block, now, rfl, herr, hb, _, _, _, _, h5⟩
  · rw [hid.sessionPresent, hp] at hp'; cases hp'
  · rw [h3] at hp'; cases hp'
  · cases sp
    · exact ⟨block, now, rfl, herr, hb⟩
    · rw [h5, hp] at hp'; cases hp'

/-- **Afterwards CONNECT asks to resume.** Over any run of primitives in which no CONNACK reporting
"no session" is processed, an established session stays established and the next CONNECT has clean
start 0. -/
theorem C05_resume_after_first_success {s s' : Session} (h : ResumingRun s s') (hp : s.data.sessionPresent = true) :
    s'.data.sessionPresent = true ∧ s'.connectPacket.cleanStart = false := by
  have := h.sessionPresent hp
  exact ⟨this, by simp [Session.connectPacket, this]⟩

/-- **Finding (reset before validation).** A CONNACK with Session Present = 0 whose property block is
then rejected (here: Receive Maximum = 0) fails the connect, yet the established session has been
reset: `sessionPresent` is false again (the next CONNECT asks for a clean start), the retained packet
is gone and the generation has moved, invalidating its handle. -/
theorem C05_finding_reset_before_validation :
    let s0 := Session.new { rx := 64, tx := 64, keepaliveS := 0, expiry := 0, downgrade := false, clientId := [], auth := none, will := none }
    let o : Outbound := { s0.data.outbound with retained := [{ id := 1, offset := 0, len := 4, state := .sent, ser := 0 }], used := 4, nextSer := 1 }
    let s : Session := { s0 with data := { s0.data with sessionPresent := true, outbound := o } }
    let r := s.activate false [b 0x21, b 0, b 0] 0
    s.connectPacket.cleanStart = false ∧ (match r.2 with | .error .peerInvalid => true | _ => false) = true ∧
    r.1.data.sessionPresent = false ∧ r.1.connectPacket.cleanStart = true ∧ r.1.data.outbound.retained = [] ∧
    r.1.data.generation = 1 := by
  decide +kernel

/-- **The client identifier** changes only in a successful CONNACK that carries an Assigned Client
Identifier property: it becomes the value of the last such property, which has at most
`CLIENT_ID_CAPACITY` bytes. Every other primitive, and every other CONNACK, leaves it alone. -/
theorem C05_client_id {s s' : Session} (h : Prim s s') :
    s'.clientId = s.clientId ∨
    ∃ sp block now cid, s' = (s.activate sp block now).1 ∧ (s.activate sp block now).2 = .ok () ∧
      lastStr .AssignedClientIdentifier (iterEncoded block) = some cid ∧ s'.clientId = cid ∧
      cid.length ≤ CLIENT_ID_CAPACITY := by
  rcases h.history with ⟨_, hid⟩ | ⟨sp, block, now, rfl, hok, hb, _, _, _, _, h5⟩ | ⟨_, _, _, _, _, _, _, _, h3, _⟩
  · exact .inl hid.clientId
  · cases hl : lastStr .AssignedClientIdentifier (iterEncoded block) with
    | none => rw [hl] at h5; exact .inl h5
    | some cid =>
      rw [hl] at h5
      obtain ⟨it, hit, hs⟩ := lastStr_mem hl
      exact .inr ⟨sp, block, now, cid, rfl, hok, hl, h5, (hb it hit).2.1 cid hs⟩
  · exact .inl h3

/-- Non-vacuity: a CONNACK carrying Assigned Client Identifier "ab" is accepted and sets the identifier. -/
example :
    let s0 := Session.new { rx := 64, tx := 64, keepaliveS := 0, expiry := 0, downgrade := false, clientId := [], auth := none, will := none }
    let r := s0.activate false [b 0x12, b 0, b 2, b 0x61, b 0x62] 0
    (match r.2 with | .ok () => true | _ => false) = true ∧ r.1.clientId = [b 0x61, b 0x62] ∧ r.1.data.sessionPresent = true := by
  decide +kernel

/-- **Fresh broker session** (`sp = false`, accepted): all three queues and the inbound QoS 2
identifiers are emptied, the identifier counter restarts, the generation moves on so that every handle
of the old generation reports `invalidated`, the send quota is min(Receive Maximum, local limit), and
the connection is marked as not resumed. Nothing that was in flight can be transmitted any more:
the queues are where every transmission is taken from. -/
theorem C05_fresh_session (s : Session) (block : Bytes) (now : Nat) (hok : (s.activate false block now).2 = .ok ()) :
    let s' := (s.activate false block now).1
    s'.data.outbound.control = [] ∧ s'.data.outbound.retained = [] ∧ s'.data.outbound.release = [] ∧
    s'.data.pendingServerIds = [] ∧ s'.data.packetId = 1 ∧
    s'.data.generation = (s.data.generation + 1) % 4294967296 ∧ s'.data.generation ≠ s.data.generation ∧
    (∀ op : Op, op.generation = s.data.generation → s'.data.status op = .invalidated) ∧
    s'.rt.sendQuota = negotiatedQuota block ∧ s'.rt.maxSendQuota = negotiatedQuota block ∧
    s'.rt.sessionResumed = false ∧ s'.data.sessionPresent = true ∧ s'.data.outbound.nextStep = none := by
  rw [activate_fst_of_ok hok]
  exact activated_fresh s block now

/-- The send quota after the CONNACK: Receive Maximum capped by the local limit of 8. -/
theorem C05_negotiated_quota (block : Bytes) :
    negotiatedQuota block = (match lastNum .ReceiveMaximum (iterEncoded block) with
      | some v => min v (min MAX_RETAINED MAX_PENDING_RELEASE)
      | none => min MAX_RETAINED MAX_PENDING_RELEASE) := rfl

/-- **Resumed broker session** (`sp = true`, accepted): the outbound state — the three queues with
their identifiers, order and send states, the arena — the inbound QoS 2 identifiers, the generation and
hence the status of every handle are untouched; the connection is marked as resumed; the send quota is
the negotiated one minus the publishes still in flight. -/
theorem C05_resumed_session (s : Session) (block : Bytes) (now : Nat) (hok : (s.activate true block now).2 = .ok ()) :
    let s' := (s.activate true block now).1
    s'.data.outbound = s.data.outbound ∧ s'.data.pendingServerIds = s.data.pendingServerIds ∧
    s'.data.generation = s.data.generation ∧ s'.data.packetId = s.data.packetId ∧
    (∀ op : Op, s'.data.status op = s.data.status op) ∧
    s'.rt.sessionResumed = true ∧ s'.data.sessionPresent = true ∧
    s'.rt.sendQuota = negotiatedQuota block - s.data.outbound.inflightPublishes ∧
    s'.rt.maxSendQuota = negotiatedQuota block := by
  rw [activate_fst_of_ok hok]
  exact activated_resumed s block now

/-- **`connect` arms the replay.** From any state, after the resets at the top of `connect` every
entry of the three queues waits for its first byte (`.write 0`), with identifiers, reason codes,
positions and order unchanged — except that a queued PINGREQ is dropped (it belonged to the old
connection); encoding CONNECT, clearing the deadlines and reading the CONNACK keep
it that way. (The bytes of the retained packets change only in the DUP bit: C17.) -/
theorem C05_connect_arms_replay (s : Session) :
    s.beginConnect.data.outbound.AllFresh ∧
    s.beginConnect.data.outbound.control.map (·.action) =
      (s.data.outbound.control.map (·.action)).filter (fun a => a.typ ≠ MT_PingReq) ∧
    s.beginConnect.data.outbound.release.map (fun e => (e.id, e.rc)) = s.data.outbound.release.map (fun e => (e.id, e.rc)) ∧
    s.beginConnect.data.outbound.retained.map (fun e => (e.id, e.offset, e.len, e.ser)) =
      s.data.outbound.retained.map (fun e => (e.id, e.offset, e.len, e.ser)) ∧
    (∀ s1 : Session, s1.data.outbound.AllFresh →
      (∀ c, (s1.encode (ε := SerErr) (fun cap _ => encodeConnect cap c)).1.data.outbound.AllFresh) ∧
      s1.clearPing.data.outbound.AllFresh ∧ (∀ bytes, (s1.commit bytes).data.outbound.AllFresh) ∧
      (∀ s' n, s1.window = some (s', n) → s'.data.outbound.AllFresh) ∧ s1.takePkt.1.data.outbound.AllFresh ∧
      (∀ block now, (s1.activate true block now).2 = .ok () → (s1.activate true block now).1.data.outbound.AllFresh)) := by
  obtain ⟨i1, i2, i3⟩ := armReplay_ids s.data.outbound.dropPingreq
  refine ⟨beginConnect_allFresh s, ?_, i2, i3, ?_⟩
  · show s.data.outbound.dropPingreq.armReplay.control.map (·.action) = _
    rw [i1]
    simp only [Outbound.dropPingreq, List.filter_map, Function.comp_def]
  intro s1 h1
  obtain ⟨a, b', c, d, e⟩ := handshake_keeps_allFresh s1 h1
  refine ⟨a, b', c, d, e, ?_⟩
  intro block now hok
  rw [(C05_resumed_session s1 block now hok).1]; exact h1

/-- **Replay order.** With every entry waiting for its first byte, `next_step` hands out the head of
the first non-empty queue: acknowledgements first, then PUBRELs, then the retained PUBLISH /
SUBSCRIBE / UNSUBSCRIBE packets, each queue in its own order. -/
theorem C05_replay_order (o : Outbound) (h : o.AllFresh) :
    o.nextStep =
      match o.control with
      | e :: _ => some (.control e.action (.write 0))
      | [] =>
        match o.release with
        | e :: _ => some (.release e.id e.rc (.write 0))
        | [] =>
          match o.retained with
          | e :: _ => some (.retained e.id e.offset e.len (.write 0))
          | [] => none :=
  nextStep_allFresh o h

/-- **A new request goes behind the replay.** `retain_packet` appends the new packet behind all
retained ones, with a larger serial. -/
theorem C05_new_request_appended (o o' : Outbound) (id off len : Nat) (hser : o.SerInv)
    (h : o.retainPacket id off len = some o') :
    o'.retained = o.retained ++ [{ id := id, offset := off, len := len, state := .write 0, ser := o.nextSer }] ∧
    o'.control = o.control ∧ o'.release = o.release ∧ (∀ x ∈ o.retained, x.ser < o.nextSer) := by
  obtain ⟨_, rfl⟩ := retainPacket_some h
  exact ⟨rfl, rfl, rfl, hser.lt⟩

/-- **The replay goes out before it.** `next_step` hands out a retained packet for its first byte only when every acknowledgement,
every PUBREL and every retained packet enqueued before it (smaller serial, so in particular every
packet that was there to be replayed when the connection was made) has been sent completely and
flushed, and nothing is half-written. A packet that has been sent completely is not handed out again
(`nextStep_not_sent`): so each replayed packet goes out once, before any new identifier-bearing one. -/
theorem C05_replay_before_new (o : Outbound) (hser : o.SerInv) (id off len : Nat)
    (h : o.nextStep = some (.retained id off len (.write 0))) :
    (∀ e ∈ o.control, e.state = .sent) ∧ (∀ e ∈ o.release, e.state = .sent) ∧
    (∃ e ∈ o.retained, e.id = id ∧ e.offset = off ∧ e.len = len ∧ e.state = .write 0 ∧
      ∀ x ∈ o.retained, x.ser < e.ser → x.state = .sent) ∧
    (∀ step, o.nextStep = some step → step.state ≠ .sent) := by
  obtain ⟨hctl, hrel, pre, e, post, hl, h1, h2, h3, h4, hpre⟩ := nextStep_retained_fresh o id off len h
  refine ⟨hctl, hrel, ⟨e, by rw [hl]; simp, h1, h2, h3, h4, fun x hx hlt => ?_⟩, fun step hs => nextStep_not_sent o step hs⟩
  -- in terms of the order of enqueueing (ghost serials): what stands behind `e` has a larger serial
  rw [hl] at hx
  rcases List.mem_append.mp hx with hx | hx
  · exact hpre x hx
  · rcases List.mem_cons.mp hx with rfl | hx
    · omega
    · have := pairwise_split (List.pairwise_map.1 hser.inc) hl x hx
      omega

/-- The serial numbering used above is an invariant of every execution (C17): along the retained list the
serials increase, and they stay below the counter, whatever reconnects lie in between. -/
theorem C05_serials_reachable (cfg : Cfg) (ds : List Directive) :
    (ds.foldl World.execDirective { sess := Session.new cfg }).sess.data.outbound.SerInv :=
  (C17_all_programs_from { sess := Session.new cfg } ds (C17_init cfg)).1.2

/-- Non-vacuity: a replayed SUBSCRIBE (serial 0, already sent again) in front of a new PUBLISH
(serial 1): `next_step` hands out the new packet, and the hypotheses of `C05_replay_before_new` hold. -/
example :
    let o : Outbound := { (Outbound.new 16) with
      retained := [{ id := 1, offset := 0, len := 4, state := .sent, ser := 0 }, { id := 2, offset := 4, len := 5, state := .write 0, ser := 1 }],
      used := 9, nextSer := 2 }
    o.nextStep = some (.retained 2 4 5 (.write 0)) ∧ o.SerInv := by
  exact ⟨by decide, ⟨by decide, by decide⟩⟩

end Minimq
