import Minimq.Proofs.Packets
import Minimq.Proofs.KeepaliveMachine
import Minimq.Theorems.C10
/-
C10, machine level — the timed behaviour of keep-alive with the whole `World`: virtual time
(`Directive.tick us` advances the clock and polls the suspended operation without an I/O decision —
this is how a timer wakes the application's `poll()`/`recv()`), I/O decisions (`Directive.d k`), the
transports' wires and the transmission log.

Setting: `IdleWait W outer` — a live connection whose application waits in `poll()` (`outer = .poll`)
or `recv()` (`.recv`) after a full service pass: suspended in `wait_for_progress` with deadline
`next_deadline()`, nothing to send, the reader as `receive_buffer` left it, no decision left over.
`IdleWait` is a hypothesis throughout: no theorem derives it for the worlds a program reaches
(`C16_service_leaves_fresh_deadline` gives only `now < next_deadline()` after a service pass);
it is checked by evaluation for the two worlds of `Theorems/C10Rounds.lean` (`C10R_W0_armed`,
`C10R_P0_armed`), which a program reaches.

Times are µs, up to `4611686018427387904` = 2^62, the guard of `tick` in `execDirective` (hypotheses `hb`);
decisions `d k`: `k ≤ 250` bytes (250 = as many as offered), 251 = zero bytes / end of stream / flush done,
from 252 a transport error (`Proofs/IoCalls.lean`). `t` is always the time of the tick that wakes the
operation: it is the `now` handed to `service(now)` and hence to `complete_flush` (finding F23: the ping
timeout is measured from there).

Limits of what is proved here, stated where they apply:
* the PINGREQ write decision is taken with `k ≥ 2` (both bytes at once); the fragmentation `1 + 1` goes
  through a second service pass and is not covered;
* the control queue is assumed empty (`hctl`, beside `IdleWait`: an acknowledgement still queued means there
  is something to send, so the operation would not be waiting);
* cadence (4) is proved here for one round, which ends with the ping timeout running
  (`C10M_cadence_round`); the PINGRESP gives `IdleWait` back for `recv()` (`C10M_pingresp_in_time`), for
  `poll()` only with the next call (`Pinged.answer`, `poll_again` of `Proofs/KeepaliveRounds.lean`); the
  induction over schedules of any length is `Theorems/C10Rounds.lean`.
-/
namespace Minimq
open Gen World Outbound

/-- **(1) A PINGREQ is sent when it is due.** No ping timeout running, PINGREQ time `p`, empty control
queue, the 2-byte PINGREQ within the broker's Maximum Packet Size. A tick to `t ≥ p` queues the PINGREQ
and leaves the operation suspended at its write: nothing is on the wire yet, nothing logged. A write
decision `d k1` (`2 ≤ k1 ≤ 250`) puts exactly `C0 00` behind what the wire held and logs the packet
(tag: control, PINGREQ; transport: the current one); the operation is suspended at the flush. The
flush decision `d k2` completes the PINGREQ: `pingTimeout = t + 5 s`, `nextPing = t + interval`, the
session's data (queues, arena, identifiers) exactly as before the tick; nothing more is written;
`poll()` returns `Ok(None)`, `recv()` waits again with the ping timeout as its deadline. -/
theorem C10M_pingreq_sent_when_due (W : World) (outer : Outer) (hI : IdleWait W outer)
    (hctl : W.sess.data.outbound.control = []) (hpt : W.sess.rt.pingTimeout = none) (p : Nat)
    (hnp : W.sess.rt.nextPing = some p) (hsz : W.sess.rt.packetTooLarge 2 = false)
    (us : Nat) (hb : W.now + us ≤ 4611686018427387904) (hdue : p ≤ W.now + us)
    (k1 k2 : Nat) (hk1 : 2 ≤ k1 ∧ k1 ≤ 250) (hk2 : k2 ≤ 250) :
    let t := W.now + us
    let A := W.execDirective (.tick us)
    let B := A.execDirective (.d k1)
    let C := B.execDirective (.d k2)
    (A.fut = some (.stepWrite (.drive false outer) (.control ControlAction.pingReq) pingBytes 0 2 t) ∧
      A.sess = W.sess.withPing ∧ A.nets = W.nets ∧ A.now = t ∧ A.log = W.log) ∧
    (B.fut = some (.stepFlush (.drive false outer) (.control ControlAction.pingReq) t) ∧
      B.nets = W.nets.dropLast ++ [{ W.curNet with wire := W.curNet.wire ++ pingBytes }] ∧
      B.log = W.log ++ [{ net := W.nets.length, tag := .control ControlAction.pingReq, bytes := pingBytes }]) ∧
    (C.nets = B.nets ∧ C.log = B.log ∧ C.now = t ∧ C.live = true ∧
      C.sess.rt.pingTimeout = some (t + ROUND_TRIP_TIMEOUT_MS * 1000) ∧
      C.sess.rt.nextPing = W.sess.rt.keepaliveSendInterval.map (fun i => t + i * 1000) ∧
      C.sess.data = W.sess.data ∧ C.sess.reader = W.sess.reader ∧
      (outer = .poll → C.fut = none ∧ (match C.lastRes with | some (.ok ()) => True | _ => False)) ∧
      (outer = .recv → C.fut = some (.waitRead .recv (some (t + ROUND_TRIP_TIMEOUT_MS * 1000)) true))) := by
  intro t A B C
  obtain ⟨a, b, c, _⟩ := ping_cycle W outer hI hctl hpt p hnp hsz us hb hdue k1 k2 hk1 hk2
  have hs : C.sess = W.sess.pinged t := c.sess
  exact ⟨⟨a.fut, a.sess, a.nets, a.now, a.log⟩, ⟨b.fut, b.nets, b.log⟩, c.nets, c.log, c.now.trans b.now,
    (live_of_conn (c.conn.trans (b.conn.trans a.conn))).trans hI.live, by rw [hs]; rfl,
    by rw [hs]; rfl, by rw [hs]; rfl, by rw [hs]; rfl, fun h => ⟨(c.poll h).1, by rw [(c.poll h).2]; trivial⟩,
    fun h => (c.recv h).1.trans (by rw [pinged_deadline])⟩

/-- The PINGREQ bytes are `C0 00`, what the reference parser reads as PINGREQ. -/
theorem C10M_pingreq_bytes : pingBytes = [b 0xC0, b 0] ∧ Spec.parseClientPacket pingBytes = some (.pingreq, []) := by
  decide +kernel

/-- **(1, not yet due.)** A tick that stays before the deadline of the wait (the PINGREQ time, or the
ping timeout while one is running): nothing is queued, nothing is written or logged, no result; the
operation is suspended in the same read, only the clock has moved. -/
theorem C10M_before_deadline_nothing_happens (W : World) (outer : Outer) (hI : IdleWait W outer) (d : Nat)
    (hdl : W.sess.rt.nextDeadline = some d) (us : Nat) (hb : W.now + us ≤ 4611686018427387904) (hlt : W.now + us < d) :
    let R := W.execDirective (.tick us)
    R.fut = some (.waitRead outer (some d) true) ∧ R.sess = W.sess ∧ R.nets = W.nets ∧ R.conn = W.conn ∧
    R.now = W.now + us ∧ R.slot = none ∧ R.lastRes = W.lastRes ∧ R.log = W.log := by
  intro R
  obtain ⟨h, _⟩ := hI.tick_early us hb (by rw [hdl]; exact hlt)
  exact ⟨by rw [h.fut, hI.fut, hdl], h.sess, h.nets, h.conn, h.now, h.slot, h.lastRes, h.log⟩

/-- **(2) Keep-alive 0 sends no pings, at machine level.** In every reachable state keep-alive 0 means
there is no PINGREQ timer (`closed_KaInv`). A waiting operation without PINGREQ timer and
without ping timeout has no deadline: whatever the tick, nothing is queued, written or logged, the
operation stays suspended in the same read, and the state is `IdleWait` again — so this holds for every
sequence of ticks. -/
theorem C10M_zero_keepalive_no_pings :
    (∀ (cfg : Cfg) (ds : List Directive),
      let s := (ds.foldl World.execDirective { sess := Session.new cfg }).sess
      s.rt.keepaliveMs = 0 → s.rt.nextPing = none) ∧
    (∀ (W : World) (outer : Outer), IdleWait W outer → W.sess.rt.nextPing = none → W.sess.rt.pingTimeout = none →
      ∀ us, W.now + us ≤ 4611686018427387904 →
        let R := W.execDirective (.tick us)
        R.fut = some (.waitRead outer none true) ∧ R.sess = W.sess ∧ R.nets = W.nets ∧ R.conn = W.conn ∧
        R.now = W.now + us ∧ R.slot = none ∧ R.lastRes = W.lastRes ∧ R.log = W.log ∧ IdleWait R outer) :=
  ⟨fun cfg ds => (C10_zero_keepalive_no_pings cfg ds 0 · |>.1), fun W outer hI hnp hpt us hb => by
    have hdl : W.sess.rt.nextDeadline = none := by rw [nextDeadline_no_timeout _ hpt, hnp]
    obtain ⟨h, hR⟩ := hI.tick_early us hb (by rw [hdl]; trivial)
    exact ⟨by rw [h.fut, hI.fut, hdl], h.sess, h.nets, h.conn, h.now, h.slot, h.lastRes, h.log, hR⟩⟩

/-- **(3) Dead peer.** A ping timeout `t` is running. A tick to `t` or later while the application
waits ends the wait with `Disconnected`: the handle is dead, the session disconnected, nothing is
written. (A tick to before `t`: `C10M_before_deadline_nothing_happens`, the deadline of the wait being
`t`.) -/
theorem C10M_dead_peer (W : World) (outer : Outer) (hI : IdleWait W outer) (t : Nat)
    (hpt : W.sess.rt.pingTimeout = some t) (us : Nat) (hb : W.now + us ≤ 4611686018427387904) (hd : t ≤ W.now + us) :
    let R := W.execDirective (.tick us)
    R.fut = none ∧ R.lastRes = some (.error .disconnected) ∧ R.live = false ∧ R.sess = W.sess.handleDisconnect ∧
    R.nets = W.nets ∧ R.log = W.log ∧ W.sess.rt.nextDeadline = some t :=
  let h := tick_timeout W outer hI t hpt us hb hd
  ⟨h.1, h.2.1, h.2.2.1, h.2.2.2.1, h.2.2.2.2.1, h.2.2.2.2.2, nextDeadline_of_timeout _ _ hpt⟩

/-- **(3) A PINGRESP in time never leads to a disconnect.** With the timeout `t` running and the clock
before `t`, the PINGRESP (`D0 00`) arrives and is delivered under any read decisions. The timeout is
cleared, nothing else of the session changes, nothing is written, the handle stays live; `poll()`
returns `Ok(None)`; `recv()` is `IdleWait` again with no ping timeout — so from then on a tick either
changes nothing (`C10M_before_deadline_nothing_happens`) or sends the next PINGREQ
(`C10M_pingreq_sent_when_due`); the dead-peer branch needs a running timeout (`C10_timeout_only_when_expired`). -/
theorem C10M_pingresp_in_time (W : World) (outer : Outer) (hI : IdleWait W outer) (t : Nat)
    (hpt : W.sess.rt.pingTimeout = some t) (hnow : W.now < t)
    (hrd : W.sess.reader.data = [] ∧ W.sess.reader.packetLength = none ∧ 2 ≤ W.sess.reader.cap)
    (hrx : W.curNet.rx = [])
    (hnp : ∀ np, W.sess.rt.nextPing = some np → W.now < np)
    (ks : List Nat) (hks : ∀ k ∈ ks, 1 ≤ k ∧ k ≤ 250) (hlen : 2 ≤ ks.length) :
    let R := readPacket ks (W.execDirective (.rx pingRespBytes))
    R.sess.rt.pingTimeout = none ∧ R.sess.rt.nextPing = W.sess.rt.nextPing ∧ R.sess.rt.keepaliveMs = W.sess.rt.keepaliveMs ∧
    R.sess.data = W.sess.data ∧ R.live = true ∧ R.now = W.now ∧ R.nets.dropLast = W.nets.dropLast ∧
    R.curNet.wire = W.curNet.wire ∧ R.curNet.rx = [] ∧ R.log = W.log ∧
    (outer = .poll → R.fut = none ∧ (match R.lastRes with | some (.ok ()) => True | _ => False)) ∧
    (outer = .recv → IdleWait R .recv) := by
  intro R
  obtain ⟨h, hslot⟩ := pingresp_read W outer hI t hpt hnow hrd hrx hnp ks hks hlen
  have hs : R.sess = W.sess.afterPingResp := h.sess
  have hcur : R.curNet = { W.curNet with rx := [] } := curNet_of_nets h.nets
  have hlive : R.live = true := (live_of_conn h.conn).trans hI.live
  refine ⟨by rw [hs]; rfl, by rw [hs]; rfl, by rw [hs]; rfl, by rw [hs]; rfl, hlive, h.now, by rw [h.nets]; simp,
    by rw [hcur], by rw [hcur], h.log, fun ho => ⟨(h.poll ho).1, by rw [(h.poll ho).2]; trivial⟩, fun ho => ?_⟩
  refine ⟨nofun, by rw [(h.recv ho).1, hs], hlive, hslot, ?_, by rw [hs]; exact hI.idle, by rw [h.nets]; simp⟩
  rw [hs]
  exact Waiting_fresh _ _ rfl rfl (show 1 ≤ W.sess.reader.cap by omega)

/-- `D0 00` is the PINGRESP of the server-side reference. -/
theorem C10M_pingresp_bytes : Spec.encodeServer .pingResp = pingRespBytes ∧ pingRespBytes = [b 0xD0, b 0] :=
  ⟨pingRespBytes_spec.1, rfl⟩

/-- **(4) Cadence, one round.** Hypotheses, all explicit: the previous client packet was completed at
`t0` (that is: the PINGREQ timer is armed from `t0`); the keep-alive is at least twice the round-trip
bound (the F12 boundary); the tick that wakes the application lands between the PINGREQ time and the
end of the keep-alive period counted from `t0` (the executor is no later than
`min(ROUND_TRIP, keep-alive/2)` — here 5 s — in honouring the deadline); the transport accepts the write
and the flush promptly (both decisions at the same virtual time, the whole packet at once). Then the
PINGREQ is completed at `t` with `t − t0 ≤ keep-alive`; the timer is re-armed from `t`; and the ping
timeout `t + 5 s` is not later than the next PINGREQ time — so by the time the next PINGREQ is due,
either a PINGRESP has cleared the timeout (and the next round starts: `C10M_pingresp_in_time` gives
back `IdleWait` with the timer armed from `t`) or the dead-peer branch has fired (`C10M_dead_peer`):
there is no window in which the client is silent past its keep-alive. -/
theorem C10M_cadence_round (W : World) (outer : Outer) (hI : IdleWait W outer)
    (hctl : W.sess.data.outbound.control = []) (hpt : W.sess.rt.pingTimeout = none)
    (hsz : W.sess.rt.packetTooLarge 2 = false) (t0 : Nat)
    (harmed : W.sess.rt.nextPing = W.sess.rt.keepaliveSendInterval.map (fun i => t0 + i * 1000))
    (hka : 2 * ROUND_TRIP_TIMEOUT_MS ≤ W.sess.rt.keepaliveMs)
    (us : Nat) (hb : W.now + us ≤ 4611686018427387904)
    (hdue : t0 + (W.sess.rt.keepaliveMs - ROUND_TRIP_TIMEOUT_MS) * 1000 ≤ W.now + us)
    (hprompt : W.now + us ≤ t0 + W.sess.rt.keepaliveMs * 1000) :
    let t := W.now + us
    let C := ((W.execDirective (.tick us)).execDirective (.d 250)).execDirective (.d 250)
    C.now = t ∧ t ≤ t0 + W.sess.rt.keepaliveMs * 1000 ∧
    C.curNet.wire = W.curNet.wire ++ pingBytes ∧
    C.sess.rt.nextPing = some (t + (W.sess.rt.keepaliveMs - ROUND_TRIP_TIMEOUT_MS) * 1000) ∧
    C.sess.rt.pingTimeout = some (t + ROUND_TRIP_TIMEOUT_MS * 1000) ∧
    t + ROUND_TRIP_TIMEOUT_MS * 1000 ≤ t + (W.sess.rt.keepaliveMs - ROUND_TRIP_TIMEOUT_MS) * 1000 ∧
    C.sess.data = W.sess.data ∧ C.live = true := by
  intro t C
  have hint := interval_of_ka W.sess.rt hka
  obtain ⟨_, ⟨_, hB, _⟩, hC, _, hnow, hlive, hto, hnp, hdata, _⟩ := C10M_pingreq_sent_when_due W outer hI hctl hpt _
    (by rw [harmed, hint]; rfl) hsz us hb hdue 250 250 ⟨by omega, by omega⟩ (by omega)
  exact ⟨hnow, hprompt, by rw [curNet_of_nets (hC.trans hB)], by rw [hnp, hint]; rfl, hto, timeout_le_nextPing hka t,
    hdata, hlive⟩

/-- The hypothesis `hka` of the cadence theorems cannot be weakened: below twice the round-trip bound
the next PINGREQ time falls before the ping timeout (e.g. keep-alive 9 s: interval 4.5 s < 5 s; at
9.999 s the two coincide), and nothing is queued while the timeout runs
(`C10_no_pingreq_while_waiting`), so the round has another shape. Whether the gap then exceeds the
keep-alive is not stated here: that (finding F12) needs a keep-alive under 5 s. -/
theorem C10M_boundary_sharp (r : Runtime) (hka : r.keepaliveMs ≠ 0) (hlt : r.keepaliveMs + 1 < 2 * ROUND_TRIP_TIMEOUT_MS) (t : Nat) :
    ∃ i, r.keepaliveSendInterval = some i ∧ t + i * 1000 < t + ROUND_TRIP_TIMEOUT_MS * 1000 := by
  refine ⟨_, keepaliveSendInterval_of_pos r hka, ?_⟩
  have hmin : min ROUND_TRIP_TIMEOUT_MS (r.keepaliveMs / 2) = r.keepaliveMs / 2 :=
    Nat.min_eq_right (by rw [RT_val] at hlt ⊢; omega)
  rw [hmin]
  rw [RT_val] at hlt ⊢
  omega

/-- Keep-alive 10 s (PINGREQ interval 5 s). -/
def C10M_cfg : Cfg :=
  { rx := 64, tx := 64, keepaliveS := 10, expiry := 0, downgrade := false, clientId := [b 0x63], auth := none, will := none }

/-- connect, CONNACK, then `recv()`: the application waits. -/
def C10M_pre : List Directive := [.connect, .go, .rx [b 0x20, b 3, b 0, b 0, b 0], .go, .recv]

def C10M_run (ds : List Directive) : World := (C10M_pre ++ ds).foldl World.execDirective { sess := Session.new C10M_cfg }

/-- What the examples look at: time, PINGREQ time, ping timeout, liveness, what the wire holds behind
the 29-byte CONNECT, length of the control queue, whether the operation is still suspended. -/
def C10M_view (w : World) : Nat × Option Nat × Option Nat × Bool × Bytes × Nat × Bool :=
  (w.now, w.sess.rt.nextPing, w.sess.rt.pingTimeout, w.live, w.curNet.wire.drop 29, w.sess.data.outbound.control.length, w.fut.isSome)

/-- (1) not due at 4.999999 s; due at 5 s: queued, nothing written; after write and flush: `C0 00` on
the wire, timeout at 10 s, next PINGREQ at 10 s. -/
theorem C10M_example_pingreq :
    (C10M_view (C10M_run []) == (0, some 5000000, none, true, [], 0, true)) = true ∧
    (C10M_view (C10M_run [.tick 4999999]) == (4999999, some 5000000, none, true, [], 0, true)) = true ∧
    (C10M_view (C10M_run [.tick 5000000]) == (5000000, some 5000000, none, true, [], 1, true)) = true ∧
    (C10M_view (C10M_run [.tick 5000000, .d 250, .d 250]) == (5000000, some 10000000, some 10000000, true, [b 0xC0, b 0], 0, true)) = true := by
  decide +kernel

/-- (3) no PINGRESP: one µs before the timeout nothing happens, at the timeout the wait ends with
`Disconnected`; with a PINGRESP at 6 s the timeout is cleared, 9.999999 s is quiet, and at 10 s the next
PINGREQ is queued instead of a disconnect. -/
theorem C10M_example_dead_peer :
    let sent : List Directive := [.tick 5000000, .d 250, .d 250]
    (C10M_view (C10M_run (sent ++ [.tick 4999999])) == (9999999, some 10000000, some 10000000, true, [b 0xC0, b 0], 0, true)) = true ∧
    (C10M_view (C10M_run (sent ++ [.tick 5000000])) == (10000000, none, none, false, [b 0xC0, b 0], 0, false)) = true ∧
    (match (C10M_run (sent ++ [.tick 5000000])).lastRes with | some (.error .disconnected) => true | _ => false) = true ∧
    (C10M_view (C10M_run (sent ++ [.tick 1000000, .rx [b 0xD0, b 0], .d 1, .d 1])) == (6000000, some 10000000, none, true, [b 0xC0, b 0], 0, true)) = true ∧
    (C10M_view (C10M_run (sent ++ [.tick 1000000, .rx [b 0xD0, b 0], .d 1, .d 1, .tick 3999999])) == (9999999, some 10000000, none, true, [b 0xC0, b 0], 0, true)) = true ∧
    (C10M_view (C10M_run (sent ++ [.tick 1000000, .rx [b 0xD0, b 0], .d 1, .d 1, .tick 4000000])) == (10000000, some 10000000, none, true, [b 0xC0, b 0], 1, true)) = true := by
  decide +kernel

end Minimq
