import Minimq.Proofs.Exchange
/-
C18 — operation handles: pending, complete, invalidated.

A handle is `Op = (kind, id, generation)`. `SessionData.status` reports `invalidated` when the
generations differ, else `pending` when the identifier is held by a retained packet (for `pub2`: or by
a release entry), else `complete` (`status_eq`, with `inFlight` for the queue test).

KNOWN FINDING F15 (`C18_F15_complete_then_pending_again`): the status is computed from the identifier
alone, so once the identifier of a completed operation has been handed out again in the same
generation, the old handle reports `pending` again (and `complete` only when the *new* operation
completes). The theorems below are therefore about the life of a handle up to its completion.

Second limit, by construction of the counter: the generation wraps at 2^32
(`C18_generation_wraps`), so a handle kept across 2^32 fresh sessions is no longer reported
invalidated.
-/
namespace Minimq
open Gen Outbound

/-- A handle whose generation is the current one and whose identifier is held by a retained packet is
`pending` — whatever its kind. -/
theorem C18_pending_while_retained (d : SessionData) (op : Op) (hg : op.generation = d.generation)
    (hr : d.outbound.hasRetained op.id = true) : d.status op = .pending := by
  rw [status_pending_iff]
  refine ⟨hg, ?_⟩
  unfold SessionData.inFlight
  cases op.kind <;> simp [hr]

/-- **Right after the request was enqueued** (allocate an identifier, encode, retain — the step
`SessStep.enqueue` every publish/subscribe/unsubscribe goes through) the handle built from the allocated
identifier and the current generation is `pending`. -/
theorem C18_pending_when_issued {ε : Type} (s : Session) (enc : Nat → (Nat → Nat → Bytes) → Except ε (Nat × Bytes))
    (off len : Nat) (isPub : Bool) (s3 : Session) (kind : OpKind)
    (hr : (s.alloc.1.encode enc).1.retain s.alloc.2 off len isPub = some s3) :
    s3.data.status { kind := kind, id := s.alloc.2, generation := s.data.generation } = .pending := by
  obtain ⟨pid, hg⟩ := nextPacketId_fst s.data
  rw [Session.alloc_encode_fst, hg] at hr
  obtain ⟨o, ho, rfl⟩ := Session.retain_some hr
  obtain ⟨_, rfl⟩ := retainPacket_some ho
  exact C18_pending_while_retained _ _ rfl (by simp [hasRetained])

/-- **One step**: a pending handle is still pending after any primitive step, unless the step handles an
inbound packet that acknowledges the handle's identifier (SUBACK, UNSUBACK, PUBACK, PUBREC or PUBCOMP
carrying that identifier) or is the CONNACK of a fresh broker session. -/
theorem C18_pending_stable {s s' : Session} (st : SessStep s s') {op : Op} (hp : s.data.status op = .pending) :
    s'.data.status op = .pending ∨
    (∃ p, s' = (s.handle p).1 ∧ ((∃ k, p.ackOf = some (op.id, k)) ∨ ∃ rs, p = .pubComp op.id rs)) ∨
    (∃ block now, s' = (s.activate false block now).1) := by
  rcases st.classify with hq | ⟨p, rfl⟩ | ⟨block, now, rfl⟩
  · exact Or.inl (hq.status_pending hp)
  · by_cases h1 : ∃ k, p.ackOf = some (op.id, k)
    · exact Or.inr (Or.inl ⟨p, rfl, Or.inl h1⟩)
    · by_cases h2 : ∃ rs, p = .pubComp op.id rs
      · exact Or.inr (Or.inl ⟨p, rfl, Or.inr h2⟩)
      · left
        rw [Session.handle_fst_data]
        exact status_pending_mono ((handlePacket_frame _ _ p).generation)
          (fun h => handlePacket_hasRetained _ _ p op.id h fun k hk => h1 ⟨k, hk⟩)
          (fun h => handlePacket_hasPendingRelease _ _ p op.id h fun rs hrs => h2 ⟨rs, hrs⟩) hp
  · exact Or.inr (Or.inr ⟨block, now, rfl⟩)

/-- **Any execution**: if a handle is pending at the start of a program and not pending at its end, some
step of the execution handled an acknowledgement for its identifier or was a fresh-session CONNACK, and
the handle was pending until that step. `I` is any predicate the primitives keep, of the caller's choosing: it
holds after every step of the chain (`Reach I`), so whatever invariant is needed of `a` and `b` comes with them. -/
theorem C18_pending_until_acknowledged {I : Session → Prop} (hI : Closed I) (w : World) (ds : List Directive)
    (h : I w.sess) {op : Op} (hp : w.sess.data.status op = .pending)
    (hn : (ds.foldl World.execDirective w).sess.data.status op ≠ .pending) :
    ∃ a b, Reach I w.sess a ∧ SessStep a b ∧ Reach I b (ds.foldl World.execDirective w).sess ∧
      a.data.status op = .pending ∧
      ((∃ p, b = (a.handle p).1 ∧ ((∃ k, p.ackOf = some (op.id, k)) ∨ ∃ rs, p = .pubComp op.id rs)) ∨
       (∃ block now, b = (a.activate false block now).1)) :=
  (run_reach hI ds w h).first_change (P := fun s => s.data.status op = .pending) hp hn
    fun st ha hb => (C18_pending_stable st ha).resolve_left hb

/-- A packet that acknowledges the identifier but finds no packet of the acknowledged kind (stale or
mismatched acknowledgement) changes nothing, so the handle stays as it was. -/
theorem C18_stale_ack_changes_nothing (d : SessionData) (r : Runtime) (id : Nat) (rs : ReasonIn) (pr codes : Bytes) :
    (d.awaits id .subAck = false → (handlePacket d r (.subAck id pr codes)).1 = d) ∧
    (d.awaits id .unsubAck = false → (handlePacket d r (.unsubAck id pr codes)).1 = d) ∧
    (d.awaits id .pubAck = false → (handlePacket d r (.pubAck id rs)).1 = d) ∧
    (d.awaits id .pubRec = false → (handlePacket d r (.pubRec id rs)).1 = d) ∧
    (d.outbound.hasPendingRelease id = false → (handlePacket d r (.pubComp id rs)).1 = d) := by
  exact ⟨fun h => ((handlePacket_ack d r rfl).1 h).1, fun h => ((handlePacket_ack d r rfl).1 h).1,
    fun h => ((handlePacket_ack d r rfl).1 h).1, fun h => ((handlePacket_ack d r rfl).1 h).1,
    fun h => by rw [handlePacket_pubComp]; simp [h]⟩

/-- **SUBACK / UNSUBACK / PUBACK that finds its packet**: with distinct identifiers in flight (`IdInv`,
an invariant of every execution) the handle with that identifier and the current generation reports
`complete` right after — whether or not the acknowledgement carried a failure code. -/
theorem C18_complete_after_ack (d : SessionData) (r : Runtime) (op : Op) (rs : ReasonIn) (pr codes : Bytes)
    (hinv : d.IdInv) (hg : op.generation = d.generation) :
    (d.awaits op.id .subAck = true → (handlePacket d r (.subAck op.id pr codes)).1.status op = .complete) ∧
    (d.awaits op.id .unsubAck = true → (handlePacket d r (.unsubAck op.id pr codes)).1.status op = .complete) ∧
    (d.awaits op.id .pubAck = true → (handlePacket d r (.pubAck op.id rs)).1.status op = .complete) :=
  ⟨fun h => handlePacket_completes hinv hg rfl h nofun, fun h => handlePacket_completes hinv hg rfl h nofun,
    fun h => handlePacket_completes hinv hg rfl h nofun⟩

/-- **QoS 2, PUBREC with a failure code**: the exchange is over, the handle reports `complete`. -/
theorem C18_pub2_complete_after_failed_pubrec (d : SessionData) (r : Runtime) (op : Op) (rs : ReasonIn)
    (hinv : d.IdInv) (hg : op.generation = d.generation) (ha : d.awaits op.id .pubRec = true)
    (hfail : reasonSuccess rs.rc = false) :
    (handlePacket d r (.pubRec op.id rs)).1.status op = .complete :=
  handlePacket_completes hinv hg rfl ha fun _ h => by cases h; simp [SessionData.pubrecCreates, hfail]

/-- **QoS 2, between a successful PUBREC and the PUBCOMP** the handle still reports `pending` (the
release entry holds the identifier) — given room in the release queue and a PUBREL within the broker's
packet size limit (otherwise see `C03_capacity_needed`: the exchange is dropped and the handle reports
`complete`). -/
theorem C18_pub2_pending_after_pubrec (d : SessionData) (r : Runtime) (op : Op) (rs : ReasonIn)
    (hk : op.kind = .pub2) (hg : op.generation = d.generation) (ha : d.awaits op.id .pubRec = true)
    (hok : reasonSuccess rs.rc = true) (hsz : r.packetTooLarge 5 = false)
    (hcap : d.outbound.release.length < MAX_PENDING_RELEASE) :
    (handlePacket d r (.pubRec op.id rs)).1.status op = .pending := by
  rw [handlePacket_pubRec]
  simp only [ha, hok, hsz, hcap, if_true, Bool.not_true, Bool.false_eq_true, if_false]
  rw [status_pending_iff]
  refine ⟨hg, ?_⟩
  unfold SessionData.inFlight
  simp [hk, SessionData.withRelease, hasPendingRelease]

/-- **QoS 2, PUBCOMP that finds its release entry**: the handle reports `complete` (success or failure
code alike). -/
theorem C18_pub2_complete_after_pubcomp (d : SessionData) (r : Runtime) (op : Op) (rs : ReasonIn)
    (hinv : d.IdInv) (hg : op.generation = d.generation) (ha : d.outbound.hasPendingRelease op.id = true) :
    (handlePacket d r (.pubComp op.id rs)).1.status op = .complete := by
  rw [handlePacket_pubComp]; simp only [ha, if_true]
  exact status_complete_of_free hg (released_free hinv ha).1 (released_free hinv ha).2

/-- `status` reports `invalidated` iff the handle's generation is not the session's. -/
theorem C18_invalidated_iff (d : SessionData) (op : Op) :
    d.status op = .invalidated ↔ op.generation ≠ d.generation := by
  rw [status_eq]
  by_cases h1 : op.generation = d.generation <;> by_cases h2 : d.inFlight op = true <;> simp [h1, h2]

/-- A fresh-session reset moves the generation to `(g + 1) % 2^32 ≠ g`, so every handle of the session
that was replaced reports `invalidated` right after. -/
theorem C18_reset_invalidates (d : SessionData) (op : Op) (hg : op.generation = d.generation) :
    d.reset.generation = (d.generation + 1) % 4294967296 ∧ d.reset.status op = .invalidated := by
  refine ⟨rfl, ?_⟩
  rw [C18_invalidated_iff, hg]
  simp only [SessionData.reset]; omega

/-- The CONNACK of a fresh broker session — the primitive through which the operations reset — invalidates every
handle of the generation it replaces. -/
theorem C18_fresh_session_invalidates (s : Session) (block : Bytes) (now : Nat) (op : Op)
    (hg : op.generation = s.data.generation) :
    (s.activate false block now).1.data.status op = .invalidated := by
  rw [C18_invalidated_iff, hg, (activate_false_data s block now).1]
  omega

/-- **The generation changes in no other step**: every primitive step keeps it, except the CONNACK of a
fresh broker session. Hence a handle is reported `invalidated` only after such a CONNACK. -/
theorem C18_generation_changes_only_on_fresh_session {s s' : Session} (st : SessStep s s') :
    s'.data.generation = s.data.generation ∨
    (∃ block now, s' = (s.activate false block now).1 ∧
      s'.data.generation = (s.data.generation + 1) % 4294967296) :=
  st.generation

theorem C18_inbound_keeps_generation (d : SessionData) (r : Runtime) (p : Recv) :
    (handlePacket d r p).1.generation = d.generation :=
  (handlePacket_frame d r p).generation

/-- **`handle_packet` reports `Peer(Rejected rc)` exactly when** (`Recv.rejects`): a SUBACK/UNSUBACK that found
its packet has `rc` as its first failing code; a PUBACK that found its packet, a PUBREC that found its
PUBLISH *or whose identifier has a release entry*, or a PUBCOMP that found its release entry carries
the failure code `rc`. No other inbound packet produces it. (`poll`/`recv`/`drive` return this error as it is:
`process_received_packet` passes `Peer` errors through.) -/
theorem C18_rejected_iff (d : SessionData) (r : Runtime) (p : Recv) (rc : Nat) :
    (handlePacket d r p).2.2 = .error (.peerRejected rc) ↔ p.rejects d rc := by
  have inb : ∀ p : Recv, p.ackOf = none → (∀ id rs, p ≠ .pubComp id rs) → ¬ p.rejects d rc →
      ((handlePacket d r p).2.2 = .error (.peerRejected rc) ↔ p.rejects d rc) :=
    fun p h hc hn => iff_of_false ((handlePacket_inbound d r p h hc).2 rc) hn
  cases p with
  | subAck id pr codes =>
    rw [handlePacket_subAck]
    simp only [Recv.rejects]
    cases d.awaits id .subAck <;> cases firstFailure codes <;> simp
  | unsubAck id pr codes =>
    rw [handlePacket_unsubAck]
    simp only [Recv.rejects]
    cases d.awaits id .unsubAck <;> cases firstFailure codes <;> simp
  | pubAck id rs =>
    rw [handlePacket_pubAck]
    simp only [Recv.rejects]
    cases d.awaits id .pubAck <;> cases reasonSuccess rs.rc <;> simp
  | pubRec id rs =>
    rw [handlePacket_pubRec]
    simp only [Recv.rejects]
    cases hs : reasonSuccess rs.rc
    · cases d.awaits id .pubRec <;> cases d.outbound.hasPendingRelease id <;> simp
    · -- a success code: whichever way the PUBREC ends, it is not a rejection
      refine iff_of_false ?_ (fun h => nomatch h.2.1)
      simp only [Bool.not_true, Bool.false_eq_true, if_false, Bool.and_false]
      (repeat' split) <;> nofun
  | pubComp id rs =>
    rw [handlePacket_pubComp]
    simp only [Recv.rejects]
    cases d.outbound.hasPendingRelease id <;> cases reasonSuccess rs.rc <;> simp
  | connAck | pingResp | disconnect | pubRel | publish => exact inb _ rfl (fun _ _ h => nomatch h) id

/-- **A rejected acknowledgement has removed its entry nevertheless**: when a final acknowledgement that found its entry
is rejected, the poll reports the rejection and the handle reports `complete`. -/
theorem C18_rejected_and_complete (d : SessionData) (r : Runtime) (op : Op) (rs : ReasonIn) (pr codes : Bytes)
    (rc : Nat) (hinv : d.IdInv) (hg : op.generation = d.generation) :
    (d.awaits op.id .subAck = true → firstFailure codes = some rc →
      (handlePacket d r (.subAck op.id pr codes)).2.2 = .error (.peerRejected rc) ∧
      (handlePacket d r (.subAck op.id pr codes)).1.status op = .complete) ∧
    (d.awaits op.id .unsubAck = true → firstFailure codes = some rc →
      (handlePacket d r (.unsubAck op.id pr codes)).2.2 = .error (.peerRejected rc) ∧
      (handlePacket d r (.unsubAck op.id pr codes)).1.status op = .complete) ∧
    (d.awaits op.id .pubAck = true → reasonSuccess rs.rc = false →
      (handlePacket d r (.pubAck op.id rs)).2.2 = .error (.peerRejected rs.rc) ∧
      (handlePacket d r (.pubAck op.id rs)).1.status op = .complete) ∧
    (d.awaits op.id .pubRec = true → reasonSuccess rs.rc = false →
      (handlePacket d r (.pubRec op.id rs)).2.2 = .error (.peerRejected rs.rc) ∧
      (handlePacket d r (.pubRec op.id rs)).1.status op = .complete) ∧
    (d.outbound.hasPendingRelease op.id = true → reasonSuccess rs.rc = false →
      (handlePacket d r (.pubComp op.id rs)).2.2 = .error (.peerRejected rs.rc) ∧
      (handlePacket d r (.pubComp op.id rs)).1.status op = .complete) := by
  have hc := C18_complete_after_ack d r op rs pr codes hinv hg
  refine ⟨fun h hf => ⟨?_, hc.1 h⟩, fun h hf => ⟨?_, hc.2.1 h⟩, fun h hf => ⟨?_, hc.2.2 h⟩,
    fun h hf => ⟨?_, C18_pub2_complete_after_failed_pubrec d r op rs hinv hg h hf⟩,
    fun h hf => ⟨?_, C18_pub2_complete_after_pubcomp d r op rs hinv hg h⟩⟩
  · rw [C18_rejected_iff]; exact ⟨h, hf⟩
  · rw [C18_rejected_iff]; exact ⟨h, hf⟩
  · rw [C18_rejected_iff]; exact ⟨h, hf, rfl⟩
  · rw [C18_rejected_iff]; exact ⟨Or.inl h, hf, rfl⟩
  · rw [C18_rejected_iff]; exact ⟨h, hf, rfl⟩

def C18_rt : Runtime := { keepaliveMs := 0, configuredKeepaliveMs := 0 }

/-- One retained QoS 1 PUBLISH with identifier 1, generation 3. -/
def C18_ex : SessionData :=
  { generation := 3,
    outbound := { (Outbound.new 16) with
      buf := [0x32, 5, 0, 1, 0x61, 0, 1, 0, 0, 0, 0, 0, 0, 0, 0, 0], used := 7, nextSer := 1,
      retained := [{ id := 1, offset := 0, len := 7, state := .sent, ser := 0 }] } }

def C18_op : Op := { kind := .pub1, id := 1, generation := 3 }

/-- Non-vacuity: `C18_ex` satisfies `IdInv`; the handle is pending, complete after PUBACK(1) — also when
the PUBACK carries failure code 0x97, which the poll reports — and invalidated after a reset. -/
example :
    C18_ex.IdInv ∧ C18_ex.status C18_op = .pending ∧
    (handlePacket C18_ex C18_rt (.pubAck 1 { code := none, props := none })).1.status C18_op = .complete ∧
    (handlePacket C18_ex C18_rt (.pubAck 1 { code := some 0x97, props := none })).1.status C18_op = .complete ∧
    C18_ex.reset.status C18_op = .invalidated := by
  refine ⟨⟨⟨by decide, by decide, by decide, by decide⟩, by decide⟩, by decide, by decide, by decide, by decide⟩

example : (handlePacket C18_ex C18_rt (.pubAck 1 { code := some 0x97, props := none })).2.2 =
    .error (.peerRejected 0x97) := rfl

/-- Non-vacuity of `C18_pending_when_issued`: on a new session the retain step succeeds. -/
example :
    let s := Session.new { rx := 64, tx := 64, keepaliveS := 0, expiry := 0, downgrade := false, clientId := [],
                           auth := none, will := none }
    ((s.alloc.1.encode (ε := Unit) (fun _ _ => .error ())).1.retain s.alloc.2 0 4 true).isSome = true ∧ s.alloc.2 = 1 := by
  refine ⟨by decide, by decide⟩

/-- **F15 (known finding).** The handle of the QoS 1 publish with identifier 1 reports `pending`, then —
after its PUBACK — `complete`, and then `pending` AGAIN once a later request of the same generation has
been retained under the reused identifier 1 (the allocator hands an identifier out again as soon as it
is free, e.g. after the 16-bit counter has wrapped). Completion of a handle is therefore only
meaningful until its identifier is reused. -/
theorem C18_F15_complete_then_pending_again :
    let d1 := (handlePacket C18_ex C18_rt (.pubAck 1 { code := none, props := none })).1
    C18_ex.status C18_op = .pending ∧ d1.status C18_op = .complete ∧
    ∃ o2, d1.outbound.retainPacket 1 0 7 = some o2 ∧
      ({ d1 with outbound := o2 } : SessionData).status C18_op = .pending := by
  refine ⟨by decide, by decide, _, rfl, by decide⟩

/-- The exception in `C18_rejected_iff`: a duplicate PUBREC with a failure code for an identifier whose
PUBREL is already queued is reported as a rejection although nothing was removed — the `pub2` handle
keeps reporting `pending`. -/
example :
    let d : SessionData := { outbound := { (Outbound.new 8) with release := [{ id := 4, rc := 0, state := .sent }] } }
    (handlePacket d C18_rt (.pubRec 4 { code := some 0x80, props := none })).2.2 = .error (.peerRejected 0x80) ∧
    (handlePacket d C18_rt (.pubRec 4 { code := some 0x80, props := none })).1.status
      { kind := .pub2, id := 4, generation := 0 } = .pending := by
  refine ⟨rfl, by decide⟩

/-- The generation counter wraps: after a reset at generation `2^32 - 1` handles of generation 0 are no
longer reported invalidated. -/
theorem C18_generation_wraps :
    ({ generation := 4294967295, outbound := Outbound.new 8 } : SessionData).reset.generation = 0 := by
  decide +kernel

end Minimq
