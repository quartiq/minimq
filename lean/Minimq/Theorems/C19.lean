import Minimq.Proofs.SpecProps
import Minimq.Proofs.DirOut
import Minimq.Proofs.Request
/-
C19 — invalid requests are refused locally and leave no trace; QoS capped when asked.

The property/context/value table and the
identifiers are regenerated from `/repo/src/properties.rs` on every check (`Generated.lean`), so an
edit of the Rust table is an edit of what these theorems are about.
-/
namespace Minimq
open Gen

/-- The crate's validation table is the specification's table (27 kinds × 5 contexts × all values):
a well-typed property is accepted for a context exactly when MQTT 5 (table 2-4 and the value rules
of section 3) lets a client put it there with that value. Both directions: nothing illegal is
accepted, nothing legal is refused. -/
theorem C19_validFor_iff_spec (c : Ctx) (p : Property) (hwf : p.wf = true) :
    p.validFor c = true ↔
      (Spec.allowedIn (ctxWhere c) p.kind.id = true ∧ Spec.legalValue p.kind.id p.val.num = true) :=
  validFor_iff_spec c p

/-- A whole property list is accepted iff each element is legal (user-supplied lists never contain
undecodable items). -/
theorem C19_list_validFor (c : Ctx) (ps : List Property) :
    (Properties.slice ps).validFor c = true ↔ ∀ p ∈ ps, p.validFor c = true := by
  simp [Properties.validFor, Properties.iter, List.all_eq_true]

/-- The checks of `subscribe` and `unsubscribe` before anything else is done: a live handle, a non-empty
topic list, legal properties. -/
theorem refused_checks (w d k : World) (name : String) {empty valid : Bool} (hlive : w.live = true)
    (hbad : empty = true ∨ valid = false) :
    (if !w.live then d else if empty then w.finishErr name .invalidRequest
      else if !valid then w.finishErr name .invalidRequest else k) = w.finishErr name .invalidRequest := by
  rw [hlive, if_neg (by decide)]
  rcases hbad with rfl | rfl
  · rfl
  · cases empty <;> rfl

/-- SUBSCRIBE with an illegal property or an empty filter list is refused with `InvalidRequest`
before anything else happens: no I/O, no identifier consumed, session state untouched. -/
theorem C19_subscribe_refused_leaves_no_trace (w : World) (r : SubReq)
    (hconn : w.conn.isSome = true) (hlive : w.live = true) (hfut : w.fut = none)
    (hbad : r.topics.isEmpty = true ∨ (Properties.slice r.props).validFor .Subscribe = false) :
    let w' := w.execDirective (.subscribe r)
    w'.sess = w.sess ∧ w'.nets = w.nets ∧ w'.handles = w.handles ∧ w'.conn = w.conn ∧ w'.fut = none ∧
      w'.lastRes = some (.error .invalidRequest) := by
  rw [World.execDirective, startOp_ready w _ _ hconn hfut,
    refused_checks { w with wakes := 0, lastIoStarved := false } _ _ _ hlive hbad]
  exact ⟨rfl, rfl, rfl, rfl, rfl, rfl⟩

/-- UNSUBSCRIBE: as `C19_subscribe_refused_leaves_no_trace`. -/
theorem C19_unsubscribe_refused_leaves_no_trace (w : World) (r : UnsubReq)
    (hconn : w.conn.isSome = true) (hlive : w.live = true) (hfut : w.fut = none)
    (hbad : r.topics.isEmpty = true ∨ (Properties.slice r.props).validFor .Unsubscribe = false) :
    let w' := w.execDirective (.unsubscribe r)
    w'.sess = w.sess ∧ w'.nets = w.nets ∧ w'.handles = w.handles ∧ w'.conn = w.conn ∧ w'.fut = none ∧
      w'.lastRes = some (.error .invalidRequest) := by
  rw [World.execDirective, startOp_ready w _ _ hconn hfut,
    refused_checks { w with wakes := 0, lastIoStarved := false } _ _ _ hlive hbad]
  exact ⟨rfl, rfl, rfl, rfl, rfl, rfl⟩

/-- DISCONNECT with an illegal property is refused the same way (the handle stays usable). -/
theorem C19_disconnect_refused_leaves_no_trace (w : World) (d : Disconnect) (ps : List Property)
    (hconn : w.conn.isSome = true) (hlive : w.live = true) (hfut : w.fut = none)
    (hps : d.props = some ps) (hbad : (Properties.slice ps).validFor .Disconnect = false) :
    let w' := w.execDirective (.disconnect d)
    w'.sess = w.sess ∧ w'.nets = w.nets ∧ w'.handles = w.handles ∧ w'.conn = w.conn ∧ w'.fut = none ∧
      w'.lastRes = some (.error .invalidRequest) := by
  have hl : World.live { w with wakes := 0, lastIoStarved := false } = true := hlive
  rw [World.execDirective, startOp_ready w _ _ hconn hfut]
  simp only [hl, hps, hbad, Bool.not_true, Bool.not_false, Bool.false_eq_true, if_false, if_true]
  exact ⟨rfl, rfl, rfl, rfl, rfl, rfl⟩

/-- **PUBLISH with an illegal property**: `publish` first finishes older outbound work
(`flush_outbound`, which may write and may fail on its own); once that is done the request is refused
with `InvalidRequest` before an identifier is allocated or a byte is encoded: session, transports,
handles and quota are exactly what the flush left. (So "leaves no trace" holds of the *request*; the
flush that precedes it is not part of it.) -/
theorem C19_publish_refused_after_flush (fuel : Nat) (w : World) (r : PubReq)
    (h : r.props.validFor .Publish = false) :
    World.afterFlush (fuel + 1) w (.publishPre r) = w.finishErr "publish" .invalidRequest := by
  rw [afterFlush_publishPre, h]; rfl

theorem C19_publish_refused_leaves_no_trace (fuel : Nat) (w : World) (r : PubReq)
    (h : r.props.validFor .Publish = false) :
    let w' := World.afterFlush (fuel + 1) w (.publishPre r)
    w'.sess = w.sess ∧ w'.nets = w.nets ∧ w'.handles = w.handles ∧ w'.conn = w.conn ∧ w'.log = w.log ∧
    w'.lastRes = some (.error .invalidRequest) := by
  intro w'
  have e : w' = w.finishErr "publish" .invalidRequest := C19_publish_refused_after_flush fuel w r h
  rw [e]; exact ⟨rfl, rfl, rfl, rfl, rfl, rfl⟩

/-- **QoS cap.** With auto-downgrade on, the QoS used is at most the broker's Maximum QoS, never above
the requested one, and equal to the requested one when that is within the cap; with auto-downgrade
off, or without a Maximum QoS, it is the requested one. -/
theorem C19_qos_cap (m q : Nat) :
    World.effectiveQos (some m) true q ≤ m ∧ World.effectiveQos (some m) true q ≤ q ∧
    (q ≤ m → World.effectiveQos (some m) true q = q) ∧
    World.effectiveQos (some m) false q = q ∧ (∀ d, World.effectiveQos none d q = q) := by
  unfold World.effectiveQos
  refine ⟨?_, ?_, ?_, ?_, fun _ => rfl⟩
  · simp only [Bool.true_and, decide_eq_true_eq]; split <;> omega
  · simp only [Bool.true_and, decide_eq_true_eq]; split <;> omega
  · intro hq; simp only [Bool.true_and, decide_eq_true_eq]; rw [if_neg (by omega)]
  · simp

/-- Non-vacuity: a live world with a QoS 1 publish in flight satisfies the hypotheses. -/
example : ∃ w : World, w.conn.isSome = true ∧ w.live = true ∧ w.fut = none ∧
    w.sess.data.outbound.retained ≠ [] :=
  ⟨{ sess := { (Session.new { rx := 64, tx := 64, keepaliveS := 60, expiry := 0, downgrade := false,
                              clientId := [], auth := none, will := none }) with
                data := { outbound := { (Outbound.new 64) with
                  retained := [{ id := 1, offset := 3, len := 9, state := .sent }], used := 12 } } },
     conn := some { live := true, resumed := false } },
   by simp, by simp [World.live], rfl, by simp⟩

end Minimq
