import Minimq.Proofs.QuiesceSetting
import Minimq.Theorems.C16Quiesce
/-
C16, liveness half — the hypotheses of `C16Q_bounded_quiescence` that follow from reachability.

Of the sixteen hypotheses of `Setting w` (`Proofs/QuiesceFinal.lean`), five are facts about every world a
program produces, as far as they are true:

* `clean` (no `Sent` entry in the control queue), `ctlCap` (at most `MAX_PENDING_CONTROL` control entries),
  `small` (identifiers in use below 65536): invariants of every world a program produces —
  `C16Q_inv_clean`, `C16Q_inv_ctlCap`, `C16Q_inv_small`.
* `maxq` (maximum send quota at most 8): holds of every produced world whose handle is live —
  `C16Q_inv_maxq`; no assumption on the ghost mark `tornNets` is needed: the
  handle becomes live only when a CONNACK is accepted.
* `kinds` (retained packets are QoS 1/2 PUBLISH, SUBSCRIBE, UNSUBSCRIBE): **not** an invariant of every
  produced world. `PubReq.qos` is a natural number in the model, and `publish` with `qos = 3` retains a
  packet with first byte `0x36` that no acknowledgement matches: `C16Q_kinds_needed` is a produced world that
  satisfies every other hypothesis and is not quiescent within its `mu` (= 1) rounds, so the theorem's
  conclusion fails; an `example` shows it unchanged after six. This is an artefact of the model, not a defect
  of the crate — the Rust `QoS` enum has the values 0, 1, 2 only, and the directive parser rejects anything
  else. For programs that publish with QoS 0, 1, 2 only it is an invariant: `C16Q_inv_kinds`.

`C16Q_bounded_quiescence'` is the theorem from `Produced w` and the twelve remaining hypotheses `Setting' w`;
`C16Q_bounded_quiescence_qos` is the theorem for QoS 0/1/2 programs from the eleven hypotheses `SettingQ w`.
`cap` (six bytes of receive buffer) depends on the configuration and stays.
-/
namespace Minimq
open Gen World Fuel Outbound Quiesce

/-- **No sent acknowledgement stays queued.** In every world a program produced, no entry of the control
queue is in state `Sent`: `flush_control` removes the entry it marks, `set_written` leaves an entry in `Write`
or `Flush`, `arm_replay` puts every entry back to `Write(0)`. -/
theorem C16Q_inv_clean (w : World) (hprog : Produced w) : ∀ e ∈ w.sess.data.outbound.control, e.state ≠ .sent :=
  hprog.ctl.clean

/-- **The control queue stays within its capacity.** In every world a program produced it holds at most
`MAX_PENDING_CONTROL` (8) entries: only `queue_control` lengthens it, and it refuses when the queue is full. -/
theorem C16Q_inv_ctlCap (w : World) (hprog : Produced w) : w.sess.data.outbound.control.length ≤ MAX_PENDING_CONTROL :=
  hprog.ctl.cap

/-- **Identifiers in use fit two bytes.** In every world a program produced, the identifier of every retained
packet and of every release entry is below 65536: `next_packet_id` hands out 1 … 65535 (the counter stays in
that range, also under the `verif_set_next_packet_id` hook), and a release entry takes the identifier of the
retained PUBLISH whose PUBREC created it. -/
theorem C16Q_inv_small (w : World) (hprog : Produced w) : ∀ id ∈ w.sess.data.outbound.usedIds, id < 65536 :=
  hprog.small

/-- **On a live connection the maximum send quota is at most 8.** In every world a program produced whose
handle is live, a CONNACK has been accepted — the handle becomes live in no other way —, and an accepted
CONNACK sets the maximum send quota to `min(Receive Maximum, 8)`. No assumption about torn transports. -/
theorem C16Q_inv_maxq (w : World) (hprog : Produced w) (hl : w.live = true) : w.sess.rt.maxSendQuota ≤ maxInflight :=
  (hprog.bal hl).1

/-- **Programs with QoS 0, 1, 2 retain only packets the broker answers.** In every world produced by a
program whose `publish` directives ask for QoS 0, 1 or 2, every retained packet is a QoS 1 PUBLISH, a QoS 2
PUBLISH, a SUBSCRIBE or an UNSUBSCRIBE (first byte `0x32 … 0x35` possibly with the DUP bit, `0x82`, `0xA2`). -/
theorem C16Q_inv_kinds (w : World) (hprog : ProducedQ w) : KnownKinds w.sess.data.outbound :=
  hprog.kinds

/-- **Bounded quiescence, from the reduced setting.** Let a program have produced `w`, in the setting
`Setting' w` (live, nothing over the size limit, `deficit` clear, quota books balanced, retained packets of the
kinds the broker answers, broker up to date, …; the facts about the control queue, the identifiers and the
maximum send quota are not asked for). Then there is `n ≤ mu ≤ 1 + 2·|retained| + |release|` such that
after `n` rounds the session is quiescent and stays so, every handle that was pending reports `complete`, the
send quota is back at its maximum, and the world is one a program produced. -/
theorem C16Q_bounded_quiescence' (w : World) (hprog : Produced w) (hs : Setting' w) :
    ∃ n, n ≤ mu w.sess.data.outbound ∧
      n ≤ 1 + 2 * w.sess.data.outbound.retained.length + w.sess.data.outbound.release.length ∧
      (rounds n w).sess.data.outbound.isQuiescent = true ∧
      (∀ m, (rounds m (rounds n w)).sess.data.outbound.isQuiescent = true) ∧
      (∀ op, w.sess.data.status op = .pending → (rounds n w).sess.data.status op = .complete) ∧
      (rounds n w).sess.rt.sendQuota = (rounds n w).sess.rt.maxSendQuota ∧
      Produced (rounds n w) ∧ Ready (rounds n w) :=
  C16Q_bounded_quiescence w hprog (setting_of w hprog hs)

/-- **Bounded quiescence for programs with QoS 0, 1, 2.** The same conclusion for a world produced by a
program whose `publish` directives ask for QoS 0, 1 or 2 — every program the directive parser accepts, every
use of the Rust API —, from `SettingQ w`: live; no keep-alive traffic; nothing over the broker's size limit
(F14); `deficit` clear (F5c); quota books balanced; six bytes of receive buffer, reader at a packet boundary;
broker up to date. -/
theorem C16Q_bounded_quiescence_qos (w : World) (hprog : ProducedQ w) (hs : SettingQ w) :
    ∃ n, n ≤ mu w.sess.data.outbound ∧
      n ≤ 1 + 2 * w.sess.data.outbound.retained.length + w.sess.data.outbound.release.length ∧
      (rounds n w).sess.data.outbound.isQuiescent = true ∧
      (∀ m, (rounds m (rounds n w)).sess.data.outbound.isQuiescent = true) ∧
      (∀ op, w.sess.data.status op = .pending → (rounds n w).sess.data.status op = .complete) ∧
      (rounds n w).sess.rt.sendQuota = (rounds n w).sess.rt.maxSendQuota ∧
      Produced (rounds n w) ∧ Ready (rounds n w) :=
  C16Q_bounded_quiescence w hprog.produced (setting_of_qos w hprog hs)

/-- **The reconnect clause, from fewer hypotheses.** As `C16Q_reconnect_then_quiescence` — `connect()`, a
conformant CONNACK with session present, enough healthy decisions, call the result `W` —, asking of `W` what
reachability does not give: nothing over the new CONNACK's size limit (F14), `deficit` clear (F5c), retained
packets of the kinds the broker answers; and six bytes of receive buffer. "No PINGREQ queued" is asked as
well, though the handshake gives it (`arm_replay` drops a queued PINGREQ and a CONNACK with session present
keeps the control queue: `C10_no_stale_pingreq`): the hypothesis is redundant. -/
theorem C16Q_reconnect_then_quiescence' (w : World) (hprog : Produced w) (hslot : w.slot = none)
    (off : Nat) (pkt : Bytes)
    (he : encodeConnect w.sess.data.outbound.scratchLen w.sess.beginConnect.connectPacket = .ok (off, pkt))
    (block : Bytes) (hblk : connackBlockOk block)
    (hwf : (Spec.ServerPacket.connAck true 0 block).wf = true)
    (hfit : (Spec.encodeServer (.connAck true 0 block)).length ≤ w.sess.reader.cap)
    (ks : List Nat) (hks : ∀ k ∈ ks, 1 ≤ k ∧ k ≤ 250)
    (hlen : pkt.length + 1 + (Spec.encodeServer (.connAck true 0 block)).length ≤ ks.length) :
    let W := runDs ks ((w.execDirective .connect).execDirective (.rx (Spec.encodeServer (.connAck true 0 block))))
    (∀ e ∈ W.sess.data.outbound.control, e.action.typ ≠ MT_PingReq) →
    Quiesce.Fits W.sess → W.sess.rt.deficit = false →
    KnownKinds W.sess.data.outbound → 6 ≤ w.sess.reader.cap →
    W.live = true ∧ W.conn = some { live := true, resumed := true } ∧
    ∃ n, n ≤ mu W.sess.data.outbound ∧ (rounds n W).sess.data.outbound.isQuiescent = true ∧
      (∀ m, (rounds m (rounds n W)).sess.data.outbound.isQuiescent = true) ∧
      (∀ op, W.sess.data.status op = .pending → (rounds n W).sess.data.status op = .complete) := by
  intro W h2 h4 h6 h7 h8
  have hW : Produced W := ((hprog.exec _).exec _).run _
  exact C16Q_reconnect_then_quiescence w hprog hslot off pkt he block hblk hwf hfit ks hks hlen
    hW.ctl.clean h2 hW.ctl.cap h4 hW.small h6 h7 h8

/-- **The reconnect clause for programs with QoS 0, 1, 2**: `kinds` is not asked for either. -/
theorem C16Q_reconnect_then_quiescence_qos (w : World) (hprog : ProducedQ w) (hslot : w.slot = none)
    (off : Nat) (pkt : Bytes)
    (he : encodeConnect w.sess.data.outbound.scratchLen w.sess.beginConnect.connectPacket = .ok (off, pkt))
    (block : Bytes) (hblk : connackBlockOk block)
    (hwf : (Spec.ServerPacket.connAck true 0 block).wf = true)
    (hfit : (Spec.encodeServer (.connAck true 0 block)).length ≤ w.sess.reader.cap)
    (ks : List Nat) (hks : ∀ k ∈ ks, 1 ≤ k ∧ k ≤ 250)
    (hlen : pkt.length + 1 + (Spec.encodeServer (.connAck true 0 block)).length ≤ ks.length) :
    let W := runDs ks ((w.execDirective .connect).execDirective (.rx (Spec.encodeServer (.connAck true 0 block))))
    (∀ e ∈ W.sess.data.outbound.control, e.action.typ ≠ MT_PingReq) →
    Quiesce.Fits W.sess → W.sess.rt.deficit = false → 6 ≤ w.sess.reader.cap →
    W.live = true ∧ W.conn = some { live := true, resumed := true } ∧
    ∃ n, n ≤ mu W.sess.data.outbound ∧ (rounds n W).sess.data.outbound.isQuiescent = true ∧
      (∀ m, (rounds m (rounds n W)).sess.data.outbound.isQuiescent = true) ∧
      (∀ op, W.sess.data.status op = .pending → (rounds n W).sess.data.status op = .complete) := by
  intro W h2 h4 h6 h8
  exact C16Q_reconnect_then_quiescence' w hprog.produced hslot off pkt he block hblk hwf hfit ks hks hlen
    h2 h4 h6 (hprog.reconnect _ ks).kinds h8


/-- The reduced setting holds of the first concrete world of `Theorems/C16Quiesce.lean`. -/
example : Setting' C16Q_w := C16Q_w_setting.reduce

/-- `C16Q_prog` publishes with QoS 2, 1, 1. -/
theorem C16Q_w_producedQ : ProducedQ C16Q_w := by
  refine ⟨C16Q_cfg, C16Q_prog, ?_, rfl⟩
  intro r hr
  simp only [C16Q_prog, C16Q_pub, List.mem_cons, Directive.publish.injEq, reduceCtorEq, false_or,
    List.not_mem_nil, or_false] at hr
  rcases hr with rfl | rfl | rfl <;> decide

example : SettingQ C16Q_w := C16Q_w_setting.reduce.dropKinds

/-- The theorems apply to `C16Q_w`: quiescent within `mu = 4` rounds. -/
example : ∃ n, n ≤ 4 ∧ (rounds n C16Q_w).sess.data.outbound.isQuiescent = true := by
  obtain ⟨n, hn, _, hq, _⟩ := C16Q_bounded_quiescence_qos C16Q_w C16Q_w_producedQ C16Q_w_setting.reduce.dropKinds
  exact ⟨n, C16Q_w_mu ▸ hn, hq⟩


/-- Connected; then `publish` with `qos = 3`, written and flushed. -/
def C16Q_badProg : List Directive :=
  [.connect, .rx [0x20, 0x03, 0x00, 0x00, 0x00], .go, C16Q_pub 3 0x74 0x70, .go]

def C16Q_bad : World := C16Q_badProg.foldl World.execDirective { sess := Session.new C16Q_cfg }

theorem C16Q_bad_produced : Produced C16Q_bad := ⟨C16Q_cfg, C16Q_badProg, rfl⟩

/-- `C16Q_bad` evaluated once: its retained queue, what `SettingQ` needs, what fails, and the rounds. -/
theorem C16Q_bad_facts :
    retView C16Q_bad.sess.data.outbound =
      [([0x36, 0x07, 0x00, 0x01, 0x74, 0x00, 0x01, 0x00, 0x70], 1, .sent)] ∧
    (C16Q_bad.live = true ∧ C16Q_bad.slot = none ∧
      (C16Q_bad.sess.rt.nextPing = none ∧ C16Q_bad.sess.rt.pingTimeout = none) ∧
      C16Q_bad.sess.data.outbound.control = [] ∧
      C16Q_bad.sess.rt.packetTooLarge 5 = false ∧
      (∀ v ∈ retView C16Q_bad.sess.data.outbound, C16Q_bad.sess.rt.packetTooLarge v.1.length = false) ∧
      C16Q_bad.sess.rt.deficit = false ∧
      C16Q_bad.sess.rt.sendQuota + C16Q_bad.sess.data.outbound.inflightPublishes = C16Q_bad.sess.rt.maxSendQuota ∧
      6 ≤ C16Q_bad.sess.reader.cap ∧ C16Q_bad.sess.reader.data = [] ∧ C16Q_bad.sess.reader.packetLength = none ∧
      expected C16Q_bad.sess.data.outbound = [] ∧ C16Q_bad.curNet.rx = enc []) ∧
    ((¬ ∀ v ∈ retView C16Q_bad.sess.data.outbound, (ansHeader (hd v.1) v.2.1).isSome = true) ∧
      mu C16Q_bad.sess.data.outbound = 1 ∧
      (rounds 0 C16Q_bad).sess.data.outbound.isQuiescent = false ∧
      (rounds 1 C16Q_bad).sess.data.outbound.isQuiescent = false) ∧
    (List.range 7).map (fun n => (rounds n C16Q_bad).sess.data.outbound.isQuiescent) =
      [false, false, false, false, false, false, false] := by
  decide +kernel

/-- The retained queue holds one packet, `36 07 00 01 74 00 01 00 70`, identifier 1, `Sent`: a PUBLISH whose
QoS bits are `11`. -/
example : retView C16Q_bad.sess.data.outbound =
    [([0x36, 0x07, 0x00, 0x01, 0x74, 0x00, 0x01, 0x00, 0x70], 1, .sent)] := by
  obtain ⟨h, _⟩ := C16Q_bad_facts
  exact h

/-- Every hypothesis of the reduced setting other than `kinds` holds of `C16Q_bad` (the broker, which answers only
what it knows, owes nothing, and nothing is in the inbound queue). -/
theorem C16Q_bad_setting : SettingQ C16Q_bad := by
  obtain ⟨_, ⟨hlive, hslot, hka, hctl, hrel, hret, hdef, hquota, hcap, hdata, hlen, hexp, hrx⟩, _⟩ := C16Q_bad_facts
  refine ⟨hlive, hslot, ?_, ?_, ⟨?_, hrel, hret⟩, hdef, hquota, hcap, hdata, hlen, ⟨[], hrx, by rw [hexp]⟩⟩
  · exact KaCalm.of_none hka.1 hka.2
  · rw [hctl]; intro e he; cases he
  · rw [hctl]; intro e he; cases he

/-- `kinds` fails of `C16Q_bad`, and so does the conclusion of the theorem: `mu = 1`, and neither now nor after one
round is the session quiescent. **The hypothesis `kinds` cannot be dropped for arbitrary programs.** -/
theorem C16Q_kinds_needed :
    Produced C16Q_bad ∧ SettingQ C16Q_bad ∧ ¬ KnownKinds C16Q_bad.sess.data.outbound ∧
    ¬ ∃ n, n ≤ mu C16Q_bad.sess.data.outbound ∧ (rounds n C16Q_bad).sess.data.outbound.isQuiescent = true := by
  obtain ⟨_, _, ⟨hkinds, hmu, h0, h1⟩, _⟩ := C16Q_bad_facts
  refine ⟨C16Q_bad_produced, C16Q_bad_setting, hkinds, ?_⟩
  rintro ⟨n, hn, hq⟩
  rw [hmu] at hn
  rcases (by omega : n = 0 ∨ n = 1) with rfl | rfl
  · rw [h0] at hq; cases hq
  · rw [h1] at hq; cases hq

/-- The packet just stays: six rounds later nothing has changed. -/
example : (List.range 7).map (fun n => (rounds n C16Q_bad).sess.data.outbound.isQuiescent) =
    [false, false, false, false, false, false, false] := by
  obtain ⟨_, _, _, h⟩ := C16Q_bad_facts
  exact h

end Minimq
