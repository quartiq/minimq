import Minimq.Proofs.Decode
import Minimq.Proofs.ConnectMachine
import Minimq.Theorems.C12
import Minimq.Theorems.C14
/-
C12, machine level — a later `connect()` over a healthy transport to a conformant broker succeeds,
whatever happened before: the whole handshake, with I/O decisions, as a bounded-liveness theorem.

Setting. `w` is any world (whatever happened before: the only hypotheses are the lifted arena
invariant, which every reachable world has — `C14_arena_hypothesis_reachable` — and that no I/O
decision is left over, which the interpreter guarantees between directives: `d`, `go` clear it).
The application calls `connect()` (`Directive.connect`); the broker's answer `ack` arrives on the new
transport (`Directive.rx ack`); the transport then takes any decisions `d k` with `1 ≤ k ≤ 250`
("healthy": accept/deliver between 1 and k bytes, never an error, never end of stream), in any
number and any fragmentation. `runDs ks W` feeds the decisions `ks`.

`hsP w pkt ack` collects what stays fixed (older transports, session after the resets and the
encoding of CONNECT, CONNECT `pkt`, answer, time); `(hsP w pkt ack).taken` is that session when the
answer has been taken out of the reader (`last = ack`, reader empty, keep-alive deadlines cleared).

The hypothesis "CONNECT fits" is `encodeConnect room connectPacket = .ok (off, pkt)`; by
`C12_connect_fits_iff` it holds iff `5 + |body| ≤ capacity − Σ len(retained)` (finding F9 is exactly
its failure).
-/
namespace Minimq
open Gen World Outbound

/-- **Bounded liveness of `connect()`.** From any world, if CONNECT fits, then `connect`, a
conformant CONNACK (success code, acceptable properties, fitting the receive buffer) and any
`|CONNECT| + 1 + |CONNACK|` or more healthy decisions — however they fragment the writes and the
reads — end with: `connect()` returned `Ok`; the handle is live and reports `Connected` / `Reconnected`
as the CONNACK said; nothing is suspended; the older transports are untouched and the new transport's
wire is exactly the CONNECT packet, its inbound queue consumed; the session is `Session.activated` of
the session after the resets (see `C12M_session_usable`); no time has passed. -/
theorem C12M_connect_succeeds (w : World) (hinv : w.sess.data.outbound.ArenaInv) (hslot : w.slot = none)
    (off : Nat) (pkt : Bytes)
    (he : encodeConnect w.sess.data.outbound.scratchLen w.sess.beginConnect.connectPacket = .ok (off, pkt))
    (sp : Bool) (block : Bytes) (hblk : connackBlockOk block)
    (hwf : (Spec.ServerPacket.connAck sp 0 block).wf = true)
    (hfit : (Spec.encodeServer (.connAck sp 0 block)).length ≤ w.sess.reader.cap)
    (ks : List Nat) (hks : ∀ k ∈ ks, 1 ≤ k ∧ k ≤ 250)
    (hlen : pkt.length + 1 + (Spec.encodeServer (.connAck sp 0 block)).length ≤ ks.length) :
    let ack := Spec.encodeServer (.connAck sp 0 block)
    let W := runDs ks ((w.execDirective .connect).execDirective (.rx ack))
    W.lastRes = some (.ok ()) ∧ W.conn = some { live := true, resumed := sp } ∧ W.live = true ∧ W.fut = none ∧
    W.nets = w.nets ++ [{ wire := pkt, rx := [] }] ∧ W.now = w.now ∧ W.slot = none ∧
    W.sess = (hsP w pkt ack).taken.activated sp block w.now := by
  intro ack W
  have hframe := frame1_encodeServer w.sess.reader.cap _ hwf hfit
  obtain ⟨hf, hs, hn, hnow, hse, hc, hr⟩ :=
    (handshake_ends w hinv hslot off pkt ack he hframe ks hks hlen).spec
  have hend : (hsP w pkt ack).ending =
      ((hsP w pkt ack).taken.activated sp block w.now, some { live := true, resumed := sp }, .ok ()) := by
    rw [HsP.ending, show (hsP w pkt ack).ack = ack from rfl, accept_all _ hwf]
    dsimp only [Spec.ServerPacket.image]
    rw [if_pos (by decide), (activate_eq _ sp block _).1 hblk]
    rfl
  rw [hend] at hse hc hr
  exact ⟨hr, hc, by rw [World.live, hc], hf, hn, hnow, hs, hse⟩

/-- **The CONNECT on the wire is the one `connectPacket` describes**: the reference parser reads `pkt` (by
`C12M_connect_succeeds` the new transport's wire) as a CONNECT with the session's clean-start flag, keep-alive,
properties, client identifier, will and credentials (`C12_CONNECT_parses`, under what the configuration layer
guarantees). -/
theorem C12M_wire_parses (w : World) (off : Nat) (pkt : Bytes)
    (he : encodeConnect w.sess.data.outbound.scratchLen w.sess.beginConnect.connectPacket = .ok (off, pkt))
    (hka : w.sess.rt.configuredKeepaliveMs / 1000 < 65536) (hcid : validUtf8 w.sess.clientId = true)
    (hrx : 0 < w.sess.reader.cap ∧ w.sess.reader.cap < 4294967296) (hexp : w.sess.expiry < 4294967296)
    (hwill : ∀ wl, w.sess.will = some wl → wl.qos ≤ 2 ∧ validUtf8 wl.topic = true ∧ (∀ p ∈ wl.props, p.wf = true) ∧
        (∀ p ∈ wl.props, Spec.allowedIn .will p.kind.id = true ∧ Spec.legalValue p.kind.id p.toSpec.val.num = true))
    (hauth : ∀ a, w.sess.auth = some a → validUtf8 a.user = true) :
    Spec.parseClientPacket pkt =
      some (.connect (!w.sess.data.sessionPresent) (w.sess.rt.configuredKeepaliveMs / 1000)
              ((connectProps w.sess.reader.cap w.sess.expiry).map Property.toSpec) w.sess.clientId
              (w.sess.will.map Will.toSpec) (w.sess.auth.map (·.user)) (w.sess.auth.map (·.pass)), []) := by
  have := C12_CONNECT_parses w.sess.beginConnect _ off pkt [] hka hcid hrx hexp hwill hauth he
  rw [List.append_nil] at this
  exact this

/-- What `C12M_session_usable` says of the session after the handshake, for any session `t` whose queue entries are
all unsent. -/
theorem activated_usable (t : Session) (sp : Bool) (block : Bytes) (now : Nat) (hfresh : t.data.outbound.AllFresh) :
    let s := t.activated sp block now
    s.reader = t.reader ∧ s.data.sessionPresent = true ∧ s.rt.sessionResumed = sp ∧
    ((∀ e ∈ s.data.outbound.control, e.state.isInProgress = false) ∧
     (∀ e ∈ s.data.outbound.release, e.state.isInProgress = false) ∧
     (∀ e ∈ s.data.outbound.retained, e.state.isInProgress = false)) ∧
    (s.rt.keepaliveMs = effectiveKeepaliveMs t.rt.configuredKeepaliveMs block ∧
      s.rt.maximumPacketSize = lastNum .MaximumPacketSize (iterEncoded block) ∧
      s.rt.maxQos = lastNum .MaximumQoS (iterEncoded block) ∧
      s.rt.maxSendQuota = negotiatedQuota block ∧
      s.rt.sendQuota = negotiatedQuota block - s.data.outbound.inflightPublishes ∧
      s.rt.nextPing = s.rt.keepaliveSendInterval.map (fun i => now + i * 1000) ∧ s.rt.pingTimeout = none) := by
  intro s
  have hq := connackSettings_quota t.rt.configuredKeepaliveMs block
  have hka := activated_keepalive t sp block now
  refine ⟨by cases sp <;> rfl, rfl, by cases sp <;> rfl, ?_, hka.1, by cases sp <;> rfl, by cases sp <;> rfl, ?_, ?_,
    hka.2.2.1, hka.2.2.2⟩
  · cases sp with
    | false =>
      obtain ⟨c1, c2, c3, _⟩ := activated_fresh t block now
      refine ⟨?_, ?_, ?_⟩
      · intro e he; rw [c1] at he; cases he
      · intro e he; rw [c3] at he; cases he
      · intro e he; rw [c2] at he; cases he
    | true =>
      have ho : s.data.outbound = t.data.outbound := (activated_resumed t block now).1
      rw [ho]
      exact ⟨fun e he => fresh_not_inProgress _ (hfresh.control e he), fun e he => fresh_not_inProgress _ (hfresh.release e he),
        fun e he => fresh_not_inProgress _ (hfresh.retained e he)⟩
  · have : s.rt.maxSendQuota = (connackSettings t.rt.configuredKeepaliveMs block).2.1 := by cases sp <;> rfl
    rw [this, hq.2]
  · have : s.rt.sendQuota = (connackSettings t.rt.configuredKeepaliveMs block).1 - s.data.outbound.inflightPublishes := by
      cases sp <;> rfl
    rw [this, hq.1]

/-- **The session is fully usable afterwards.** With `s` the session after the handshake
(`C12M_connect_succeeds`): the packet reader is empty; the session is established; no entry of any
outbound queue is half-written or waiting for a flush; the connection is marked resumed iff the
CONNACK said so; send quota, keep-alive, Maximum Packet Size and Maximum QoS are the negotiated ones;
the PINGREQ timer is armed from the time of the CONNACK and no ping timeout is running; a QoS 0
publish is accepted iff the arena has the five header bytes free, a QoS 1/2 publish iff send quota is
left and a retained slot and five bytes are free (`can_publish`). -/
theorem C12M_session_usable (w : World) (pkt ack : Bytes) (sp : Bool) (block : Bytes) :
    let s := (hsP w pkt ack).taken.activated sp block w.now
    (s.reader.data = [] ∧ s.reader.packetLength = none ∧ s.reader.packetAvailable = false ∧
      s.reader.cap = w.sess.reader.cap) ∧
    s.data.sessionPresent = true ∧ s.rt.sessionResumed = sp ∧
    ((∀ e ∈ s.data.outbound.control, e.state.isInProgress = false) ∧
     (∀ e ∈ s.data.outbound.release, e.state.isInProgress = false) ∧
     (∀ e ∈ s.data.outbound.retained, e.state.isInProgress = false)) ∧
    (s.rt.keepaliveMs = effectiveKeepaliveMs w.sess.rt.configuredKeepaliveMs block ∧
      s.rt.maximumPacketSize = lastNum .MaximumPacketSize (iterEncoded block) ∧
      s.rt.maxQos = lastNum .MaximumQoS (iterEncoded block) ∧
      s.rt.maxSendQuota = negotiatedQuota block ∧
      s.rt.sendQuota = negotiatedQuota block - s.data.outbound.inflightPublishes ∧
      s.rt.nextPing = s.rt.keepaliveSendInterval.map (fun i => w.now + i * 1000) ∧ s.rt.pingTimeout = none) ∧
    (canPublishS s.data s.rt 0 = true ↔ MAX_FIXED_HEADER_SIZE ≤ s.data.outbound.scratchLen) ∧
    (∀ q, 0 < q → (canPublishS s.data s.rt q = true ↔ s.rt.sendQuota ≠ 0 ∧ s.data.outbound.canRetain = true)) := by
  have hfresh := hsP_allFresh w pkt ack
  have hcfg : (hsP w pkt ack).S.rt.configuredKeepaliveMs = w.sess.rt.configuredKeepaliveMs := by
    simp only [hsP, Session.encode_fst]; rfl
  have hcap : (hsP w pkt ack).S.reader.cap = w.sess.reader.cap := by rw [hsP_reader]; rfl
  -- from here on only these three facts about the handshake parameters are used
  generalize hsP w pkt ack = P at hfresh hcfg hcap
  intro s
  obtain ⟨u1, u2, u3, u4, u5⟩ := activated_usable P.taken sp block w.now hfresh
  rw [show P.taken.rt.configuredKeepaliveMs = P.S.rt.configuredKeepaliveMs from rfl, hcfg] at u5
  refine ⟨?_, u2, u3, u4, u5, ?_, ?_⟩
  · show s.reader.data = [] ∧ s.reader.packetLength = none ∧ s.reader.packetAvailable = false ∧ s.reader.cap = _
    rw [u1]
    exact ⟨rfl, rfl, rfl, hcap⟩
  · simp [canPublishS]
  · intro q hq0
    have : q ≠ 0 := by omega
    simp [canPublishS, this]

/-- **With fewer decisions: still suspended, nothing lost.** After any healthy decisions the
handshake is in one of four phases and at most `|CONNECT| + 1 + |answer| − n` further decisions from
its end. While it has not ended, the handle is absent, no time has passed, the older transports are
untouched, and either (write) the new wire holds the first `j` bytes of CONNECT and the suspended
write holds exactly the rest, or (flush) the whole CONNECT is on the wire, or (read) the CONNECT is on
the wire, the reader holds the first `i` bytes of the answer and the transport exactly the rest. The
answer may be anything that is one frame fitting the receive buffer. -/
theorem C12M_progress (w : World) (hinv : w.sess.data.outbound.ArenaInv) (hslot : w.slot = none) (off : Nat)
    (pkt ack : Bytes)
    (he : encodeConnect w.sess.data.outbound.scratchLen w.sess.beginConnect.connectPacket = .ok (off, pkt))
    (hframe : frame1 w.sess.reader.cap ack = .packet ack [])
    (ks : List Nat) (hks : ∀ k ∈ ks, 1 ≤ k ∧ k ≤ 250) :
    let W := runDs ks ((w.execDirective .connect).execDirective (.rx ack))
    ∃ m, m ≤ pkt.length + 1 + ack.length - ks.length ∧ Hs (hsP w pkt ack) m W ∧
      (m ≠ 0 →
        W.nets.dropLast = w.nets ∧ W.conn = none ∧ W.now = w.now ∧
        ((∃ j, W.fut = some (.connWrite (pkt.drop j)) ∧ W.curNet.wire = pkt.take j ∧ W.curNet.rx = ack) ∨
         (W.fut = some .connFlush ∧ W.curNet.wire = pkt ∧ W.curNet.rx = ack) ∨
         (∃ i, W.fut = some .connRead ∧ W.curNet.wire = pkt ∧ W.sess.reader.data = ack.take i ∧
            W.curNet.rx = ack.drop i))) := by
  intro W
  obtain ⟨m, hm, h⟩ := handshake_run w hinv hslot off pkt ack he hframe ks hks
  exact ⟨m, hm, h, h.conserved⟩

/-- **The other endings.** Same setting, any answer that is one frame fitting the receive buffer, enough
decisions. (1) a CONNACK with a failure reason code: `connect()` returns `Peer.Rejected(code)`, there is
no handle, the session is the one after the resets with the answer taken out of the reader;
(2) an answer that does not decode: `Peer.InvalidPacket`, no handle, that session disconnected;
(3) a CONNACK with a success code and unacceptable properties: `Peer.InvalidPacket`, no handle, the
session `rejected` (reset if Session Present was 0 — finding F19 — and disconnected); (4) any other
packet: `Peer.InvalidPacket` or `Disconnected` (in the machine the latter is the answer to a DISCONNECT;
the statement has the bare disjunction), no handle. In every case nothing is
suspended, no decision is left over and the CONNECT is on the wire — so the hypotheses of
`C12M_connect_succeeds` other than "CONNECT fits" hold again (`C12M_reconnectable`), and
`C12_resets_from_any_state` applies to the next `connect()`. -/
theorem C12M_other_endings (w : World) (hinv : w.sess.data.outbound.ArenaInv) (hslot : w.slot = none)
    (off : Nat) (pkt ack : Bytes)
    (he : encodeConnect w.sess.data.outbound.scratchLen w.sess.beginConnect.connectPacket = .ok (off, pkt))
    (hframe : frame1 w.sess.reader.cap ack = .packet ack [])
    (ks : List Nat) (hks : ∀ k ∈ ks, 1 ≤ k ∧ k ≤ 250) (hlen : pkt.length + 1 + ack.length ≤ ks.length) :
    let W := runDs ks ((w.execDirective .connect).execDirective (.rx ack))
    let P := hsP w pkt ack
    (W.fut = none ∧ W.slot = none ∧ W.nets = w.nets ++ [{ wire := pkt, rx := [] }]) ∧
    (∀ sp rc block, fromBuffer ack = some (.connAck sp rc block) → reasonSuccess rc = false →
      W.lastRes = some (.error (.peerRejected rc)) ∧ W.conn = none ∧ W.sess = P.taken) ∧
    (fromBuffer ack = none →
      W.lastRes = some (.error .peerInvalid) ∧ W.conn = none ∧ W.sess = P.taken.handleDisconnect) ∧
    (∀ sp rc block, fromBuffer ack = some (.connAck sp rc block) → reasonSuccess rc = true → ¬ connackBlockOk block →
      W.lastRes = some (.error .peerInvalid) ∧ W.conn = none ∧ W.sess = P.taken.rejected sp) ∧
    (∀ p, fromBuffer ack = some p → (∀ sp rc block, p ≠ .connAck sp rc block) →
      (W.lastRes = some (.error .peerInvalid) ∨ W.lastRes = some (.error .disconnected)) ∧ W.conn = none ∧
      W.sess = P.taken.handleDisconnect) := by
  intro W P
  obtain ⟨hf, hs, hn, _, hse, hc, hr⟩ :=
    (show HsEnd P W from handshake_ends w hinv hslot off pkt ack he hframe ks hks hlen).spec
  have hack : P.ack = ack := rfl
  replace hn : W.nets = w.nets ++ [{ wire := pkt, rx := [] }] := hn
  -- `P` is made opaque: with `hsP w pkt ack` visible the rewrites below unfold the CONNECT encoder
  clear_value P W
  rw [HsP.ending, hack] at hse hc hr
  refine ⟨⟨hf, hs, hn⟩, fun sp rc block hfb hrc => ?_, fun hfb => ?_, fun sp rc block hfb hrc hb => ?_,
    fun p hfb hp => ?_⟩
  · rw [hfb] at hse hc hr
    dsimp only at hse hc hr
    rw [hrc, if_neg Bool.false_ne_true] at hse hc hr
    exact ⟨hr, hc, hse⟩
  · rw [hfb] at hse hc hr
    exact ⟨hr, hc, hse⟩
  · rw [hfb] at hse hc hr
    dsimp only at hse hc hr
    rw [hrc, if_pos rfl, (activate_eq _ sp block _).2 hb] at hse hc hr
    exact ⟨hr, hc, hse⟩
  · rw [hfb] at hse hc hr
    cases p with
    | connAck sp rc block => exact absurd rfl (hp sp rc block)
    | disconnect => exact ⟨.inr hr, hc, hse⟩
    | _ => exact ⟨.inl hr, hc, hse⟩

/-- A conformant broker's refusal: a well-formed CONNACK with a reason code of 0x80 or above is one
frame, decodes to a CONNACK, and its (normalised) reason code is not a success — so case (1) above
applies: `Peer.Rejected`, no handle. -/
theorem C12M_refusal_is_case_1 (cap : Nat) (sp : Bool) (rc : Nat) (block : Bytes) (hrc : 128 ≤ rc)
    (hwf : (Spec.ServerPacket.connAck sp rc block).wf = true)
    (hfit : (Spec.encodeServer (.connAck sp rc block)).length ≤ cap) :
    frame1 cap (Spec.encodeServer (.connAck sp rc block)) = .packet (Spec.encodeServer (.connAck sp rc block)) [] ∧
    fromBuffer (Spec.encodeServer (.connAck sp rc block)) = some (.connAck sp (normReason rc) block) ∧
    reasonSuccess (normReason rc) = false := by
  refine ⟨frame1_encodeServer cap _ hwf hfit, accept_all _ hwf, ?_⟩
  unfold normReason reasonSuccess
  split <;> simp <;> omega

/-- **Re-connectable.** Whatever directives are executed from a world whose arena is laid out sanely
and whose retained serials increase below the counter (`SerInv`) — in particular `connect`, any answer,
any decisions, any ending above — both still hold (C17); together with "nothing suspended, no decision left over" from the endings, the
hypotheses of `C12M_connect_succeeds` hold again, except for "CONNECT fits" (finding F9). -/
theorem C12M_reconnectable (w : World) (ds : List Directive)
    (h : w.sess.data.outbound.ArenaInv ∧ w.sess.data.outbound.SerInv) :
    (ds.foldl World.execDirective w).sess.data.outbound.ArenaInv ∧
    (ds.foldl World.execDirective w).sess.data.outbound.SerInv :=
  (C17_all_programs_from w ds h).1

/-- **The standing hypotheses hold in every reachable world**: after any program on a new session the
arena is laid out sanely and no I/O decision is left over — so `C12M_connect_succeeds` applies to every
world an execution can reach (given that CONNECT fits). -/
theorem C12M_hypotheses_reachable (cfg : Cfg) (ds : List Directive) :
    (ds.foldl World.execDirective { sess := Session.new cfg }).sess.data.outbound.ArenaInv ∧
    (ds.foldl World.execDirective { sess := Session.new cfg }).slot = none :=
  ⟨C14_arena_hypothesis_reachable cfg ds, run_slot_none ds _ rfl⟩

/-- Non-vacuity of `C12M_connect_succeeds` and a check of the bound: a new session (client identifier
"c"), the CONNECT is 29 bytes, the CONNACK 5 bytes; 35 one-byte decisions (the worst fragmentation)
complete the handshake; with 34 it is still suspended in the read of the last byte. -/
theorem C12M_example :
    let w : World := { sess := Session.new { rx := 64, tx := 64, keepaliveS := 0, expiry := 0, downgrade := false, clientId := [b 0x63], auth := none, will := none } }
    let ack := Spec.encodeServer (.connAck false 0 [])
    let run (n : Nat) := runDs (List.replicate n 1) ((w.execDirective .connect).execDirective (.rx ack))
    ack = [b 0x20, b 3, b 0, b 0, b 0] ∧
    (match encodeConnect w.sess.data.outbound.scratchLen w.sess.beginConnect.connectPacket with
      | .ok (_, pkt) => pkt.length | _ => 0) = 29 ∧
    (match (run 35).lastRes with | some (.ok ()) => true | _ => false) = true ∧ (run 35).live = true ∧ (run 35).fut.isNone = true ∧
    (run 34).fut.isSome = true ∧ (run 34).lastRes.isNone = true ∧ (run 34).curNet.rx = [b 0] := by
  decide +kernel

end Minimq
