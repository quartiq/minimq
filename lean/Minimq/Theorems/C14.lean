import Minimq.Proofs.Nets
import Minimq.Proofs.RequestWire
import Minimq.Theorems.C17
/-
C14 — Maximum Packet Size is honoured in both directions.

Outbound: `Runtime.maximumPacketSize` is the Maximum Packet Size of the current CONNACK (set by
`Session.activate`, `none` when the broker sent none). Everything the client transmits after the
handshake goes out through `perform_outbound_step` (`prepareStep`: acknowledgements, PINGREQ, PUBREL,
retained PUBLISH/SUBSCRIBE/UNSUBSCRIBE) or through the two operation-local writes (`doLocalWrite`
with `which = 1` QoS 0 PUBLISH, `which = 2` DISCONNECT); each is guarded by `packet_too_large`.
Inbound: CONNECT advertises the size of the receive buffer, and the packet reader refuses a packet
announced longer than that buffer.
-/
namespace Minimq
open Gen World Outbound

/-- **Queued packets.** Whatever `perform_outbound_step` starts or continues to write — an
acknowledgement, a PINGREQ, a PUBREL or a retained PUBLISH / SUBSCRIBE / UNSUBSCRIBE (first
transmission or replay) — is no longer than the broker's Maximum Packet Size, when one is set. -/
theorem C14_outbound_step_within_limit (w : World) (step : Outbound.Step) (pkt : Flushed) (bytes : Bytes)
    (written len m : Nat) (h : prepareStep w step = .write pkt bytes written len)
    (hm : w.sess.rt.maximumPacketSize = some m) : bytes.length ≤ m ∧ len ≤ m := by
  obtain ⟨-, -, h3, h4⟩ := (prepareStep_spec w step).2.2.1 _ _ _ _ h
  have := (packetTooLarge_false_iff _ _).1 h3 m hm
  refine ⟨Nat.le_trans ?_ this, this⟩
  cases step with
  | control a st | release id rc st => exact Nat.le_of_eq h4.2.symm
  | retained id off l st => obtain ⟨rfl, rfl⟩ := h4; exact slice_length_le _ _ _

/-- Non-vacuity: with a limit of 4 a queued PUBACK (5 bytes) is refused, with a limit of 5 it is written. -/
example :
    let w (m : Nat) : World := { sess := { Session.new
      { rx := 64, tx := 64, keepaliveS := 0, expiry := 0, downgrade := false, clientId := [], auth := none, will := none }
      with rt := { keepaliveMs := 0, configuredKeepaliveMs := 0, maximumPacketSize := some m } } }
    let step := Outbound.Step.control { typ := MT_PubAck, id := 7, rc := 0 } (.write 0)
    (match prepareStep (w 4) step with | .fail .packetTooLarge => true | _ => false) = true ∧
    (match prepareStep (w 5) step with | .write _ bytes 0 5 => bytes == [b 0x40, b 3, b 0, b 7, b 0] | _ => false) = true := by
  decide +kernel

theorem publish_q0_ready (fuel : Nat) (w : World) (r : PubReq)
    (hv : r.props.validFor .Publish = true) (hq : effectiveQos w.sess.rt.maxQos w.sess.downgrade r.qos = 0)
    (hready : (w.live && canPublishS w.sess.data w.sess.rt 0) = true) :
    afterFlush (fuel + 1) w (.publishPre r) = w.encodeThen w.sess "publish" pubErr (q0Enc r) fun s2 off len =>
      doLocalWrite fuel { w with sess := s2 } 1 (s2.data.outbound.retainedPacket off len) := by
  rw [afterFlush_publishPre]
  simp only [hv, hq, hready, Bool.not_true, Bool.false_eq_true, if_false, gt_iff_lt, Nat.lt_irrefl]

/-- **QoS 0 PUBLISH.** The packet is encoded into the scratch space and then either refused or
handed to the transport; it is handed to the transport only if it is within the limit. -/
theorem C14_qos0_publish_within_limit (fuel : Nat) (w : World) (r : PubReq)
    (hv : r.props.validFor .Publish = true) (hq : effectiveQos w.sess.rt.maxQos w.sess.downgrade r.qos = 0)
    (hready : (w.live && canPublishS w.sess.data w.sess.rt 0) = true) :
    let w' : World := { w with sess := (w.sess.encode (q0Enc r)).1 }
    (∃ e, afterFlush (fuel + 1) w (.publishPre r) = w'.finishErr "publish" e) ∨
    (∃ bytes, afterFlush (fuel + 1) w (.publishPre r) = doLocalWrite fuel w' 1 bytes ∧
      ∀ m, w.sess.rt.maximumPacketSize = some m → bytes.length ≤ m) := by
  intro w'
  rw [publish_q0_ready fuel w r hv hq hready]
  refine World.encodeThen_ind (P := fun x => (∃ e, x = w'.finishErr "publish" e) ∨ ∃ bytes, x = doLocalWrite fuel w' 1 bytes ∧
    ∀ m, w.sess.rt.maximumPacketSize = some m → bytes.length ≤ m) w w.sess _ _ _ _ (fun e => .inl ⟨e, rfl⟩)
    fun off len _ hsz => .inr ⟨_, rfl, fun m hm => ?_⟩
  rw [encode_rt] at hsz
  exact Nat.le_trans (slice_length_le _ _ _) ((packetTooLarge_false_iff _ _).1 hsz m hm)

theorem refused_keeps {w : World} {s' : Session} (h : w.sess.Untouched s') (name : String) (e : Err) :
    let w' := ({ w with sess := s' } : World).finishErr name e
    w'.lastRes = some (.error e) ∧ w'.fut = none ∧ w'.nets = w.nets ∧ w'.conn = w.conn ∧
    SameButScratch w.sess w'.sess :=
  ⟨rfl, rfl, rfl, rfl, h.same⟩

/-- An oversize QoS 0 PUBLISH fails with `PacketTooLarge`: nothing is written to any transport and
the session differs only in scratch bytes of the arena. -/
theorem C14_qos0_publish_too_large (fuel : Nat) (w : World) (r : PubReq) (off len : Nat)
    (hinv : w.sess.data.outbound.ArenaInv)
    (hv : r.props.validFor .Publish = true) (hq : effectiveQos w.sess.rt.maxQos w.sess.downgrade r.qos = 0)
    (hready : (w.live && canPublishS w.sess.data w.sess.rt 0) = true)
    (hres : (w.sess.encode (q0Enc r)).2 = .ok (off, len)) (hbig : w.sess.rt.packetTooLarge len = true) :
    let w' := afterFlush (fuel + 1) w (.publishPre r)
    w'.lastRes = some (.error .packetTooLarge) ∧ w'.fut = none ∧ w'.nets = w.nets ∧ w'.conn = w.conn ∧
    SameButScratch w.sess w'.sess := by
  rw [publish_q0_ready fuel w r hv hq hready, World.encodeThen_tooLarge hres (by rw [encode_rt]; exact hbig)]
  exact refused_keeps ((Session.Untouched.refl _ hinv).encode _ (EncOk_encodePublish _ _)) _ _

/-- **DISCONNECT.** It is encoded into a local buffer and handed to the transport only if it is
within the limit; otherwise `disconnect()` fails — with some error: the statement does not say that it
is `PacketTooLarge`, the other failure being an encoding that does not fit the buffer — and world and
session are exactly as before (nothing sent, nothing retained). -/
theorem C14_disconnect_within_limit (fuel : Nat) (w : World) (d : Disconnect) :
    (∃ e, afterFlush (fuel + 1) w (.discPre d) = w.finishErr "disconnect" e) ∨
    (∃ off pkt, encodeWithOffset CONTROL_PACKET_LEN d.chunks MT_Disconnect FLAGS_Disconnect = .ok (off, pkt) ∧
      afterFlush (fuel + 1) w (.discPre d) = doLocalWrite fuel w 2 pkt ∧
      ∀ m, w.sess.rt.maximumPacketSize = some m → pkt.length ≤ m) := by
  rw [afterFlush_discPre]
  split
  · exact Or.inl ⟨_, rfl⟩
  · rename_i off pkt henc
    split
    · exact Or.inl ⟨_, rfl⟩
    · rename_i hbig
      simp only [Bool.not_eq_true] at hbig
      exact Or.inr ⟨off, pkt, henc, rfl, (packetTooLarge_false_iff _ _).1 hbig⟩

/-- An oversize DISCONNECT: once its `flush_outbound` has returned, `disconnect()` fails with `PacketTooLarge`;
the world is the one the flush left, with the result recorded — the request writes nothing, queues nothing, and
the connection stays as it was. -/
theorem C14_disconnect_too_large (fuel : Nat) (w : World) (d : Disconnect) (off : Nat) (pkt : Bytes)
    (henc : encodeWithOffset CONTROL_PACKET_LEN d.chunks MT_Disconnect FLAGS_Disconnect = .ok (off, pkt))
    (hbig : w.sess.rt.packetTooLarge pkt.length = true) :
    afterFlush (fuel + 1) w (.discPre d) = w.finishErr "disconnect" .packetTooLarge := by
  rw [afterFlush_discPre, henc]
  simp only [hbig, if_true]

/-- Non-vacuity of the hypotheses: a plain DISCONNECT is two bytes, over a limit of 1. -/
example : encodeWithOffset CONTROL_PACKET_LEN (Disconnect.build none none).chunks MT_Disconnect FLAGS_Disconnect =
    .ok (3, [b 0xE0, b 0]) ∧
    ({ keepaliveMs := 0, configuredKeepaliveMs := 0, maximumPacketSize := some 1 } : Runtime).packetTooLarge 2 = true :=
  ⟨rfl, rfl⟩

/-- **SUBSCRIBE.** When the encoded packet exceeds the limit, `subscribe()` fails with
`PacketTooLarge`; nothing is written to any transport and the session differs from the session
its `flush_outbound` left only in the packet-identifier counter and in scratch bytes of the arena: the three
queues (identifiers, send states, order), the bytes of every retained packet, the send quota and
everything else are unchanged. -/
theorem C14_subscribe_too_large (fuel : Nat) (w : World) (r : SubReq) (off len : Nat)
    (hinv : w.sess.data.outbound.ArenaInv) (hfull : w.sess.data.outbound.retainedFull = false)
    (hres : (w.sess.alloc.1.encode (subEnc w.sess.alloc.2 r)).2 = .ok (off, len))
    (hbig : w.sess.rt.packetTooLarge len = true) :
    let w' := afterFlush (fuel + 1) w (.subPre r)
    w'.lastRes = some (.error .packetTooLarge) ∧ w'.fut = none ∧ w'.nets = w.nets ∧ w'.conn = w.conn ∧
    SameButScratch w.sess w'.sess := by
  rw [afterFlush_subPre, hfull, if_neg Bool.false_ne_true,
    World.encodeThen_tooLarge hres (by rw [alloc_encode_rt]; exact hbig)]
  exact refused_keeps ((Session.Untouched.alloc _ hinv).encode _ (EncOk_encodeWithOffset _ _ _)) _ _

/-- Non-vacuity of the hypotheses of `C14_subscribe_too_large`: a live connection whose broker
announced a Maximum Packet Size of 4, and a SUBSCRIBE that encodes to 9 bytes. -/
example :
    let s0 := Session.new { rx := 64, tx := 64, keepaliveS := 0, expiry := 0, downgrade := false, clientId := [], auth := none, will := none }
    let w : World := { sess := { s0 with rt := { s0.rt with maximumPacketSize := some 4 } }, conn := some { live := true, resumed := false } }
    let r : SubReq := { props := [], topics := [{ topic := [b 0x61], opts := { maxQos := 0, noLocal := false, rap := false, rh := 0 } }] }
    w.sess.data.outbound.retainedFull = false ∧
    (w.sess.alloc.1.encode (subEnc w.sess.alloc.2 r)).2 = .ok (3, 9) ∧
    w.sess.rt.packetTooLarge 9 = true ∧
    (afterFlush 1 w (.subPre r)).lastRes = some (.error .packetTooLarge) := by
  intro s0 w r
  obtain ⟨h1, h2, h3⟩ : w.sess.data.outbound.retainedFull = false ∧
      (w.sess.alloc.1.encode (subEnc w.sess.alloc.2 r)).2.toOption = some (3, 9) ∧
      w.sess.rt.packetTooLarge 9 = true := by decide +kernel
  have h2 := Except.eq_ok_of_toOption h2
  exact ⟨h1, h2, h3, (C14_subscribe_too_large 0 w r 3 9 (ArenaInv_new 64) h1 h2 h3).1⟩

/-- **UNSUBSCRIBE**: as `C14_subscribe_too_large`. -/
theorem C14_unsubscribe_too_large (fuel : Nat) (w : World) (r : UnsubReq) (off len : Nat)
    (hinv : w.sess.data.outbound.ArenaInv) (hfull : w.sess.data.outbound.retainedFull = false)
    (hres : (w.sess.alloc.1.encode (unsubEnc w.sess.alloc.2 r)).2 = .ok (off, len))
    (hbig : w.sess.rt.packetTooLarge len = true) :
    let w' := afterFlush (fuel + 1) w (.unsubPre r)
    w'.lastRes = some (.error .packetTooLarge) ∧ w'.fut = none ∧ w'.nets = w.nets ∧ w'.conn = w.conn ∧
    SameButScratch w.sess w'.sess := by
  rw [afterFlush_unsubPre, hfull, if_neg Bool.false_ne_true,
    World.encodeThen_tooLarge hres (by rw [alloc_encode_rt]; exact hbig)]
  exact refused_keeps ((Session.Untouched.alloc _ hinv).encode _ (EncOk_encodeWithOffset _ _ _)) _ _

/-- **PUBLISH with QoS 1 or 2**: as `C14_subscribe_too_large`; in particular the send quota is not consumed. -/
theorem C14_publish_too_large (fuel : Nat) (w : World) (r : PubReq) (qos off len : Nat)
    (hinv : w.sess.data.outbound.ArenaInv)
    (hv : r.props.validFor .Publish = true) (hq : effectiveQos w.sess.rt.maxQos w.sess.downgrade r.qos = qos)
    (hpos : 0 < qos) (hfull : w.sess.data.outbound.retainedFull = false)
    (hready : (w.live && canPublishS w.sess.data w.sess.rt qos) = true)
    (hres : (w.sess.alloc.1.encode (pubEnc w.sess.alloc.2 qos r)).2 = .ok (off, len))
    (hbig : w.sess.rt.packetTooLarge len = true) :
    let w' := afterFlush (fuel + 1) w (.publishPre r)
    w'.lastRes = some (.error .packetTooLarge) ∧ w'.fut = none ∧ w'.nets = w.nets ∧ w'.conn = w.conn ∧
    SameButScratch w.sess w'.sess ∧ w'.sess.rt.sendQuota = w.sess.rt.sendQuota := by
  rw [afterFlush_publishPre]
  simp only [hv, hq, hpos, hfull, hready, Bool.not_true, Bool.false_eq_true, if_false, if_true]
  rw [World.encodeThen_tooLarge hres (by rw [alloc_encode_rt]; exact hbig)]
  obtain ⟨h1, h2, h3, h4, hs⟩ := refused_keeps ((Session.Untouched.alloc _ hinv).encode (pubEnc w.sess.alloc.2 qos r)
    (EncOk_encodePublish _ _)) "publish" .packetTooLarge
  exact ⟨h1, h2, h3, h4, hs, congrArg _ hs.rt⟩

/-- Non-vacuity of the hypotheses of `C14_publish_too_large`: a QoS 1 PUBLISH of 10 bytes against a
Maximum Packet Size of 9. -/
example :
    let s0 := Session.new { rx := 64, tx := 64, keepaliveS := 0, expiry := 0, downgrade := false, clientId := [], auth := none, will := none }
    let w : World := { sess := { s0 with rt := { s0.rt with maximumPacketSize := some 9 } }, conn := some { live := true, resumed := false } }
    let r : PubReq := { qos := 1, retain := false, topic := [b 0x61], payload := .bytes [b 1, b 2], props := .slice [] }
    (afterFlush 1 w (.publishPre r)).lastRes = some (.error .packetTooLarge) ∧
    (afterFlush 1 w (.publishPre r)).sess.rt.sendQuota = w.sess.rt.sendQuota := by
  intro s0 w r
  obtain ⟨hv, hq, hfull, hready, hres, hbig⟩ : r.props.validFor .Publish = true ∧
      effectiveQos w.sess.rt.maxQos w.sess.downgrade r.qos = 1 ∧ w.sess.data.outbound.retainedFull = false ∧
      (w.live && canPublishS w.sess.data w.sess.rt 1) = true ∧
      (w.sess.alloc.1.encode (pubEnc w.sess.alloc.2 1 r)).2.toOption = some (3, 10) ∧
      w.sess.rt.packetTooLarge 10 = true := by decide +kernel
  have := C14_publish_too_large 0 w r 1 3 10 (ArenaInv_new 64) hv hq (by decide) hfull hready
    (Except.eq_ok_of_toOption hres) hbig
  exact ⟨this.1, this.2.2.2.2.2⟩

/-- The arena hypothesis `hinv` of the `…_too_large` theorems above holds in every reachable state (C17). -/
theorem C14_arena_hypothesis_reachable (cfg : Cfg) (ds : List Directive) :
    (ds.foldl World.execDirective { sess := Session.new cfg }).sess.data.outbound.ArenaInv :=
  (C17_all_programs_from { sess := Session.new cfg } ds (C17_init cfg)).1.1

/-- **Mandatory acknowledgements.** PUBACK, PUBREC, PUBREL and PUBCOMP are five bytes long in this
client. When the broker's Maximum Packet Size is below that, the inbound packet that calls for the
acknowledgement (QoS 1 PUBLISH, QoS 2 PUBLISH, successful PUBREC of a retained publish, PUBREL) makes
`handle_packet` fail with `PacketTooLarge`; no acknowledgement and no release entry is queued. -/
theorem C14_inbound_ack_too_large (d : SessionData) (r : Runtime) (m : Nat)
    (hm : r.maximumPacketSize = some m) (hlt : m < 5) :
    (∀ topic props payload id retain dup, id ≠ 0 →
      handlePacket d r (.publish topic (some id) props payload retain 1 dup) = (d, r, .error .packetTooLarge)) ∧
    (∀ topic props payload id retain dup, id ≠ 0 →
      (handlePacket d r (.publish topic (some id) props payload retain 2 dup)).2.2 = .error .packetTooLarge ∧
      (handlePacket d r (.publish topic (some id) props payload retain 2 dup)).1.outbound = d.outbound) ∧
    (∀ id rs, id ≠ 0 →
      (handlePacket d r (.pubRel id rs)).2.2 = .error .packetTooLarge ∧
      (handlePacket d r (.pubRel id rs)).1.outbound = d.outbound) ∧
    (∀ id rs, (d.outbound.ackPacket id .pubRec).2 = true → reasonSuccess rs.rc = true →
      (handlePacket d r (.pubRec id rs)).2.2 = .error .packetTooLarge ∧
      (handlePacket d r (.pubRec id rs)).1.outbound.release = d.outbound.release) :=
  by
  -- every acknowledgement is five bytes, and five bytes are too many
  have h5 : r.packetTooLarge 5 = true := (packetTooLarge_true_iff r 5).2 ⟨m, hm, hlt⟩
  refine ⟨?_, ?_, ?_, ?_⟩
  · intro topic props payload id retain dup hid
    rw [handlePacket_publish1 d r topic id props payload retain dup hid, ackOutcome, if_pos h5]
  · intro topic props payload id retain dup hid
    rw [handlePacket_publish2 d r topic id props payload retain dup 2 hid (by decide) (by decide), ackOutcome2,
      if_pos h5]
    exact ⟨rfl, rfl⟩
  · intro id rs hid
    rw [handlePacket_pubRel d r id rs hid]
    split <;> rw [ackOutcome, if_pos h5] <;> exact ⟨rfl, rfl⟩
  · intro id rs hfound hok
    rw [ackPacket_found_iff] at hfound
    rw [handlePacket_pubRec, SessionData.awaits, hfound, hok, if_pos rfl, if_neg (by decide), if_pos h5]
    exact ⟨rfl, ackPacket_release _ _ _⟩

/-- …and `handle_packet` reports `PacketTooLarge` in no other situation. -/
theorem C14_inbound_too_large_only_below_ack_size (d : SessionData) (r : Runtime) (p : Recv)
    (h : (handlePacket d r p).2.2 = .error .packetTooLarge) : ∃ m, r.maximumPacketSize = some m ∧ m < 5 := by
  rw [← packetTooLarge_true_iff]
  have hd := handlePacket_outcome d r p
  generalize handlePacket d r p = out at hd h
  cases hd with
  | skip res hres => rcases hres _ h with h1 | h1 | ⟨_, h1⟩ <;> cases h1
  | acked _ _ res _ _ hres | pubAck _ res _ hres | pubComp _ res _ hres => obtain ⟨_, h1⟩ := hres _ h; cases h1
  | pingResp | pubRecFailed | pubRecReleased | queued => cases h
  | pubRecStuck _ e _ he | unsent _ _ e _ _ he =>
    rcases he with ⟨_, hb⟩ | ⟨he, _⟩
    · exact hb
    · cases he.symm.trans (Except.error.inj h)

/-- **…the connection is closed instead.** When `handle_packet` reports `PacketTooLarge`,
`process_received_packet` disconnects: the handle is dead, the error is returned to the caller. -/
theorem C14_inbound_too_large_closes (w : World) (len : Nat) (pkt : Recv)
    (hav : w.sess.reader.packetAvailable = true) (htake : w.sess.takePkt.2 = some (len, pkt))
    (hh : (w.sess.takePkt.1.handle pkt).2 = .error .packetTooLarge) :
    w.processReceivedPacket.2 = .error .packetTooLarge ∧ w.processReceivedPacket.1.live = false ∧
    w.processReceivedPacket.1.sess = (w.sess.takePkt.1.handle pkt).1.handleDisconnect ∧
    w.processReceivedPacket.1.nets = w.nets := by
  rw [processReceivedPacket_eq]
  simp only [hav, Bool.not_true, Bool.false_eq_true, if_false, htake, hh]
  exact ⟨trivial, handleDisconnect_live _, rfl, rfl⟩

/-- Non-vacuity: the four acknowledgements really are five bytes. -/
example : encodeControl { typ := MT_PubAck, id := 258, rc := 0 } = .ok [b 0x40, b 3, b 1, b 2, b 0] ∧
    encodePubrel 258 0 = .ok [b 0x62, b 3, b 1, b 2, b 0] := ⟨rfl, rfl⟩

/-- **CONNECT advertises the receive buffer.** The Maximum Packet Size property of every CONNECT is
the size of the receive buffer… -/
theorem C14_connect_advertises_receive_buffer (s : Session) :
    s.connectPacket.props = .slice (connectProps s.reader.cap s.expiry) ∧
    ({ kind := .MaximumPacketSize, val := .n s.reader.cap } : Property) ∈ connectProps s.reader.cap s.expiry ∧
    (∀ p ∈ connectProps s.reader.cap s.expiry, p.kind = .MaximumPacketSize → p.val = .n s.reader.cap) := by
  refine ⟨rfl, by simp [connectProps], ?_⟩
  intro p hp hk
  simp only [connectProps, List.mem_cons, List.not_mem_nil, or_false] at hp
  rcases hp with rfl | rfl | rfl
  · rfl
  · cases hk
  · cases hk

theorem closed_readerCap (c : Nat) : Closed (fun s => s.reader.cap = c) :=
  closed_reader (fun r h => (takePacket_cap r).trans h) (fun _ h => h)
    (fun _ _ _ h hw => (receiveWindow_spec _ _ _ hw).1.trans h) fun _ _ h => h

/-- …and that size is the configured `rx` in every reachable state. -/
theorem C14_receive_buffer_size_constant (cfg : Cfg) (ds : List Directive) :
    (ds.foldl World.execDirective { sess := Session.new cfg }).sess.reader.cap = cfg.rx :=
  run_inv (closed_readerCap cfg.rx) ds { sess := Session.new cfg } rfl

/-- **An oversize inbound packet is refused.** When the length announced in the fixed header
(known already, or just probed) exceeds the receive buffer, `receive_buffer` fails… -/
theorem C14_reader_refuses_oversize (r : Reader) (l : Nat) (hl : r.cap < l) :
    (r.packetLength = some l → r.receiveWindow = none) ∧
    (r.packetLength = none → 1 < r.data.length → probeLen (r.data.drop 1) 0 0 = some l → r.receiveWindow = none) := by
  refine ⟨fun h => by rw [receiveWindow_known r l h, if_neg (by omega)], fun hn h2 hp => ?_⟩
  unfold Reader.receiveWindow Reader.probe
  simp only [hn, Option.isNone_none, if_true, Reader.readBytes, hp, Option.isNone_some, Bool.and_false,
    Bool.false_eq_true, if_false]
  rw [if_neg (by omega)]
  simp only []
  rw [if_neg (by omega)]

/-- …and the wait loop of `poll()`/`recv()` as well as the handshake then end the connection with an
error instead of reading on. -/
theorem C14_oversize_inbound_ends_connection (fuel : Nat) (w : World)
    (hav : w.sess.reader.packetAvailable = false) (hw : w.sess.reader.receiveWindow = none) :
    (∀ outer d y, doWaitRead (fuel + 1) w outer d y = (w.handleDisconnect).finishErr (outerName outer) .peerInvalid) ∧
    doConnRead (fuel + 1) w = (w.handleDisconnect).finishErr "connect" .peerInvalid ∧
    ((w.handleDisconnect).finishErr "connect" .peerInvalid).live = false :=
  ⟨fun outer d y => doWaitRead_malformed fuel w outer d y hav hw, doConnRead_malformed fuel w hav hw, by simp⟩

/-- **The buffer is never overrun.** `receive_buffer` changes neither the bytes nor the size of the
buffer; every non-empty window it offers ends inside the buffer, and as long as the committed bytes
fit (which one read into the offered window preserves) so does every window. -/
theorem C14_reader_window_within_buffer (r r1 : Reader) (n : Nat) (h : r.receiveWindow = some (r1, n)) :
    r1.cap = r.cap ∧ r1.data = r.data ∧ r1.last = r.last ∧
    (0 < n → r1.data.length + n ≤ r1.cap) ∧ (r.data.length ≤ r.cap → r1.data.length + n ≤ r1.cap) :=
  receiveWindow_spec r r1 n h

/-- One read into the window offered (the transport returns at most `window` bytes) followed by the
commit keeps the committed bytes inside the buffer — so the hypothesis of the last clause above is
re-established by every read of the wait loop and of the handshake. -/
theorem C14_read_stays_within_buffer (s s1 : Session) (n : Nat) (w w' : World) (bytes : Bytes)
    (hb : s.reader.data.length ≤ s.reader.cap) (hw : s.window = some (s1, n)) (hr : w.ioRead n = (w', .ok bytes)) :
    (s1.commit bytes).reader.data.length ≤ (s1.commit bytes).reader.cap ∧ (s1.commit bytes).reader.cap = s.reader.cap := by
  obtain ⟨rd, hrw, rfl⟩ := Session.window_some hw
  obtain ⟨h1, h2, _, _, h5⟩ := receiveWindow_spec _ _ _ hrw
  have := ioRead_len _ _ _ _ hr
  have := h5 hb
  simp only [Session.commit, Reader.commit, List.length_append]
  exact ⟨by omega, h1⟩

/-- Non-vacuity: a 16-byte buffer holding the first two bytes of a packet that announces 2 + 20 bytes
refuses it; one announcing 2 + 14 bytes gets a window of 14. -/
example :
    ({ cap := 16, data := [b 0x30, b 20], packetLength := none, last := [] } : Reader).receiveWindow = none ∧
    (({ cap := 16, data := [b 0x30, b 14], packetLength := none, last := [] } : Reader).receiveWindow.map (·.2)) = some 14 := by
  decide +kernel

end Minimq
