import Minimq.Proofs.FuelAdequate
/-
C16 (part) — every POLL does a bounded amount of work: the fuel of the model is never exhausted.

The model writes the asynchronous operations (`session/handshake.rs`, `operations.rs`, `drive.rs`)
as thirteen mutually recursive functions with a fuel argument; with fuel 0 each prints the trace
line `fuel` and stops. The model is an honest model of the Rust code only if that never happens.

What is proved (for every world, reachable or not — no invariant is needed):

 * a measure `Call.rank` of a call (function + arguments + world) that strictly decreases along every
   tail call (`run_step`), built from: the one I/O decision a POLL holds (`slot`), the remaining
   timer self-wakes (`63 - wakes`), the state of the receive buffer (a complete packet is consumed
   once), and a small position inside the loop. It never exceeds 354, and `pollFuel` is 4000;
 * hence, with fuel ≥ rank (in particular with any fuel ≥ 354) the result does not depend on the
   fuel, the line `fuel` is not printed, and the run ends at a genuine resting point (suspended at an
   await point, or completed with a result) — `C16_fuel_adequate`, `C16_fuel_adequate_all`,
   `C16_fuel_never_exhausted`;
 * the same for a whole `poll`, `startConnect`, every directive and every program:
   `C16_fuel_poll_independent`, `C16_fuel_startConnect_independent`, `C16_fuel_exec_never_exhausted`,
   `C16_fuel_never_in_trace` (no program text makes the model print `fuel`);
 * a `poll()`/`recv()` completes without error only if something could advance
   (`C16_poll_ok_needs_progress`, `C16_poll_ok_only_after_progress`, `C16_poll_idle_waits`,
   `C16_poll_start_idle_waits`);
 * one POLL uses its I/O decision at most once, by one I/O call; without a decision the transports
   are not touched (`C16_poll_io_decision`, `C16_poll_no_decision_no_io`, `C16_fuel_call_io`).
-/
namespace Minimq
open Gen World Fuel

/-- With fuel 0 every one of the thirteen functions prints `fuel` — the marker whose absence the
theorems below establish (so they are not vacuous: the marker does appear when fuel runs out). -/
theorem C16_fuel_marker (c : Call) : (c.run 0).out = "fuel" :: c.world.out := by
  rw [Call.run_zero]; rfl

/-- **The measure is bounded.** Whatever the function, its arguments and the world: the rank is at
most 354, and `poll`, `startConnect` and the directives start every operation with 4000. -/
theorem C16_fuel_rank_bounded (c : Call) : c.rank ≤ fuelBound ∧ fuelBound ≤ pollFuel :=
  ⟨c.rank_le, fuelBound_le_pollFuel⟩

/-- **The measure decreases.** One step of any of the thirteen functions, with any fuel `m + 1`,
either finishes with a result that does not depend on `m`, or continues as one other call with fuel
`m` — the same call for every `m` — whose rank is strictly smaller. -/
theorem C16_fuel_step (c : Call) :
    (∃ c' : Call, c'.rank < c.rank ∧ ∀ m, c.run (m + 1) = c'.run m) ∨ (∃ r, ∀ m, c.run (m + 1) = r) := by
  rcases run_step c with ⟨c', e, h⟩ | ⟨r, _, h⟩
  · exact .inl ⟨c', e.rank, h⟩
  · exact .inr ⟨r, h⟩

/-- **Fuel adequacy, state-dependent bound.** With at least `rank` fuel, more fuel changes nothing. -/
theorem C16_fuel_adequate_rank (c : Call) (f : Nat) (hf : c.rank ≤ f) : c.run f = c.run c.rank :=
  run_stable c f hf

/-- **Fuel adequacy, uniform bound.** For every one of the thirteen functions, all arguments and every
world: any fuel `f ≥ 354` gives the same result as fuel 354. In particular `pollFuel = 4000` does. -/
theorem C16_fuel_adequate (c : Call) (f : Nat) (hf : fuelBound ≤ f) : c.run f = c.run fuelBound :=
  run_uniform c f hf

/-- `C16_fuel_adequate` spelled out for the thirteen functions. -/
theorem C16_fuel_adequate_all (f : Nat) (hf : 354 ≤ f) :
    (∀ w k, flushLoop f w k = flushLoop 354 w k) ∧
    (∀ w ctx step now, performStep f w ctx step now = performStep 354 w ctx step now) ∧
    (∀ w ctx pkt bytes wr len now, doStepWrite f w ctx pkt bytes wr len now = doStepWrite 354 w ctx pkt bytes wr len now) ∧
    (∀ w ctx pkt now, doStepFlush f w ctx pkt now = doStepFlush 354 w ctx pkt now) ∧
    (∀ w ctx adv, stepReturned f w ctx adv = stepReturned 354 w ctx adv) ∧
    (∀ w k, afterFlush f w k = afterFlush 354 w k) ∧
    (∀ w which bytes, doLocalWrite f w which bytes = doLocalWrite 354 w which bytes) ∧
    (∀ w which, doLocalFlush f w which = doLocalFlush 354 w which) ∧
    (∀ w, doConnRead f w = doConnRead 354 w) ∧
    (∀ w o adv, driveLoop f w o adv = driveLoop 354 w o adv) ∧
    (∀ w o adv, driveAfterService f w o adv = driveAfterService 354 w o adv) ∧
    (∀ w o, driveEnter f w o = driveEnter 354 w o) ∧
    (∀ w o d y, doWaitRead f w o d y = doWaitRead 354 w o d y) :=
  ⟨fun w k => run_uniform (.FL w k) f hf,
   fun w ctx step now => run_uniform (.PS w ctx step now) f hf,
   fun w ctx pkt bytes wr len now => run_uniform (.DSW w ctx pkt bytes wr len now) f hf,
   fun w ctx pkt now => run_uniform (.DSF w ctx pkt now) f hf,
   fun w ctx adv => run_uniform (.SR w ctx adv) f hf,
   fun w k => run_uniform (.AF w k) f hf,
   fun w which bytes => run_uniform (.DLW w which bytes) f hf,
   fun w which => run_uniform (.DLF w which) f hf,
   fun w => run_uniform (.DCR w) f hf,
   fun w o adv => run_uniform (.DL w o adv) f hf,
   fun w o adv => run_uniform (.DAS w o adv) f hf,
   fun w o => run_uniform (.DE w o) f hf,
   fun w o d y => run_uniform (.DWR w o d y) f hf⟩

/-- **The fuel is never exhausted.** With at least `rank` fuel (so with `pollFuel`) the trace is
extended only by lines other than `fuel`, and the run ends suspended at an await point or completed
with a result — not in the middle of the synchronous code. -/
theorem C16_fuel_never_exhausted (c : Call) (f : Nat) (hf : c.rank ≤ f) :
    (∃ new, (c.run f).out = new ++ c.world.out ∧ "fuel" ∉ new) ∧
    ((c.run f).fut.isSome = true ∨ (c.run f).lastRes.isSome = true) := by
  have fin := run_final c f hf
  exact ⟨Grew.new_not_mem fin.rel.quiet, fin.settled⟩

/-- **A whole POLL does not depend on the fuel**: `poll` is `pollWith pollFuel`, and `pollWith f` is
the same function for every `f ≥ 354`. -/
theorem C16_fuel_poll_independent (w : World) (f : Nat) (hf : fuelBound ≤ f) :
    World.poll w = World.pollWith f w := by
  rw [poll_eq_pollWith, pollWith_uniform w pollFuel fuelBound_le_pollFuel, pollWith_uniform w f hf]

/-- `Session::connect` up to its first await does not depend on the fuel either. -/
theorem C16_fuel_startConnect_independent (w : World) (f : Nat) (hf : fuelBound ≤ f) :
    w.startConnect = w.startConnectWith f := by
  rw [startConnect_eq_with, startConnectWith_uniform w pollFuel fuelBound_le_pollFuel,
    startConnectWith_uniform w f hf]

/-- **No POLL prints `fuel`.** -/
theorem C16_fuel_poll_never_exhausted (w : World) :
    ∃ new, (World.poll w).out = new ++ w.out ∧ "fuel" ∉ new :=
  Grew.new_not_mem (poll_rel w).quiet

/-- **No directive prints `fuel`** — starting an operation (`connect`, `publish`, `subscribe`,
`unsubscribe`, `disconnect`, `poll`, `recv`, `drive`), polling it (`d n`, `tick`), running it to
completion (`go`), or anything else. -/
theorem C16_fuel_exec_never_exhausted (w : World) (d : Directive) :
    ∃ new, (w.execDirective d).out = new ++ w.out ∧ "fuel" ∉ new :=
  Grew.new_not_mem (quiet_execDirective w d)

/-- No sequence of directives prints `fuel`. -/
theorem C16_fuel_run_never_exhausted (w : World) (ds : List Directive) :
    ∃ new, (ds.foldl World.execDirective w).out = new ++ w.out ∧ "fuel" ∉ new :=
  Grew.new_not_mem (quiet_run ds w)

/-- **No program makes the model print `fuel`**: the trace of `runProgram`, for any program text,
does not contain that line. The fuel is an artefact of the definition, not of the behaviour. -/
theorem C16_fuel_never_in_trace (text : String) : "fuel" ∉ runProgram text := fun h =>
  runProgram_lines (Q := (· ≠ "fuel")) text (by decide) (by decide)
    (fun _ ls _ l hl e => Grew.not_mem (quiet_program ls _) rfl (e ▸ List.mem_reverse.mpr hl)) _ h rfl

/-- **A POLL that completes `poll()`/`recv()` successfully had something to advance.** Let the
suspended operation be a `poll()` or `recv()` whose `drive_packet` round has not advanced anything so
far — neither in this POLL nor in an earlier one (`pc.idle`: the `advanced` flag carried by the await
point is false) — and let the receive buffer hold no complete packet. Then the POLL either leaves the
operation suspended, or fails it, or it performed an I/O call (it used up its I/O decision). It never
completes with `Ok` out of nothing. -/
theorem C16_poll_ok_needs_progress (w : World) (pc : Pc) (hf : w.fut = some pc) (hi : pc.idle = true)
    (hb : w.sess.reader.cls = 0) :
    ((World.poll w).fut.isSome = true ∨ ∃ e, (World.poll w).lastRes = some (.error e)) ∨
    (w.slot.isSome = true ∧ (World.poll w).slot = none) :=
  poll_idle w pc hf hi hb

/-- **`poll()` returns without error only after progress** — the same in positive form. If a POLL
completes a `poll()`/`recv()` with `Ok` (that includes `ret poll ok none`), then the `drive_packet`
round had already advanced in an earlier POLL (the await point carried `advanced = true`: a write had
accepted bytes or a flush had completed), or a complete packet was lying in the receive buffer, or
this POLL performed an I/O call. -/
theorem C16_poll_ok_only_after_progress (w : World) (pc : Pc) (o : Outer) (adv : Bool) (hf : w.fut = some pc)
    (hop : pc.driveOp = some (o, adv)) (ho : o ≠ .drive)
    (hok : (World.poll w).fut = none ∧ (World.poll w).lastRes = some (.ok ())) :
    adv = true ∨ w.sess.reader.cls ≠ 0 ∨ (w.slot.isSome = true ∧ (World.poll w).slot = none) := by
  cases adv with
  | true => exact .inl rfl
  | false =>
    by_cases hb : w.sess.reader.cls = 0
    · rcases poll_idle w pc hf (idle_of_driveOp hop ho) hb with (h | ⟨e, h⟩) | h
      · rw [hok.1] at h; simp at h
      · rw [hok.2] at h; simp at h
      · exact .inr (.inr h)
    · exact .inr (.inl hb)

/-- **An idle POLL waits.** As `C16_poll_ok_needs_progress`, and the transport has nothing to offer (no I/O decision:
every I/O call of this POLL is pending): the operation stays suspended or fails; it does not return `Ok(None)`. -/
theorem C16_poll_idle_waits (w : World) (pc : Pc) (hf : w.fut = some pc) (hi : pc.idle = true)
    (hb : w.sess.reader.cls = 0) (hs : w.slot = none) :
    (World.poll w).fut.isSome = true ∨ ∃ e, (World.poll w).lastRes = some (.error e) := by
  rcases poll_idle w pc hf hi hb with h | ⟨h, _⟩
  · exact h
  · rw [hs] at h; simp at h

/-- `C16_poll_idle_waits` for the first POLL of the operation (`poll()` / `recv()` has just been called). -/
theorem C16_poll_start_idle_waits (w : World) (o : Outer) (ho : o ≠ .drive) (hb : w.sess.reader.cls = 0)
    (hs : w.slot = none) :
    (driveEnter pollFuel w o).fut.isSome = true ∨ ∃ e, (driveEnter pollFuel w o).lastRes = some (.error e) := by
  rcases start_idle w o ho hb with h | ⟨h, _⟩
  · exact h
  · rw [hs] at h; simp at h

/-- What "no complete packet in the receive buffer" (`cls = 0`) means: no packet is known to be
available, and `receive_buffer` does not offer an empty window (which is how the reader says that
the packet whose length it has just probed is already complete). -/
theorem C16_poll_buffer_empty_iff (r : Reader) : r.cls = 0 ↔
    r.packetAvailable = false ∧ ∀ r1 n, r.receiveWindow = some (r1, n) → n ≠ 0 := by
  constructor
  · intro h
    have hpa := available_of_cls_zero h
    refine ⟨hpa, fun r1 n hw hn => ?_⟩
    subst hn
    rw [cls_of_window_eq hpa hw] at h
    simp at h
  · intro ⟨hpa, hw⟩
    unfold Reader.cls
    simp only [hpa, Bool.false_eq_true, if_false]
    split
    · rename_i r1 heq; exact absurd rfl (hw _ _ heq)
    · rfl

/-- **Every run of the thirteen functions uses the I/O decision at most once.** Either the decision
is still there at the end and the transports are untouched, or there was one and it has been
consumed, and the transports differ by what one I/O call does: the current transport got bytes
appended to its wire, or lost bytes from the front of its receive queue. -/
theorem C16_fuel_call_io (c : Call) (f : Nat) (hf : c.rank ≤ f) :
    ((c.run f).slot = c.world.slot ∧ (c.run f).nets = c.world.nets) ∨
    (c.world.slot.isSome = true ∧ (c.run f).slot = none ∧ OneIo c.world.nets (c.run f).nets) :=
  (run_final c f hf).rel.io

/-- `C16_fuel_call_io` for a whole POLL. -/
theorem C16_poll_io_decision (w : World) :
    ((World.poll w).slot = w.slot ∧ (World.poll w).nets = w.nets) ∨
    (w.slot.isSome = true ∧ (World.poll w).slot = none ∧ OneIo w.nets (World.poll w).nets) :=
  (poll_rel w).io

/-- **Without a decision nothing is written or read.** -/
theorem C16_poll_no_decision_no_io (w : World) (hs : w.slot = none) :
    (World.poll w).nets = w.nets ∧ (World.poll w).slot = none := by
  rcases (poll_rel w).io with ⟨a, b⟩ | ⟨a, _⟩
  · exact ⟨b, by rw [a, hs]⟩
  · rw [hs] at a; simp at a

/-- A freshly connected, idle session: 16-byte buffers, nothing queued, nothing received. -/
def fuelExampleWorld : World :=
  { sess := Session.new { rx := 16, tx := 16, keepaliveS := 0, expiry := 0, downgrade := false, clientId := [],
                          auth := none, will := none },
    conn := some { live := true, resumed := false }, nets := [{}],
    fut := some (.waitRead .poll none true) }

/-- `fuelExampleWorld` meets the hypotheses of `C16_poll_idle_waits`. -/
example : fuelExampleWorld.fut = some (.waitRead .poll none true) ∧ (Pc.waitRead .poll none true).idle = true ∧
    fuelExampleWorld.sess.reader.cls = 0 ∧ fuelExampleWorld.slot = none := ⟨rfl, rfl, by decide, rfl⟩

/-- An operation suspended in a write meets `pc.idle`, the hypothesis of `C16_poll_ok_needs_progress`. -/
example : (Pc.stepWrite (.drive false .recv) (.release 1) [1, 2] 0 2 0).idle = true := by decide +kernel

/-- `pc.idle` is not always true: it fails once the round has advanced, and for `drive()`. -/
example : (Pc.stepWrite (.drive true .poll) (.release 1) [1, 2] 0 2 0).idle = false ∧
    (Pc.waitRead .drive none true).idle = false := by decide +kernel

/-- The rank of a concrete call: entering `poll()` on the idle session, 319 ≤ 354. -/
example : (Call.DE { fuelExampleWorld with fut := none } .poll).rank = 319 := by decide +kernel

/-! ### A corner of the model: the decision `0`

"Performed an I/O call" in `C16_poll_ok_needs_progress` cannot be sharpened to "put at least one byte
on the wire or took one off it" for *every* world of the model: `ioWrite` with the decision `0`
returns `ok 0` (an accepted write of zero bytes), which `doStepWrite` counts as progress, where the
Rust code treats `Ok(0)` from the transport as `WriteZero` (that outcome is the decision 251 in the
model). The parser rejects `d 0` (`bad-op`), so no program text reaches this; `Directive.d 0` as a
value does. -/

/-- A `poll()` suspended in the write of a PUBREL, resumed with the decision `0`. -/
def fuelZeroWriteWorld : World :=
  { fuelExampleWorld with fut := some (.stepWrite (.drive false .poll) (.release 1) [1, 2, 3] 0 3 0), slot := some 0 }

/-- `fuelZeroWriteWorld` completes with `Ok` (`ret poll ok none`) although the transports are exactly as before. -/
example : (World.poll fuelZeroWriteWorld).lastRes = some (.ok ()) ∧ (World.poll fuelZeroWriteWorld).fut = none ∧
    (World.poll fuelZeroWriteWorld).nets = fuelZeroWriteWorld.nets := by
  -- `pollFuel` = 4000 as three successors: `doStepWrite`, `stepReturned` and `driveAfterService` are unfolded below
  have h : World.poll fuelZeroWriteWorld =
      doStepWrite (3997 + 1 + 1 + 1) { fuelZeroWriteWorld with wakes := 0, lastIoStarved := false, fut := none }
        (.drive false .poll) (.release 1) [1, 2, 3] 0 3 0 := rfl
  have h1 : fuelExampleWorld.sess.reader.packetAvailable = false := by decide +kernel
  have h2 : (fuelExampleWorld.sess.setWritten (Flushed.release 1) 0 3).data.outbound.nextStep = none := by decide +kernel
  have h3 : fuelExampleWorld.nets = [{}] := rfl
  rw [h, doStepWrite]
  simp [World.ioWrite, fuelZeroWriteWorld, World.setWritten, stepReturned, World.setCurNet, World.curNet, World.emit, h3]
  unfold driveAfterService
  simp [World.finish, World.emit, h1, h2]

end Minimq
