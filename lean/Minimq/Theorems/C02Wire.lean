import Minimq.Proofs.WireHist
import Minimq.Proofs.WireTop
/-
C02, whole machine — which retained packets are on the wire of the current connection.

The local theorems (`Theorems/C02.lean`, `C03.lean`, `C05.lean`) describe single steps: an
acknowledgement removes exactly its packet, `arm_replay` re-arms everything and sets DUP, the scheduler
hands out replays before new packets. This file ties them to what the transport has actually accepted,
for every program.

The transmission log. `World.log` is a ghost field (never printed; the driver's traces are unchanged):
`set_written` appends an entry at the moment it moves a queue entry to `Flush`, i.e. exactly when the
transport has accepted the last byte of that entry's packet (`World.setWritten`, `World.doneFrame`). An
entry records the ordinal of the transport, the queue entry — for a retained packet its ghost serial
number (`RetainedPacket.ser`, assigned once when the packet is accepted into the arena and never
reused) and its packet identifier — and the bytes of the packet. Nothing else writes the log and
nothing removes from it (`C02_log_is_append_only`). `w.curLog` is the part for the current transport.
Serial numbers, not bytes, identify "the same packet": after an acknowledgement an identifier can be
reused (65535 publishes later, or with the harness hook `setpid`), and then equal bytes do not mean the
same request.

What is proved, for every program: on a live connection whose transport is not marked torn (`tornNets`, see
C01Wire) the retained queue and the log of the current transport agree, and on every transport that is not
marked torn the serials in the log strictly increase. Together: each unacknowledged packet of a resumed
session is retransmitted at most once per connection, and — as soon as its entry says `Sent` — exactly once.
With no condition on liveness or torn marks (`Proofs/WireHist.lean`), transmissions of the same retained
packet differ only in the DUP bit.

The same for PUBREL entries (ghost serial `PendingRelease.rser`): `Theorems/C03Wire.lean`.
-/
namespace Minimq
open Gen World Outbound

/-- **The log is append-only**: whatever directive runs, from any world, the transmission log after it
extends the log before it. (It is extended only by `set_written` completing a queue entry.) -/
theorem C02_log_is_append_only (w : World) (d : Directive) : w.log <+: (w.execDirective d).log := by
  have hcancel : w.log <+: w.cancelFut.log := by rw [cancelFut_log]; exact List.prefix_refl _
  by_cases hd : d = .connect
  · subst hd
    refine wstartConnect (wstable_logPrefix w.log) w ?_
    show w.log <+: w.dropConn.log
    rw [dropConn_eq]; split <;> exact hcancel
  · exact wexec_noconnect (wstable_logPrefix w.log) w (fun _ => hcancel) (fun _ _ h => h) d (fun he => hd he) (List.prefix_refl _)

/-- What `set_written` records, by definition: nothing while the packet is incomplete, and the entry
for `pkt` on the current transport once `written ≥ len`. -/
theorem C02_log_written_by_setWritten (w : World) (pkt : Flushed) (written len : Nat) :
    (w.setWritten pkt written len).log = if written ≥ len then w.log ++ [w.doneFrame pkt] else w.log := rfl

/-- **The logged packets are on the wire.** After any program, on a live connection whose transport is
not marked torn, the wire of the current transport is `frames.flatten ++ part` with all frames whole
framed packets, and the packets recorded in the log of this transport occur among the frames behind the
first one (the CONNECT), in the order of the log. -/
theorem C02_logged_packets_are_on_the_wire (cfg : Cfg) (ds : List Directive) :
    let w := ds.foldl World.execDirective { sess := Session.new cfg }
    w.nets.length ∉ w.tornNets → w.live = true →
    ∃ (frames : List Bytes) (part : Bytes), w.curNet.wire = frames.flatten ++ part ∧ (∀ f ∈ frames, Framed f) ∧
      (w.curLog.map (·.bytes)).Sublist (frames.drop 1) := by
  intro w hnt hl
  exact ((Quiesce.produced cfg ds).winv.curLog hnt hl).1

/-- **The retained queue agrees with the log of the current transport.** After any program, on a live
connection whose transport is not marked torn, with `L` the log of the current transport:

 1. the serials of the retained packets in `L` strictly increase — no retained packet twice on this
    connection, and in the order of acceptance (replays first);
 2. every serial in `L` is below the counter: a packet accepted from now on is newer than all of them;
 3. a retained entry in state `Flush` or `Sent` is in `L`, tagged with its serial and identifier, with
    exactly the bytes that are in the arena now;
 4. a retained entry still waiting or partially written is not in `L`, and every retained packet in `L`
    is older than it;
 5. the retained queue is in serial order, and in front of an entry that has been started (any state
    but "waiting for the first byte") every entry is `Sent`. -/
theorem C02_retained_queue_agrees_with_log (cfg : Cfg) (ds : List Directive) :
    let w := ds.foldl World.execDirective { sess := Session.new cfg }
    let o := w.sess.data.outbound
    w.nets.length ∉ w.tornNets → w.live = true →
    (sers w.curLog).Pairwise (· < ·) ∧
    (∀ s ∈ sers w.curLog, s < o.nextSer) ∧
    (∀ e ∈ o.retained, (e.state = .sent ∨ e.state = .flush) →
        (⟨w.nets.length, .retained e.ser e.id, slice o.buf e.offset e.len⟩ : LogEntry) ∈ w.curLog) ∧
    (∀ e ∈ o.retained, ∀ n, e.state = .write n → ∀ s ∈ sers w.curLog, s < e.ser) ∧
    (o.retained.map (·.ser)).Pairwise (· < ·) ∧
    o.retained.Pairwise (fun a c => c.state ≠ .write 0 → a.state = .sent) := by
  intro w o hnt hl
  have hinv := (Quiesce.produced cfg ds).winv
  have hlog := (hinv.curLog hnt hl).2
  exact ⟨hlog.p.sorted, hlog.p.below, fun e he hst => hlog.p.written_entry he hst,
    fun e he n hst => hlog.p.unwritten_entry he hst, hinv.sp.ser.inc, hlog.p.ord_entry⟩

/-- **Order on the wire.** Of two retained entries that are both written (`Flush` or `Sent`), the one
accepted first (smaller serial — in particular a replayed packet against one accepted after the
reconnect) was handed to the transport first: their log entries occur in that order in the log of the
current transport, hence (`C02_logged_packets_are_on_the_wire`) on the wire. -/
theorem C02_older_packet_goes_first (cfg : Cfg) (ds : List Directive) :
    let w := ds.foldl World.execDirective { sess := Session.new cfg }
    let o := w.sess.data.outbound
    w.nets.length ∉ w.tornNets → w.live = true →
    ∀ e1 ∈ o.retained, ∀ e2 ∈ o.retained, (e1.state = .sent ∨ e1.state = .flush) → (e2.state = .sent ∨ e2.state = .flush) →
      e1.ser < e2.ser →
      [(⟨w.nets.length, .retained e1.ser e1.id, slice o.buf e1.offset e1.len⟩ : LogEntry),
       ⟨w.nets.length, .retained e2.ser e2.id, slice o.buf e2.offset e2.len⟩].Sublist w.curLog := by
  intro w o hnt hl e1 h1 e2 h2 hs1 hs2 hlt
  have hlog := ((Quiesce.produced cfg ds).winv.curLog hnt hl).2
  exact sublist_pair_of_sorted hlog.p.sorted (hlog.p.written_entry h1 hs1) (hlog.p.written_entry h2 hs2) rfl rfl hlt

/-- **An unfinished entry has not been on this wire.** While a retained entry is waiting for its first
byte or partially written, no entry of the log of the current transport carries its serial. (The bytes
of a partially written one are the `part` of `C01_wire_is_whole_packets`.) -/
theorem C02_unfinished_entry_not_in_log (cfg : Cfg) (ds : List Directive) :
    let w := ds.foldl World.execDirective { sess := Session.new cfg }
    w.nets.length ∉ w.tornNets → w.live = true →
    ∀ e ∈ w.sess.data.outbound.retained, ∀ n, e.state = .write n → e.ser ∉ sers w.curLog := by
  intro w hnt hl e he n hst hm
  exact Nat.lt_irrefl _ ((C02_retained_queue_agrees_with_log cfg ds hnt hl).2.2.2.1 e he n hst _ hm)

/-- **At most once on every connection, in order.** After any program, for every transport `k`
(ordinal, 1 = first) that is not marked torn — the current one in whatever state, or an earlier one —
the serials of the retained packets in its part of the transmission log strictly increase: no retained
packet was handed to that transport twice, and they went out in the order in which they were accepted
(so on a resumed connection the replays, which have the older serials, went out before anything accepted
during that connection). -/
theorem C02_at_most_once_on_every_connection (cfg : Cfg) (ds : List Directive) :
    let w := ds.foldl World.execDirective { sess := Session.new cfg }
    ∀ k, 1 ≤ k → k ≤ w.nets.length → k ∉ w.tornNets →
      (sers (w.log.filter (fun f => f.net == k))).Pairwise (· < ·) := by
  intro w k hk1 hk hnt
  exact ((Quiesce.produced cfg ds).winv.log_sorted k hk1 hk hnt).1

/-- **Retransmissions differ from the first transmission only in the DUP bit.** After any program, any
two entries of the transmission log with the same serial — every transmission of one retained packet,
on whichever transports — carry the same packet identifier and, with bit 3 of the first byte masked
(`unDup`), the same bytes: the same length, the same bytes after the first, the same packet type and
the same low flag bits (`C02_unDup_eq`). -/
theorem C02_retransmissions_differ_only_in_DUP (cfg : Cfg) (ds : List Directive) :
    let w := ds.foldl World.execDirective { sess := Session.new cfg }
    ∀ f ∈ w.log, ∀ g ∈ w.log, ∀ t i j, f.tag = .retained t i → g.tag = .retained t j →
      i = j ∧ unDup f.bytes = unDup g.bytes := by
  intro w
  exact (Quiesce.produced cfg ds).hist.same

/-- **What was transmitted is what is retained.** After any program, a log entry whose packet is still
in the retained queue (same serial) carries that entry's packet identifier and, up to the DUP bit, the
bytes the arena holds for it now — so whatever is replayed later is, up to DUP, what went out before. -/
theorem C02_log_entry_matches_arena (cfg : Cfg) (ds : List Directive) :
    let w := ds.foldl World.execDirective { sess := Session.new cfg }
    let o := w.sess.data.outbound
    ∀ f ∈ w.log, ∀ e ∈ o.retained, ∀ i, f.tag = .retained e.ser i →
      i = e.id ∧ unDup f.bytes = unDup (slice o.buf e.offset e.len) := by
  intro w o
  exact (Quiesce.produced cfg ds).hist.cur

/-- `unDup a = unDup b` spelled out: the same length, the same bytes after the first, and first bytes
with the same packet type (high nibble) and the same three low flag bits; only bit 3 (DUP) may differ. -/
theorem C02_unDup_eq {a c : Bytes} (h : unDup a = unDup c) :
    a.length = c.length ∧ a.drop 1 = c.drop 1 ∧
    ∀ x y, a.head? = some x → c.head? = some y → x.toNat / 16 = y.toNat / 16 ∧ x.toNat % 8 = y.toNat % 8 :=
  unDup_eq h

/-- The configuration of `C01Wire_cfg`: its CONNECT has 29 bytes, which the examples drop from the wire. -/
def C02Wire_cfg : Cfg :=
  { rx := 64, tx := 128, keepaliveS := 0, expiry := 300, downgrade := false, clientId := [0x63], auth := none, will := none }

/-- Two QoS 1 publishes on the first connection, neither acknowledged; the connection is dropped; the
session is resumed (CONNACK with session present) and `poll` replays both. -/
def C02Wire_prog : List Directive :=
  [.connect, .rx [0x20, 0x03, 0x00, 0x00, 0x00], .go,
   .publish { qos := 1, retain := false, topic := [0x74], payload := .bytes [0x70], props := .slice [] }, .go,
   .publish { qos := 1, retain := false, topic := [0x75], payload := .bytes [0x71], props := .slice [] }, .go,
   .drop, .connect, .rx [0x20, 0x03, 0x01, 0x00, 0x00], .go, .poll, .go]

/-- The hypotheses hold; the log has four entries — serials 0 and 1 on transport 1, and again 0 and 1,
with the DUP bit set (0x3a instead of 0x32), on transport 2; the second wire is the CONNECT followed by
exactly the two replays, in serial order; both entries are `Sent`. -/
example :
    let w := C02Wire_prog.foldl World.execDirective { sess := Session.new C02Wire_cfg }
    w.nets.length ∉ w.tornNets ∧ w.live = true ∧ w.nets.length = 2 ∧
    w.log = [⟨1, .retained 0 1, [0x32, 0x07, 0x00, 0x01, 0x74, 0x00, 0x01, 0x00, 0x70]⟩,
             ⟨1, .retained 1 2, [0x32, 0x07, 0x00, 0x01, 0x75, 0x00, 0x02, 0x00, 0x71]⟩,
             ⟨2, .retained 0 1, [0x3a, 0x07, 0x00, 0x01, 0x74, 0x00, 0x01, 0x00, 0x70]⟩,
             ⟨2, .retained 1 2, [0x3a, 0x07, 0x00, 0x01, 0x75, 0x00, 0x02, 0x00, 0x71]⟩] ∧
    sers w.curLog = [0, 1] ∧
    w.curNet.wire.drop 29 = ([0x3a, 0x07, 0x00, 0x01, 0x74, 0x00, 0x01, 0x00, 0x70,
                               0x3a, 0x07, 0x00, 0x01, 0x75, 0x00, 0x02, 0x00, 0x71] : Bytes) ∧
    w.sess.data.outbound.retained.map (fun e => (e.ser, e.state)) = [(0, .sent), (1, .sent)] := by
  decide +kernel

end Minimq
