import Minimq.Proofs.PropsRoundtrip
/-
InboundProps — what the application sees of the properties a broker sent.

Inbound packets keep their property block as raw bytes (`PropertiesData::Encoded`); the application
reads it through `Properties::iter`, `response_topic`, `correlation_data` (`src/properties.rs`), which
run `Property::deserialize` repeatedly over the block. These theorems say that this lazy decoding
inverts the crate's own property serializer: if the block is the serialization of a list `l` of
well-typed properties (`encodeProps l = .ok block`, any of the 27 kinds, any values, any length), the
application sees exactly `l`. For blocks that are not of that form they bound the iteration.

`encodeProps` and `firstVal` are in `Proofs/SpecProps.lean` / `Proofs/PropsRoundtrip.lean`.
-/
namespace Minimq
open Gen

/-- **Writer and reader use the same wire format for every property kind.** What
`impl Serialize for Property` writes after the identifier (`serShape`) is what
`PropertyVisitor::visit_enum` reads (`deShape`), for all 27 kinds. The declared payload type
(`declShape`) agrees with both for every kind except `SubscriptionIdentifier`, which is declared
`u32` but travels as a variable byte integer (so values above 268 435 455 cannot be written: an
`example` below shows 268 435 456 refused with an error; that every larger value is refused is stated by
no theorem of this file). -/
theorem InboundProps_shapes (k : PropKind) :
    k.serShape = k.deShape ∧
    ((k.serShape = k.declShape ∧ k.deShape = k.declShape) ↔ k ≠ .SubscriptionIdentifier) := by
  refine ⟨shapes_ser_eq_de k, ?_, ?_⟩
  · rintro h rfl; cases h.1
  · intro h; cases k <;> first | exact ⟨rfl, rfl⟩ | exact absurd rfl h

/-- **Property identifiers are unambiguous.** Looking up the identifier of a kind gives that kind
back and nothing else: the 27 identifiers are pairwise distinct and the table lists each kind once. -/
theorem InboundProps_identifiers (k k' : PropKind) (id : Nat) :
    kindOfId k.id = some k ∧ (kindOfId id = some k ↔ k.id = id) ∧ (k.id = k'.id → k = k') ∧
    k ∈ PropKind.all ∧ PropKind.all.Nodup := by
  have hinj : ∀ {k k' : PropKind}, k.id = k'.id → k = k' := fun h =>
    Option.some.inj ((kindOfId_id _).symm.trans (h ▸ kindOfId_id _))
  refine ⟨kindOfId_id k, ⟨fun h => ?_, fun h => h ▸ kindOfId_id k⟩, hinj,
    List.mem_of_find?_eq_some (kindOfId_id k), List.Pairwise.of_map PropKind.id (fun _ _ h h' => h (h' ▸ rfl))
      (by decide : (PropKind.all.map PropKind.id).Nodup)⟩
  simpa using List.find?_some h

/-- **Decoding one property inverts encoding it.** For every well-typed property (any kind, any
value) that the serializer can write, `Property::deserialize` applied to the written bytes followed
by anything returns exactly that property and reports exactly the written length as consumed. -/
theorem InboundProps_decode_one (p : Property) (out rest : Bytes) (hwf : p.wf = true)
    (h : p.encode = .ok out) :
    decodeProp (out ++ rest) = { result := some p, consumed := out.length } :=
  decodeProp_encode p out rest hwf h

/-- **`Properties::iter` on an inbound block yields exactly what the broker put there**: every
property once, in order, with its exact value; no error item and nothing after the last one. -/
theorem InboundProps_iter (l : List Property) (block : Bytes)
    (hwf : ∀ p ∈ l, p.wf = true) (h : encodeProps l = .ok block) :
    (Properties.encoded block).iter = l.map some :=
  iterEncodedFuel_encode l block _ hwf h (Nat.le_succ _)

/-- The accessor scan on an already decoded list, for any string- or binary-typed kind. -/
theorem InboundProps_firstOf (k : PropKind) (l : List Property)
    (hk : k.declShape = .str ∨ k.declShape = .bin) (hwf : ∀ p ∈ l, p.wf = true) :
    firstOf k (l.map some) = firstVal k l := by
  induction l with
  | nil => rfl
  | cons p l ih =>
    have ih := ih fun q hq => hwf q (List.mem_cons_of_mem _ hq)
    simp only [List.map_cons, firstOf, firstVal, List.find?_cons]
    by_cases hpk : p.kind = k
    · obtain ⟨bs, hbs⟩ := p.wf_str_val (hwf p List.mem_cons_self) (hpk ▸ hk)
      simp only [hpk, hbs, if_true, decide_true]
    · simp only [hpk, if_false, decide_false]
      exact ih

/-- **`response_topic()` is the first Response Topic the broker sent** (`none` if it sent none):
`firstVal .ResponseTopic l` is the value of the first property of that kind in `l`
(`InboundProps_firstVal_spec`). -/
theorem InboundProps_responseTopic (l : List Property) (block : Bytes)
    (hwf : ∀ p ∈ l, p.wf = true) (h : encodeProps l = .ok block) :
    (Properties.encoded block).responseTopic = firstVal .ResponseTopic l := by
  unfold Properties.responseTopic
  rw [InboundProps_iter l block hwf h]
  exact InboundProps_firstOf _ l (Or.inl rfl) hwf

/-- **`correlation_data()` is the first Correlation Data the broker sent** (`none` if none). -/
theorem InboundProps_correlationData (l : List Property) (block : Bytes)
    (hwf : ∀ p ∈ l, p.wf = true) (h : encodeProps l = .ok block) :
    (Properties.encoded block).correlationData = firstVal .CorrelationData l := by
  unfold Properties.correlationData
  rw [InboundProps_iter l block hwf h]
  exact InboundProps_firstOf _ l (Or.inr rfl) hwf

/-- What `firstVal` means, in terms of the list only: the result is `some bs` exactly when `l`
is some properties of other kinds followed by a property of kind `k` with value `bs`; and it is
`none` when no property of kind `k` occurs. -/
theorem InboundProps_firstVal_spec (k : PropKind) (l : List Property) :
    (∀ bs, firstVal k l = some bs ↔
      ∃ l1 l2, l = l1 ++ { kind := k, val := .s bs } :: l2 ∧ ∀ q ∈ l1, q.kind ≠ k) ∧
    ((∀ q ∈ l, q.kind ≠ k) → firstVal k l = none) := by
  unfold firstVal
  refine ⟨fun bs => ⟨fun h => ?_, ?_⟩, fun h => ?_⟩
  · split at h
    · rename_i p hp
      obtain ⟨hpk, l1, l2, rfl, hl1⟩ := List.find?_eq_some_iff_append.mp hp
      split at h
      · rename_i bs' hv
        cases h
        obtain ⟨k', v'⟩ := p
        cases of_decide_eq_true hpk
        cases hv
        exact ⟨l1, l2, rfl, fun q hq => by simpa using hl1 q hq⟩
      · cases h
    · cases h
  · rintro ⟨l1, l2, rfl, hl1⟩
    rw [List.find?_eq_some_iff_append.mpr ⟨by simp, l1, l2, rfl, fun q hq => by simpa using hl1 q hq⟩]
  · rw [List.find?_eq_none.mpr fun q hq => by simpa using h q hq]

/-- **`valid_for` on an inbound block checks exactly the properties the broker sent.** -/
theorem InboundProps_validFor (l : List Property) (block : Bytes) (c : Ctx)
    (hwf : ∀ p ∈ l, p.wf = true) (h : encodeProps l = .ok block) :
    (Properties.encoded block).validFor c = l.all (fun p => p.validFor c) := by
  unfold Properties.validFor
  rw [InboundProps_iter l block hwf h, List.all_map]
  rfl

/-- **Arbitrary (possibly malformed) blocks: the iteration makes progress and ends.** Whatever the
bytes are, each call of `PropertiesIter::next` on a non-empty remainder consumes at least one byte
(the identifier is read first and reading it pops a byte even when it fails) and never more than
there are; hence the iterator yields at most one item per byte of the block, and the fuel the model
gives it (`block.length + 1`) never cuts it short — any larger fuel gives the same list. In
particular `decodeProp` never returns `consumed = 0` on a non-empty input, so the iterator cannot
repeat the same error forever. -/
theorem InboundProps_iter_bounded (block : Bytes) :
    (block ≠ [] → 1 ≤ (decodeProp block).consumed) ∧
    (decodeProp block).consumed ≤ block.length ∧
    ((Properties.encoded block).iter).length ≤ block.length ∧
    (∀ fuel, block.length ≤ fuel → iterEncodedFuel fuel block = iterEncoded block) := by
  refine ⟨(decodeProp_consumed_bounds block).1, (decodeProp_consumed_bounds block).2, ?_,
    fun fuel h => iterEncoded_eq_fuel fuel block h⟩
  show (iterEncodedFuel (block.length + 1) block).length ≤ block.length
  generalize block.length + 1 = fuel
  induction fuel generalizing block with
  | zero => exact Nat.zero_le _
  | succ fuel ih =>
    cases block with
    | nil => exact Nat.zero_le _
    | cons x xs =>
      unfold iterEncodedFuel
      simp only [List.isEmpty_cons, Bool.false_eq_true, if_false, List.length_cons]
      exact Nat.succ_le_succ (Nat.le_trans (ih _) (drop_consumed_length x xs))

/-- One step of the inbound iterator (`PropertiesIter::next` for `Encoded`): on a non-empty
remainder, the decoded head (or an error), then the iteration of what follows the consumed bytes;
on an empty remainder, the end. -/
theorem InboundProps_iter_step (x : UInt8) (xs : Bytes) :
    iterEncoded [] = [] ∧
    iterEncoded (x :: xs) =
      (decodeProp (x :: xs)).result ::
        iterEncoded ((x :: xs).drop (decodeProp (x :: xs)).consumed) := by
  refine ⟨rfl, ?_⟩
  rw [iterEncoded, iterEncodedFuel]
  simp only [List.isEmpty_cons, Bool.false_eq_true, if_false]
  exact congrArg _ (iterEncoded_eq_fuel _ _ (Nat.le_succ_of_le (drop_consumed_length x xs)))

/-- A block with a User Property `("k","v")` (pair), Response Topic `a/b` (string), Correlation
Data `01 02` (binary) and Subscription Identifier 300 (variable byte integer `AC 02`). -/
def InboundProps.sampleList : List Property :=
  [{ kind := .UserProperty, val := .p [0x6b] [0x76] },
   { kind := .ResponseTopic, val := .s [0x61, 0x2f, 0x62] },
   { kind := .CorrelationData, val := .s [1, 2] },
   { kind := .SubscriptionIdentifier, val := .n 300 }]

def InboundProps.sampleBlock : Bytes :=
  [0x26, 0, 1, 0x6b, 0, 1, 0x76, 0x08, 0, 3, 0x61, 0x2f, 0x62, 0x09, 0, 2, 1, 2, 0x0B, 0xAC, 0x02]

/-- The hypotheses of `InboundProps_iter` hold for the sample ... -/
example : (∀ p ∈ InboundProps.sampleList, p.wf = true) ∧
    encodeProps InboundProps.sampleList = .ok InboundProps.sampleBlock := ⟨by decide, rfl⟩

/-- ... and, computed directly (not through the theorem), the iteration returns the four
properties and the accessors their values. -/
example : iterEncoded InboundProps.sampleBlock = InboundProps.sampleList.map some := by decide +kernel

example : (Properties.encoded InboundProps.sampleBlock).responseTopic = some [0x61, 0x2f, 0x62] ∧
    (Properties.encoded InboundProps.sampleBlock).correlationData = some [1, 2] ∧
    firstVal .ResponseTopic InboundProps.sampleList = some [0x61, 0x2f, 0x62] ∧
    firstVal .CorrelationData InboundProps.sampleList = some [1, 2] ∧
    firstVal .ContentType InboundProps.sampleList = none := by decide +kernel

/-- `InboundProps_decode_one` on the one kind whose declared type differs from its wire shape:
Subscription Identifier 300, followed by other bytes. -/
example : ({ kind := .SubscriptionIdentifier, val := .n 300 } : Property).wf = true ∧
    ({ kind := .SubscriptionIdentifier, val := .n 300 } : Property).encode = .ok [0x0B, 0xAC, 0x02] ∧
    decodeProp ([0x0B, 0xAC, 0x02] ++ [0xFF, 0xFF]) =
      { result := some { kind := .SubscriptionIdentifier, val := .n 300 }, consumed := 3 } :=
  ⟨by decide, rfl, rfl⟩

/-- A Subscription Identifier that is well-typed (`u32`) but not writable as a variable byte
integer is refused by the serializer (so the hypothesis `encode = .ok _` excludes it). -/
example : ({ kind := .SubscriptionIdentifier, val := .n 268435456 } : Property).wf = true ∧
    ({ kind := .SubscriptionIdentifier, val := .n 268435456 } : Property).encode = .error .custom :=
  ⟨by decide, rfl⟩

/-- Malformed blocks (not of the form `encodeProps l`): an unknown identifier `7F` gives one error
item and consumes one byte; a truncated Response Topic consumes its identifier and length field
(three bytes), after which the remaining byte `61` is read as another (unknown) identifier: two
error items; a string with invalid UTF-8 is consumed whole. Each iteration is finite. -/
example : iterEncoded [0x7F] = [none] ∧ (decodeProp [0x7F]).consumed = 1 ∧
    iterEncoded [0x08, 0, 3, 0x61] = [none, none] ∧ (decodeProp [0x08, 0, 3, 0x61]).consumed = 3 ∧
    iterEncoded [0x03, 0, 1, 0xFF, 0x01, 0x01] =
      [none, some { kind := .PayloadFormatIndicator, val := .n 1 }] := by decide +kernel

/-- Oddity (matches the Rust iterator): after an error the iteration resumes right after the bytes
the failed read had consumed, so `response_topic()` can return a value found *behind* a malformed
item — here behind the unknown identifier `7F`. -/
example : iterEncoded [0x7F, 0x08, 0, 1, 0x61] = [none, some { kind := .ResponseTopic, val := .s [0x61] }] ∧
    (Properties.encoded [0x7F, 0x08, 0, 1, 0x61]).responseTopic = some [0x61] := by decide +kernel

end Minimq
