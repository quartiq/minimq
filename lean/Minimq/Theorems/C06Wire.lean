import Minimq.Proofs.WireQuota
import Minimq.Proofs.WireTop
import Minimq.Theorems.C06
/-
C06, whole machine — the broker's Receive Maximum against what the transport has actually accepted.

`Theorems/C06.lean` proves the accounting inside the session: unless the ghost flag `rt.deficit` is set
(finding F5c), `send_quota + inflightPublishes ≤ max_send_quota`, where `inflightPublishes` counts the
retained PUBLISH entries and the release (PUBREL) entries. This file ties that to the transmission log
of `Theorems/C02Wire.lean`, i.e. to the packets the transport has accepted completely.

What "unresolved" means here. A QoS 1/2 PUBLISH goes out only from the retained queue, and the log
records each complete transmission as an entry tagged `.retained ser id` (`ser` is the ghost serial of
the retained packet, assigned once and never reused; identifiers can be reused after an
acknowledgement, so the serial, not the identifier or the bytes, names the exchange). An exchange
whose PUBLISH has been transmitted is unresolved

 * while its serial is still in the retained queue — neither its PUBACK nor its PUBREC has been
   handled (`Outbound.awaitsAck`: the log entry is a PUBLISH and its serial is still retained), or
 * while it is in the release phase — a successful PUBREC has moved it to the release queue and the
   PUBCOMP has not been handled. Every release entry stands for exactly one such exchange
   (`C03_pubrec_success`: one retained QoS 2 PUBLISH removed, one release entry appended, in the same
   step), so the release phase is counted by the length of the release queue. (A release entry
   carries the serial of its PUBLISH, `PendingRelease.pser`, by which C03Wire matches log entries; the count
   does not need that.)

Proved for every program: the bound on a live connection whose transport is not marked torn
(`C06_wire_window`), the same for exchanges whose PUBLISH went out on whatever transport
(`C06_window_all_transports`), and that a transmitted PUBLISH is resolved only by an acknowledgement carrying
its identifier or by the CONNACK of a fresh broker session. With `deficit` set the wire statement is false, as
it must be (F5c): second example below.
-/
namespace Minimq
open Gen World Outbound

/-- `awaitsAck` spelled out: the entry records a retained packet (`.retained t i`), its bytes are a
PUBLISH (type nibble 3), and serial `t` is still in the retained queue. -/
theorem C06_awaitsAck_iff (o : Outbound) (f : LogEntry) :
    o.awaitsAck f = true ↔ ∃ t i, f.tag = .retained t i ∧ isPubPkt f.bytes = true ∧ t ∈ o.retained.map (·.ser) :=
  awaitsAck_iff o f

/-- **The window on the wire.** Run any program from the initial world and let `w` be the world it
ends in. If the connection is live, no operation-local write was dropped on the current transport,
and the last CONNACK did not announce a window below the replay set (`deficit = false`, otherwise
F5c), then: the QoS 1/2 PUBLISH packets that the current transport has accepted completely and whose
PUBACK/PUBREC has not been handled, plus the exchanges in the release phase, number at most
`max_send_quota`; a CONNACK has been accepted, and `max_send_quota` is at most the local limit 8
(= min(MAX_RETAINED, MAX_PENDING_RELEASE)). Replays after a resumed reconnect are included: they are
entries of the current transport's log like any other. -/
theorem C06_wire_window (cfg : Cfg) (ds : List Directive) :
    let w := ds.foldl World.execDirective { sess := Session.new cfg }
    let o := w.sess.data.outbound
    w.nets.length ∉ w.tornNets → w.live = true → w.sess.rt.deficit = false →
    (w.curLog.filter o.awaitsAck).length + o.release.length ≤ w.sess.rt.maxSendQuota ∧
    w.sess.data.everAccepted = true ∧ w.sess.rt.maxSendQuota ≤ maxInflight ∧ maxInflight = 8 := by
  intro w o hnt hl hd
  have hinv := (Quiesce.produced cfg ds).winv
  have hhist : Hist w.sess w.log := (Quiesce.produced cfg ds).hist
  have hq : QuotaP w.sess := C06_all_programs cfg ds
  have hacc := hinv.accepted hnt hl
  have hmax : MaxQ w.sess := (Quiesce.produced cfg ds).maxQ
  exact ⟨hhist.window_log hq hd List.filter_sublist (hinv.curLog hnt hl).2.p.sorted, hacc, hmax hacc, rfl⟩

/-- **The same bound without conditions on the connection.** After any program, take any list `ts` of
distinct serials such that each is still in the retained queue and the transmission log — on whichever
transport, torn or not, current or earlier — contains a PUBLISH entry with that serial. Unless
`deficit` is set, `ts.length` plus the number of release entries is at most `max_send_quota`. -/
theorem C06_window_all_transports (cfg : Cfg) (ds : List Directive) :
    let w := ds.foldl World.execDirective { sess := Session.new cfg }
    let o := w.sess.data.outbound
    w.sess.rt.deficit = false →
    ∀ ts : List Nat, ts.Nodup →
      (∀ t ∈ ts, t ∈ o.retained.map (·.ser) ∧ ∃ f ∈ w.log, ∃ i, f.tag = .retained t i ∧ isPubPkt f.bytes = true) →
      ts.length + o.release.length ≤ w.sess.rt.maxSendQuota := by
  intro w o hd ts hn hts
  have hhist : Hist w.sess w.log := (Quiesce.produced cfg ds).hist
  refine hhist.window (C06_all_programs cfg ds) hd ts hn (fun t ht => ?_)
  obtain ⟨h1, f, hf, i, htag, hp⟩ := hts t ht
  exact ⟨h1, f, hf, LogEntry.ser?_eq_some.mpr ⟨i, htag⟩, by rw [LogEntry.isPublish_of_tag htag]; exact hp⟩

/-- **Who sets `max_send_quota`.** Every change the operations make to the session goes through one of
the primitives of `SessOps.lean` (`Prim`). Each leaves `max_send_quota` as it is, except `activate` on
an acceptable CONNACK, which sets it to `negotiatedQuota block` — min(Receive Maximum, 8) for the last
Receive Maximum property of the CONNACK, 8 if there is none (`C05_negotiated_quota`). So at any moment
after the first accepted CONNACK it is min(Receive Maximum, 8) of the CONNACK accepted last. -/
theorem C06_max_quota_set_only_by_connack {s s' : Session} (h : Prim s s') :
    s'.rt.maxSendQuota = s.rt.maxSendQuota ∨
    ∃ sp block now, s' = (s.activate sp block now).1 ∧ (s.activate sp block now).2 = .ok () ∧
      s'.rt.maxSendQuota = negotiatedQuota block ∧
      negotiatedQuota block = (match lastNum .ReceiveMaximum (iterEncoded block) with
        | some v => min v 8
        | none => 8) := by
  rcases h.kinds with ⟨_, _, _, _, _, _, _, _, _, rfl⟩ | ⟨sp, block, now, e, hok, _, he⟩ | ⟨sp, _, _, _, _, _, he⟩
  · exact .inl rfl
  · exact .inr ⟨sp, block, now, e, hok,
      by rw [he]; exact (connackSettings_quota (s.preActivate sp).rt.configuredKeepaliveMs block).2, rfl⟩
  · exact .inl (by rw [he]; cases sp <;> rfl)

/-- **After the first accepted CONNACK the maximum is within the local limit**, for every program (and
on a live connection whose transport is not marked torn a CONNACK has been accepted: `C06_wire_window`). -/
theorem C06_max_quota_within_local_limit (cfg : Cfg) (ds : List Directive) :
    let s := (ds.foldl World.execDirective { sess := Session.new cfg }).sess
    s.data.everAccepted = true → s.rt.maxSendQuota ≤ 8 := by
  intro s h
  exact ((Quiesce.produced cfg ds).maxQ : MaxQ s) h

/-- **A transmitted packet leaves the retained queue only by its acknowledgement or by a fresh
session.** After any program the session has been reached from the initial one by a chain of primitive
steps (`Reach`; the window invariant `QuotaP` holds after each). For every entry `f` of the
transmission log that records a retained packet with serial `t` — on whichever transport — either `t`
is still in the retained queue, or the chain contains one particular step `a → b` in which it left:
`t` is retained in `a`, the arena of `a` holds for it the bytes that `f` records (up to the DUP bit),
and the step handled the acknowledgement that packet was waiting for — it is the first retained entry
with the acknowledged identifier whose header is of the acknowledged kind — or was the CONNACK of a
fresh broker session (`Removal`). -/
theorem C06_sent_publish_resolved_only_by_ack (cfg : Cfg) (ds : List Directive) :
    let w := ds.foldl World.execDirective { sess := Session.new cfg }
    ∀ f ∈ w.log, ∀ t i, f.tag = .retained t i →
      t ∈ w.sess.data.outbound.retained.map (·.ser) ∨
      ∃ a b, Reach QuotaP (Session.new cfg) a ∧ SessStep a b ∧ Reach QuotaP b w.sess ∧
        Removal a b t ∧ ∃ e ∈ a.data.outbound.retained, e.ser = t ∧
          unDup f.bytes = unDup (slice a.data.outbound.buf e.offset e.len) := by
  intro w
  have h : Traced QuotaP (Session.new cfg) w.sess w.log :=
    hrun (hclosed_Traced closed_QuotaP (Session.new cfg)) ds { sess := Session.new cfg } (Traced_init cfg (C06_init cfg))
  exact h.each

/-- **For a PUBLISH that step is its PUBACK, its PUBREC, or a fresh session.** In the situation of
`C06_sent_publish_resolved_only_by_ack`, if the entry is a PUBLISH, the resolving step `a → b` handled an inbound PUBACK or
PUBREC (with any reason code) whose identifier is the identifier the packet had in `a`, or it was the
CONNACK of a fresh broker session. (A PUBACK, or a PUBREC with a failure code, ends the exchange and
gives the quota back; a successful PUBREC appends the release entry in the same step —
`C02_puback_*`, `C03_pubrec`, `C03_pubrec_success`.) -/
theorem C06_resolution_of_a_publish {s0 a b : Session} {f : LogEntry} {t : Nat}
    (hreach : Reach QuotaP s0 a) (h0 : QuotaP s0) (hrem : Removal a b t)
    (hbytes : ∃ e ∈ a.data.outbound.retained, e.ser = t ∧ unDup f.bytes = unDup (slice a.data.outbound.buf e.offset e.len))
    (hp : isPubPkt f.bytes = true) :
    (∃ id rs, (b = (a.handle (.pubAck id rs)).1 ∨ b = (a.handle (.pubRec id rs)).1) ∧
        ∃ e ∈ a.data.outbound.retained, e.ser = t ∧ e.id = id) ∨
    (∃ block now, b = (a.activate false block now).1) :=
  ResolvedAt.publish ⟨hrem, hbytes⟩ (hreach.inv h0).1 hp

def C06Wire_cfg : Cfg :=
  { rx := 64, tx := 128, keepaliveS := 0, expiry := 300, downgrade := false, clientId := [0x63], auth := none, will := none }

def C06Wire_pub (t p : UInt8) : Directive :=
  .publish { qos := 1, retain := false, topic := [t], payload := .bytes [p], props := .slice [] }

/-- CONNACK with Receive Maximum 2; two QoS 1 publishes written and flushed; a third one is refused
(`NotReady`); the PUBACK for the first arrives and is handled by `poll`; the third is accepted now. -/
def C06Wire_prog : List Directive :=
  [.connect, .rx [0x20, 0x06, 0x00, 0x00, 0x03, 0x21, 0x00, 0x02], .go,
   C06Wire_pub 0x74 0x70, .go, C06Wire_pub 0x75 0x71, .go, C06Wire_pub 0x76 0x72,
   .rx [0x40, 0x02, 0x00, 0x01], .poll, .go, C06Wire_pub 0x76 0x72, .go]

/-- The hypotheses hold; three PUBLISH packets (serials 0, 1, 2) are on the wire of this connection,
two of them still await their acknowledgement, and the window is 2. -/
example :
    let w := C06Wire_prog.foldl World.execDirective { sess := Session.new C06Wire_cfg }
    w.nets.length ∉ w.tornNets ∧ w.live = true ∧ w.sess.rt.deficit = false ∧
    sers w.curLog = [0, 1, 2] ∧ (w.curLog.filter w.sess.data.outbound.awaitsAck).length = 2 ∧
    w.sess.data.outbound.retained.map (·.ser) = [1, 2] ∧ w.sess.data.outbound.release.length = 0 ∧
    w.sess.rt.maxSendQuota = 2 ∧ w.sess.rt.sendQuota = 0 := by
  decide +kernel

/-- **F5c on the wire.** Three QoS 1 publishes unacknowledged; the connection is dropped; the session is
resumed by a CONNACK that announces Receive Maximum 2; `poll` replays all three. -/
def C06Wire_progF5c : List Directive :=
  [.connect, .rx [0x20, 0x03, 0x00, 0x00, 0x00], .go,
   C06Wire_pub 0x74 0x70, .go, C06Wire_pub 0x75 0x71, .go, C06Wire_pub 0x76 0x72, .go,
   .drop, .connect, .rx [0x20, 0x06, 0x01, 0x00, 0x03, 0x21, 0x00, 0x02], .go, .poll, .go]

/-- The connection is live and untorn, the ghost flag `deficit` is set, and the bound of
`C06_wire_window` fails: three unacknowledged PUBLISH packets are on the second wire, the window is 2. -/
example :
    let w := C06Wire_progF5c.foldl World.execDirective { sess := Session.new C06Wire_cfg }
    w.nets.length ∉ w.tornNets ∧ w.live = true ∧ w.nets.length = 2 ∧ w.sess.rt.deficit = true ∧
    (w.curLog.filter w.sess.data.outbound.awaitsAck).length = 3 ∧ w.sess.rt.maxSendQuota = 2 := by
  decide +kernel

end Minimq
